/-
  Tie: generated `bds61.py` (ADS-B TC 28, aircraft status) = hand model (`Model/Adsb.lean`)
  on every 28-digit hex frame.  The decoders read the whole frame (`hex2bin(msg)`, `mb = msgbin[32:]`).

  The first section is shared with `Tie/Bds62.lean`: the type-code test of a decoder that reads the whole frame, and the
  Python idioms by which the ME field is read (`bin2int(mb[a:b]) == k`, `int(mb[k]) == 0`, ...) on a bit string.
-/
import PyModeS.Tie.Common
import PyModeS.Generated.Src.bds61

namespace PyModeS.Tie
open PyModeS PyModeS.Py PyModeS.CRC

/-! ### reading the ME field of a 112-bit frame -/

/-- `typecode(msg) != k` -/
theorem pyNe_ofOptNat (o : Option Nat) (k : Nat) :
    pyNe (Val.ofOptNat o) (.num (k : Rat)) = .val (.bool (decide (o ≠ some k))) := by
  rcases o with _ | n
  · rfl
  · show Res.val (Val.bool (!(Val.ofNat n).beq (.num (k : Rat)))) = _
    rw [ofNat_beq]
    simp only [ne_eq, Option.some.injEq, decide_not]

theorem frame_length (m : Msg) (hl : m.length = 28) : (hex2binM m).length = 112 := frame_bits m hl

/-- `int(mb[k])` for a bit `b = mb[k]` -/
theorem pyInt1_bit (b : Bool) : pyInt1 (.str [b.toDigit]) = .val (Val.ofNat (b2n b)) := by
  cases b <;> rfl

theorem b2n_eq_zero (b : Bool) : b2n b = 0 ↔ b = false := by
  cases b <;> decide

theorem b2n_eq_one (b : Bool) : b2n b = 1 ↔ b = true := by
  cases b <;> decide

theorem pyTruth_b2n (b : Bool) : pyTruth (Val.ofNat (b2n b)) = b := by
  cases b <;> rfl

set_option hygiene false in
/-- common opening of an ADS-B decoder that reads the whole frame: the type code test becomes a test on
    `tcB bits`, and both sides read the 112-bit frame `bits` -/
macro "adsb61_open" m:ident h:ident hl:ident k:term : tactic => `(tactic|
  (have hne : $m ≠ [] := by intro e; rw [e] at $hl:ident; simp at $hl:ident
   have hk := pyNe_ofOptNat (tcB (hex2binM $m)) $k
   simp only [Nat.cast_ofNat] at hk
   simp only [typecode_hex $m $h (by omega), Res.bind_val, hk, pyTruth_bool, hex2bin_str $m $h hne,
     pySliceFrom_ofBits]
   have hb := frame_length $m $hl
   generalize hex2binM $m = bits at hb ⊢))


/-- the type-code test on both sides -/
theorem tc_guard {α} {tc : Option Nat} {k : Nat} {junk x : Res Val} {y : Res α} {enc : α → Res Val}
    (hxy : x = (y >>= enc)) :
    (if decide (tc ≠ some k) = true then (Res.rte : Res PUnit) >>= fun _ => junk else x) =
      ((if tc ≠ some k then Res.rte else y) >>= enc) := by
  by_cases htc : tc = some k
  · rw [if_neg (by simp only [htc, ne_eq, not_true_eq_false, decide_false, Bool.false_eq_true, not_false_eq_true]),
      if_neg (not_not_intro htc), hxy]
  · rw [if_pos (decide_eq_true htc), if_pos htc]
    rfl

theorem emergency_state_tie (m : Msg) (h : IsHex m) (hl : m.length = 28) :
    Gen.bds61.emergency_state (.str m) = (PyModeS.emergencyState (hex2binM m) >>= fun n => .val (Val.ofNat n)) := by
  unfold Gen.bds61.emergency_state PyModeS.emergencyState
  adsb61_open m h hl 28
  apply tc_guard
  have hd : (List.drop 32 bits).length = 80 := by rw [List.length_drop, hb]
  generalize List.drop 32 bits = d at hd ⊢
  simp only [pySliceNN_ofBits, Res.bind_val, bin2int_ofBits, bin2intR_slice_of_lt, hd, Nat.reduceLT, pyEq_ofNat_lit,
    pyTruth_bool, decide_eq_true_eq]
  split <;> rfl


theorem is_emergency_tie (m : Msg) (h : IsHex m) (hl : m.length = 28) :
    Gen.bds61.is_emergency (.str m) = (PyModeS.isEmergency (hex2binM m) >>= fun b => .val (.bool b)) := by
  unfold Gen.bds61.is_emergency PyModeS.isEmergency
  adsb61_open m h hl 28
  apply tc_guard
  have hd : (List.drop 32 bits).length = 80 := by rw [List.length_drop, hb]
  generalize List.drop 32 bits = d at hd ⊢
  simp only [pySliceNN_ofBits, Res.bind_val, bin2int_ofBits, bin2intR_slice_of_lt, hd, Nat.reduceLT, pyEq_ofNat_lit,
    pyEq_ofNat_one, pyNe_ofNat_zero, pyTruth_bool, decide_eq_true_eq, Res.pure_eq]
  generalize bin2int (slice 5 8 d) = st
  generalize bin2int (slice 8 11 d) = e
  by_cases h2 : st = 2
  · simp only [h2, if_true, Res.bind_rte]
  by_cases h1 : st = 1
  · by_cases h0 : e = 0 <;> simp [h1, h0]
  · simp [h1, h2]

/-! ### `common.squawk` -/

/-- the text Python builds from the four octal digits: `str(byte1) + str(byte2) + str(byte3) + str(byte4)` -/
def squawkText (l : List Nat) : List Char := l.flatMap fun n => (Nat.repr n).toList

theorem squawk_bits_tie (b : Bits) :
    Gen.py_common.squawk (Val.ofBits b) = (PyModeS.squawk b >>= fun l => .val (.str (squawkText l))) :=
  squawk_tie b

/-- `emergency_squawk` returns the squawk as text; the hand model returns the four octal digits, rendered here as
    Python renders them (`str` of each digit, concatenated: `squawkText`) -/
theorem emergency_squawk_tie (m : Msg) (h : IsHex m) (hl : m.length = 28) :
    Gen.bds61.emergency_squawk (.str m) =
      (PyModeS.emergencySquawk (hex2binM m) >>= fun l => .val (.str (squawkText l))) := by
  unfold Gen.bds61.emergency_squawk PyModeS.emergencySquawk
  adsb61_open m h hl 28
  simp only [pySliceNN_ofBits, Res.bind_val, squawk_bits_tie]
  exact tc_guard rfl

end PyModeS.Tie
