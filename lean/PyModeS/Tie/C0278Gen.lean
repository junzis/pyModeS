/-
  C02 / C07 / C08 transported to the source-generated definitions of py_common.py: the statements below are about
  `Gen.py_common.*`, i.e. about the Lean text py2lean.py produced from the current Python source; each is a tie theorem
  (`Tie/Common.lean`) composed with a theorem of `Properties/C02.lean`, `C07.lean`, `C08.lean`.
-/
import PyModeS.Properties.C02
import PyModeS.Properties.C07
import PyModeS.Properties.C08
import PyModeS.Tie.Common
import PyModeS.Tie.Icao

namespace PyModeS.CGen
open PyModeS PyModeS.Py PyModeS.CRC PyModeS.Spec

/-- C07: the generated `altitude` decodes every 13-bit string to the Annex 10 altitude (all 8192 codes) -/
theorem altitude_annex10_tie (b : Bits) (h : b.length = 13) :
    Gen.py_common.altitude (Val.ofBits b) = .val (Val.ofOptInt (alt13 (PyModeS.bin2int b))) := by
  rw [Tie.altitude_tie, C07.altitude13_spec b h]; rfl

/-- C07: any other length is rejected with RuntimeError -/
theorem altitude_bad_length_tie (b : Bits) (h : b.length ≠ 13) :
    Gen.py_common.altitude (Val.ofBits b) = .rte := by
  rw [Tie.altitude_tie, C07.altitude13_bad_length b h]; rfl

/-- C08: any string that is not 13 bits long is rejected by the generated `squawk` -/
theorem squawk_bad_length_tie (b : Bits) (h : b.length ≠ 13) :
    Gen.py_common.squawk (Val.ofBits b) = .rte := by
  rw [Tie.squawk_tie, C08.squawk_bad_length b h]; rfl

/-- C02: the generated `icao` returns the upper-cased AA field for DF11/17/18 -/
theorem icao_AA_tie (m : Msg) (h : IsHex m) (hl : 6 ≤ m.length)
    (hdf : PyModeS.df m = 11 ∨ PyModeS.df m = 17 ∨ PyModeS.df m = 18) :
    Gen.py_common.icao (.str m) = .val (.str ((slice 2 8 m).map Char.toUpper)) := by
  rw [Tie.icao_tie m h hl, C02.icao_AA m hdf]; rfl

/-- C02: `None` for every format other than 0/4/5/11/16/17/18/20/21 -/
theorem icao_none_tie (m : Msg) (h : IsHex m) (hl : 6 ≤ m.length)
    (hdf : PyModeS.df m ≠ 11 ∧ PyModeS.df m ≠ 17 ∧ PyModeS.df m ≠ 18 ∧ PyModeS.df m ≠ 0 ∧ PyModeS.df m ≠ 4 ∧
      PyModeS.df m ≠ 5 ∧ PyModeS.df m ≠ 16 ∧ PyModeS.df m ≠ 20 ∧ PyModeS.df m ≠ 21) :
    Gen.py_common.icao (.str m) = .val .none := by
  rw [Tie.icao_tie m h hl, C02.icao_none_otherwise m hdf]; rfl

/-- C02, the headline: a frame whose last 24 bits are the parity of its data XOR the address `A` (any payload `d` of whole
    bytes, DF 0/4/5/16/20/21, any 24-bit `A`), passed to the *generated* `icao`, yields the six upper-case hex digits of `A` -/
theorem icao_AP_encoder_tie (d : Bits) (A : Nat) (hA : A < 2 ^ 24) (h8 : d.length % 8 = 0) (hd : 8 ≤ d.length)
    (hdf : dfB d = 0 ∨ dfB d = 4 ∨ dfB d = 5 ∨ dfB d = 16 ∨ dfB d = 20 ∨ dfB d = 21) :
    Gen.py_common.icao (.str (CRC.encodeAP d A)) = .val (.str (hex6 A)) := by
  have hhex : IsHex (CRC.encodeAP d A) := CRC.hexOfBits_isHex _
  have hlen : 6 ≤ (CRC.encodeAP d A).length := by rw [CRC.encodeAP_length]; omega
  rw [Tie.icao_tie _ hhex hlen, C02.icao_AP_encoder d A hA h8 hd hdf]; rfl

end PyModeS.CGen
