/-
  TOTALITY of the generated `Gen.decode.Decode_process_raw` (companion of `Tie/DecodeDirect.lean`, which proves the
  partial-correctness half): under a well-formedness invariant of the aircraft table the loops return a value and
  re-establish the invariant.

  This file: the total-correctness rules (`Tot`), the table invariant `WF` and the family `WFE E` it belongs to (every
  entry has numeric `t`, `live` and satisfies `E`, any predicate stable under item assignments to unrelated keys), the clean-up loop
  (`evict_loop_total_tie`) and the Comm-B loop on any 28-digit hex frames (`commbBody_totalE`, `commbLoop_totalE`,
  `commbLoop_total_tie`).  The loop bodies are walked once; a join point `have jp := v; b` of the generated code is
  taken out of the goal, its invariant `∀ args, … → Tot (jp args) Q` is proved from `v`, and `b` only uses that.
-/
import PyModeS.Tie.DecodeDirect
import PyModeS.Tie.C14Gen
open PyModeS PyModeS.Py PyModeS.CRC
namespace PyModeS.Tie.DecodeDirect

/-! ### total correctness -/

/-- `r` returns a value satisfying `Q` (the predicate `CrcTie.Post` of `Tie/Crc.lean`) -/
def Tot {α} (r : Res α) (Q : α → Prop) : Prop := ∃ a, r = .val a ∧ Q a

theorem Tot.val {α} {Q : α → Prop} {a : α} (h : Q a) : Tot (.val a) Q := ⟨a, rfl, h⟩
theorem Tot.pure {α} {Q : α → Prop} {a : α} (h : Q a) : Tot (pure a : Res α) Q := ⟨a, rfl, h⟩

theorem Tot.bind {α β} {x : Res α} {k : α → Res β} {R : α → Prop} {Q : β → Prop}
    (hx : Tot x R) (hk : ∀ a, R a → Tot (k a) Q) : Tot (x >>= k) Q :=
  CrcTie.Post.bind hx hk

theorem Tot.of_val {α β} {x : Res α} {k : α → Res β} {Q : β → Prop}
    (hx : ∃ a, x = .val a) (hk : ∀ a, Tot (k a) Q) : Tot (x >>= k) Q :=
  let ⟨a, ha⟩ := hx
  Tot.bind (R := fun _ => True) ⟨a, ha, trivial⟩ fun a _ => hk a

theorem Tot.ite {α} {Q : α → Prop} {c : Prop} [Decidable c] {x y : Res α}
    (hx : c → Tot x Q) (hy : ¬ c → Tot y Q) : Tot (if c then x else y) Q := by
  split
  · exact hx ‹_›
  · exact hy ‹_›

theorem Tot.mono {α} {Q Q' : α → Prop} {x : Res α} (h : Tot x Q) (hq : ∀ a, Q a → Q' a) : Tot x Q' := by
  obtain ⟨a, rfl, ha⟩ := h
  exact ⟨a, rfl, hq a ha⟩

theorem tot_val_eq {α β} {x : Res α} {a : α} {K : α → Res β} {Q : β → Prop} (h : x = .val a) (hK : Tot (K a) Q) :
    Tot (x >>= K) Q := by
  subst h; exact hK

/-- loop rule (total correctness) -/
theorem Tot.forIn {σ} (I : σ → Prop) (f : Val → σ → Res (ForInStep σ)) (items : List Val)
    (hstep : ∀ it ∈ items, ∀ s, I s → Tot (f it s) (fun r => ∃ s', r = ForInStep.yield s' ∧ I s')) :
    ∀ s0, I s0 → Tot (forIn items s0 f) I := by
  induction items with
  | nil => intro s0 h0; exact ⟨s0, rfl, h0⟩
  | cons it items ih =>
    intro s0 h0
    rw [List.forIn_cons]
    refine Tot.bind (hstep it (by simp) s0 h0) ?_
    rintro r ⟨s', rfl, hs'⟩
    exact ih (fun it' hit' => hstep it' (List.mem_cons_of_mem _ hit')) s' hs'

/-! ### the well-formedness invariant of the table -/

abbrev tKey : Val := Val.str ['t']

/-- an entry the loops can work with: a dictionary whose `t` and `live` are numbers -/
def EntOK (e : Val) : Prop :=
  ∃ d, e = .dict d ∧ (∃ q, dictFind d tKey = some (.num q)) ∧ (∃ q, dictFind d liveKey = some (.num q))

/-- **the invariant**: keys are strings / `None` without repetition, every entry is a dictionary with numeric `t`, `live` -/
def WF (acs : List (Val × Val)) : Prop := KeysOK acs ∧ ∀ kv ∈ acs, EntOK kv.2

theorem wf_nil : WF [] := by simp [WF, KeysOK, keysOf]

theorem liveOf_of_entOK {e : Val} (h : EntOK e) : ∃ q, liveOf e = some q := by
  obtain ⟨d, rfl, _, q, hq⟩ := h
  exact ⟨q, by simp only [liveOf, hq]; rfl⟩

/-- the numeric fields the loops read back -/
def NumD (d : List (Val × Val)) : Prop :=
  (∃ q, dictFind d tKey = some (.num q)) ∧ (∃ q, dictFind d liveKey = some (.num q))

/-- an entry with numeric `t`, `live` that also satisfies `E` (whatever else a block of the ADS-B loop reads back) -/
def Ent (E : List (Val × Val) → Prop) (d : List (Val × Val)) : Prop := NumD d ∧ E d

/-- `WF` with `E` required of every entry as well: `WF` is `WFE (fun _ => True)` (`wf_iff`), `WF2` of
    `Tie/DecodeTotal2.lean` is `WFE Ext` by definition -/
def WFE (E : List (Val × Val) → Prop) (acs : List (Val × Val)) : Prop :=
  KeysOK acs ∧ ∀ kv ∈ acs, ∃ d, kv.2 = .dict d ∧ Ent E d

theorem wf_iff (acs : List (Val × Val)) : WF acs ↔ WFE (fun _ => True) acs :=
  ⟨fun h => ⟨h.1, fun kv hkv => let ⟨d, hd, hn⟩ := h.2 kv hkv; ⟨d, hd, hn, trivial⟩⟩,
    fun h => ⟨h.1, fun kv hkv => let ⟨d, hd, hn, _⟩ := h.2 kv hkv; ⟨d, hd, hn⟩⟩⟩

/-- the keys `NumD` and `Ext` speak of, as character lists so that "some other key" is decided by evaluation -/
def numKeys : List (List Char) := [['t'], ['l', 'i', 'v', 'e']]
def extKeys : List (List Char) := [['v', 'e', 'r'], ['n', 'i', 'c', '_', 's'], ['n', 'i', 'c', '_', 'a'], ['n', 'i', 'c', '_', 'b', 'c']]

/-- `E` is kept by item assignments under string keys outside `extKeys` -/
def Stable (E : List (Val × Val) → Prop) : Prop := ∀ s v d, s ∉ extKeys → E d → E (setPair (.str s) v d)

theorem stable_true : Stable (fun _ => True) := fun _ _ _ _ h => h

theorem numD_setPair (s : List Char) (v : Val) (hs : s ∉ numKeys) (d : List (Val × Val)) (h : NumD d) :
    NumD (setPair (.str s) v d) := by
  unfold NumD
  rw [Beast.dictFind_setPair_ne _ _ (ne_of_mem_of_not_mem (by decide) hs).symm,
    Beast.dictFind_setPair_ne _ _ (ne_of_mem_of_not_mem (by decide) hs).symm]
  exact h

theorem numD_set_t {d : List (Val × Val)} (z : Rat) (h : NumD d) : NumD (setPair tKey (.num z) d) := by
  refine ⟨⟨z, Beast.dictFind_setPair_same _ _ _⟩, ?_⟩
  rw [Beast.dictFind_setPair_ne _ _ (by decide)]
  exact h.2

theorem numD_set_live {d : List (Val × Val)} (z : Rat) (h : NumD d) : NumD (setPair liveKey (.num z) d) := by
  refine ⟨?_, ⟨z, Beast.dictFind_setPair_same _ _ _⟩⟩
  rw [Beast.dictFind_setPair_ne _ _ (by decide)]
  exact h.1

theorem ent_set {E} (hE : Stable E) (s : List Char) (v : Val) (hs : s ∉ numKeys ++ extKeys) (d : List (Val × Val))
    (h : Ent E d) : Ent E (setPair (.str s) v d) :=
  ⟨numD_setPair s v (fun h' => hs (List.mem_append_left _ h')) d h.1,
    hE s v d (fun h' => hs (List.mem_append_right _ h')) h.2⟩

theorem ent_set_t {E} (hE : Stable E) (z : Rat) (d : List (Val × Val)) (h : Ent E d) : Ent E (setPair tKey (.num z) d) :=
  ⟨numD_set_t z h.1, hE _ _ d (by decide) h.2⟩

theorem ent_set_live {E} (hE : Stable E) (z : Rat) (d : List (Val × Val)) (h : Ent E d) :
    Ent E (setPair liveKey (.num z) d) :=
  ⟨numD_set_live z h.1, hE _ _ d (by decide) h.2⟩

theorem find_of_hasKey {l : List (Val × Val)} {k : Val} (h : hasKey l k = true) : ∃ e, dictFind l k = some e := by
  rw [← dictFind_isSome] at h
  exact Option.isSome_iff_exists.1 h

theorem mem_setPair {k v : Val} : ∀ {l : List (Val × Val)} {kv : Val × Val}, kv ∈ setPair k v l → kv ∈ l ∨ kv.2 = v := by
  intro l
  induction l with
  | nil => intro kv h; exact Or.inr (by rw [setPair_nil, List.mem_singleton] at h; rw [h])
  | cons kv0 l ih =>
    intro kv h
    rw [Beast.setPair_cons] at h
    split at h
    · rcases List.mem_cons.1 h with rfl | h
      · exact Or.inr rfl
      · exact Or.inl (List.mem_cons_of_mem _ h)
    · rcases List.mem_cons.1 h with rfl | h
      · exact Or.inl List.mem_cons_self
      · exact (ih h).imp_left (List.mem_cons_of_mem _)

theorem mem_of_find {l : List (Val × Val)} {k e : Val} (hf : dictFind l k = some e) : ∃ kv ∈ l, kv.2 = e := by
  unfold dictFind at hf
  cases hfind : l.find? (fun kv => Val.beq k kv.1) with
  | none => rw [hfind] at hf; cases hf
  | some kv => rw [hfind] at hf; cases hf; exact ⟨kv, List.mem_of_find?_eq_some hfind, rfl⟩

theorem wfE_setPair {E} {l : List (Val × Val)} {ic : Val} {d : List (Val × Val)} (hwf : WFE E l) (hic : IsKey ic)
    (he : Ent E d) : WFE E (setPair ic (.dict d) l) := by
  refine ⟨?_, fun kv hkv => ?_⟩
  · rw [keysOK_iff, keysOf_setPair]
    have := keysOKl_addKey hic ((keysOK_iff l).1 hwf.1)
    unfold addKey at this
    rw [← hasKey_eq_any] at this
    exact this
  · rcases mem_setPair hkv with h | h
    · exact hwf.2 kv h
    · exact ⟨d, h, he⟩

/-! ### the clean-up loop is total under `WF` and keeps it -/

theorem wf_evict {acs : List (Val × Val)} (h : WF acs) (t timeout : Rat) : WF (evict t timeout acs) :=
  ⟨keysOK_evict h.1 t timeout, fun kv hkv => h.2 kv (List.mem_of_mem_filter hkv)⟩

/-- the generated clean-up loop on a receiver with `t`, `cache_timeout` numeric and a `WF` table returns a value: the
    receiver with the table `evict t timeout acs`, which is `WF` again -/
theorem evict_loop_total_tie (a acs : List (Val × Val)) (t timeout : Rat) (ic : Val)
    (ht : dictFind a (attrKey "t") = some (.num t))
    (hto : dictFind a (attrKey "cache_timeout") = some (.num timeout)) (hwf : WF acs) :
    (∃ ic', forIn (keysOf acs) (mk a acs, ic) evictBody = Res.val (mk a (evict t timeout acs), ic')) ∧
      WF (evict t timeout acs) :=
  ⟨evict_loop_spec a acs t timeout ic ht hto hwf.1 (fun kv hkv => liveOf_of_entOK (hwf.2 kv hkv)), wf_evict hwf t timeout⟩

/-! ### the entry of the current address -/

/-- the receiver is `a` with the table `l0` in which the entry of `ic` has been replaced by a dictionary `d` with `P d` -/
def St (a l0 : List (Val × Val)) (ic : Val) (P : List (Val × Val) → Prop) (self : Val) : Prop :=
  ∃ d, self = mk a (setPair ic (.dict d) l0) ∧ P d

def IsTup (v : Val) : Prop := ∃ l, v = .tuple l

/-- a receiver whose `WFE E` table lists `ic` is of that form -/
theorem st_of_hasKey {E} (a : List (Val × Val)) {l0 : List (Val × Val)} {ic : Val} (hwf : WFE E l0)
    (hk : hasKey l0 ic = true) : St a l0 ic (Ent E) (mk a l0) := by
  obtain ⟨e, hf⟩ := find_of_hasKey hk
  obtain ⟨kv, hmem, rfl⟩ := mem_of_find hf
  obtain ⟨d, hd, hP⟩ := hwf.2 _ hmem
  exact ⟨d, by rw [← hd, Beast.setPair_of_find hf], hP⟩

/-- `self.acs[ic][key] = v` succeeds on such a receiver -/
theorem tot_setfield {β} {a l0 : List (Val × Val)} {ic self : Val} {P P' : List (Val × Val) → Prop}
    {key v : Val} {K : Val → Res β} {Q : β → Prop} (hic : IsKey ic) (hS : St a l0 ic P self)
    (htr : ∀ d, P d → P' (setPair key v d)) (hK : ∀ self', St a l0 ic P' self' → Tot (K self') Q) :
    Tot (pyGetAttr self "acs" >>= fun x => Py.pyIdx x ic >>= fun y => pySetItem y key v >>= fun s1 =>
      pyGetAttr self "acs" >>= fun x' => pySetItem x' ic s1 >>= fun s2 => pySetAttr self "acs" s2 >>= K) Q := by
  obtain ⟨d, rfl, hP⟩ := hS
  rw [get_acs, bind_val']
  simp only [Py.pyIdx, Beast.dictFind_setPair_self (beq_key_self hic), bind_val', pySetItem,
    Beast.setPair_setPair_self (beq_key_self hic), set_acs]
  exact hK _ ⟨_, rfl, htr d hP⟩

/-- `self.acs[ic]` (read) -/
theorem tot_idx_acs {β} {a l0 : List (Val × Val)} {ic self : Val} {P : List (Val × Val) → Prop}
    {K : Val → Res β} {Q : β → Prop} (hic : IsKey ic) (hS : St a l0 ic P self)
    (hK : ∀ d, P d → Tot (K (.dict d)) Q) :
    Tot (pyGetAttr self "acs" >>= fun x => Py.pyIdx x ic >>= K) Q := by
  obtain ⟨d, rfl, hP⟩ := hS
  rw [get_acs, bind_val']
  simp only [Py.pyIdx, Beast.dictFind_setPair_self (beq_key_self hic), bind_val']
  exact hK d hP

/-- `d[k]` for a key that is there -/
theorem tot_idx {β} {d : List (Val × Val)} {k x : Val} {K : Val → Res β} {Q : β → Prop} (h : dictFind d k = some x)
    (hK : Tot (K x) Q) : Tot (Py.pyIdx (.dict d) k >>= K) Q := by
  simp only [Py.pyIdx, h, bind_val']
  exact hK

theorem tot_append {β} {ob v : Val} {K : Val → Res β} {Q : β → Prop} (h : IsTup ob)
    (hK : ∀ ob', IsTup ob' → Tot (K ob') Q) : Tot (pyAppend ob v >>= K) Q := by
  obtain ⟨l, rfl⟩ := h
  exact hK _ ⟨_, rfl⟩

/-- `self.acs[ic][s] = v` for a key the invariant does not speak of -/
theorem tot_set {β} {E} {a l0 : List (Val × Val)} {ic self v : Val} {s : List Char} {K : Val → Res β} {Q : β → Prop}
    (hE : Stable E) (hic : IsKey ic) (hS : St a l0 ic (Ent E) self) (hs : s ∉ numKeys ++ extKeys)
    (hK : ∀ self', St a l0 ic (Ent E) self' → Tot (K self') Q) :
    Tot (pyGetAttr self "acs" >>= fun x => Py.pyIdx x ic >>= fun y => pySetItem y (.str s) v >>= fun s1 =>
      pyGetAttr self "acs" >>= fun x' => pySetItem x' ic s1 >>= fun s2 => pySetAttr self "acs" s2 >>= K) Q :=
  tot_setfield hic hS (ent_set hE s v hs) hK

/-- `self.acs[ic][s] = t[k]` for a component of a tuple `t` -/
theorem tot_set_nth {β} {E} {a l0 : List (Val × Val)} {ic self x : Val} {l : List Val} {k : Nat} {s : List Char}
    {K : Val → Res β} {Q : β → Prop} (hx : l[k]? = some x) (hE : Stable E) (hic : IsKey ic)
    (hS : St a l0 ic (Ent E) self) (hs : s ∉ numKeys ++ extKeys)
    (hK : ∀ self', St a l0 ic (Ent E) self' → Tot (K self') Q) :
    Tot (pyIdxN (.tuple l) k >>= fun v => pyGetAttr self "acs" >>= fun x => Py.pyIdx x ic >>= fun y =>
      pySetItem y (.str s) v >>= fun s1 => pyGetAttr self "acs" >>= fun x' => pySetItem x' ic s1 >>= fun s2 =>
        pySetAttr self "acs" s2 >>= K) Q :=
  tot_val_eq (a := x) (by simp only [pyIdxN, hx]) (tot_set hE hic hS hs hK)

/-- `self.acs[ic][s1], self.acs[ic][s2], self.acs[ic][s3] = x` for a call `x` that returns a 3-tuple -/
theorem tot_set3 {β} {E} {a l0 : List (Val × Val)} {ic self : Val} {x : Res Val} {s1 s2 s3 : List Char}
    {K : Val → Res β} {Q : β → Prop} (hx : ∃ u v w, x = .val (.tuple [u, v, w])) (hE : Stable E) (hic : IsKey ic)
    (hS : St a l0 ic (Ent E) self) (h1 : s1 ∉ numKeys ++ extKeys) (h2 : s2 ∉ numKeys ++ extKeys)
    (h3 : s3 ∉ numKeys ++ extKeys) (hK : ∀ self', St a l0 ic (Ent E) self' → Tot (K self') Q) :
    Tot (x >>= fun t => pyUnpackCheck t 3 >>= fun _ =>
      pyIdxN t 0 >>= fun v => pyGetAttr self "acs" >>= fun x => Py.pyIdx x ic >>= fun y =>
        pySetItem y (.str s1) v >>= fun e => pyGetAttr self "acs" >>= fun x' => pySetItem x' ic e >>= fun e' =>
          pySetAttr self "acs" e' >>= fun self =>
      pyIdxN t 1 >>= fun v => pyGetAttr self "acs" >>= fun x => Py.pyIdx x ic >>= fun y =>
        pySetItem y (.str s2) v >>= fun e => pyGetAttr self "acs" >>= fun x' => pySetItem x' ic e >>= fun e' =>
          pySetAttr self "acs" e' >>= fun self =>
      pyIdxN t 2 >>= fun v => pyGetAttr self "acs" >>= fun x => Py.pyIdx x ic >>= fun y =>
        pySetItem y (.str s3) v >>= fun e => pyGetAttr self "acs" >>= fun x' => pySetItem x' ic e >>= fun e' =>
          pySetAttr self "acs" e' >>= K) Q := by
  obtain ⟨u, v, w, rfl⟩ := hx
  refine tot_val_eq rfl (tot_val_eq (a := ()) rfl ?_)
  refine tot_set_nth (x := u) rfl hE hic hS h1 (fun self hS => ?_)
  refine tot_set_nth (x := v) rfl hE hic hS h2 (fun self hS => ?_)
  exact tot_set_nth (x := w) rfl hE hic hS h3 hK

/-- a guarded store `if x: self.acs[ic][key] = x; out.append(tag)` before a join point -/
theorem tot_store_if {β} {a l0 : List (Val × Val)} {ic self ob x key tag : Val} {P : List (Val × Val) → Prop}
    {jp : Unit → Val → Val → Res β} {Q : β → Prop} (hic : IsKey ic) (hS : St a l0 ic P self) (hob : IsTup ob)
    (hset : ∀ d, P d → P (setPair key x d))
    (hjp : ∀ self ob, St a l0 ic P self → IsTup ob → Tot (jp () self ob) Q) :
    Tot (if pyTruth x = true then
        pyGetAttr self "acs" >>= fun x1 => Py.pyIdx x1 ic >>= fun y => pySetItem y key x >>= fun s1 =>
          pyGetAttr self "acs" >>= fun x' => pySetItem x' ic s1 >>= fun s2 => pySetAttr self "acs" s2 >>= fun self =>
            pyAppend ob tag >>= fun ob => jp () self ob
      else jp () self ob) Q :=
  Tot.ite (fun _ => tot_setfield hic hS hset fun self hS => tot_append hob fun ob hob => hjp self ob hS hob)
    (fun _ => hjp self ob hS hob)

/-! ### the Comm-B loop -/

abbrev obC (s : Val × Val × Val × Val × Val × Val × Val × Val × Val × Val × Val × Val × Val × Val × Val × Val) : Val :=
  s.2.2.2.2.2.2.2.2.2.2.2.2.2.2.2

/-- **one pass of the Comm-B loop body is total**: numeric time stamp, 28-digit hex frame, table satisfying `WFE E`,
    output list a list; the new table satisfies `WFE E` again -/
theorem commbBody_totalE {E : List (Val × Val) → Prop} (hE : Stable E)
    (a l0 : List (Val × Val)) (q : Rat) (m : Msg) (hm : IsHex m) (hl : m.length = 28)
    (s : Val × _) (hs : s.1 = mk a l0) (hwf : WFE E l0) (hob : IsTup (obC s)) :
    Tot (commbBody (.tuple [.num q, .str m]) s)
      (fun r => ∃ s', r = .yield s' ∧ ∃ l', s'.1 = mk a l' ∧ WFE E l' ∧ IsTup (obC s')) := by
  obtain ⟨c1, c2, c3, c4, c5, c6, c7, c8, c9, c10, c11, c12, c13, c14, c15, c16, c17, c18, c19, c20, c21,
      c22, c23, c24, c25, c26, c27, c28, c29, c30, c31, c32, c33, c34, c35, c36, c37, c38, c39, c40, c41,
      c42, c43, c44, c45⟩ := PyModeS.C14Gen.commb_total_tie m hm hl
  unfold commbBody
  extract_lets self0 s13 s12 s11 s10 bds0 s9 r50 s8 t50 s7 rt50 s6 g50 s5 ta50 s4 i60 s3 h60 s2 m60 s1 rb60 s0 ri60 ob0
  have hs0 : self0 = mk a l0 := hs
  have hob0 : IsTup ob0 := hob
  clear_value self0
  subst hs0
  refine Tot.of_val ⟨_, rfl⟩ (fun _ => ?_)
  refine tot_val_eq (a := .num q) rfl ?_
  refine tot_val_eq (a := .str m) rfl ?_
  refine tot_val_eq (icao_tie m hm (by omega)) ?_
  have hic : IsKey (Val.ofOptStr (PyModeS.icao m)) := isKey_icaoKey m
  generalize Val.ofOptStr (PyModeS.icao m) = ic at hic ⊢
  refine tot_val_eq (get_acs _ _) ?_
  refine tot_val_eq (pyNotIn_dict _ _) ?_
  rw [pyTruth_bool]
  refine Tot.ite (fun hc => Tot.pure ⟨_, rfl, l0, rfl, hwf, hob0⟩) (fun hc => ?_)
  have hS := st_of_hasKey a hwf (ic := ic) (by simpa using hc)
  generalize mk a l0 = self at hS ⊢
  refine Tot.mono (Q := fun r => ∃ s', r = ForInStep.yield s' ∧ St a l0 ic (Ent E) s'.1 ∧ IsTup (obC s')) ?_ ?_
  swap
  · rintro r ⟨s', rfl, ⟨d, hd, hnd⟩, hobs⟩
    exact ⟨s', rfl, _, hd, wfE_setPair hwf hic hnd, hobs⟩
  refine tot_set hE hic hS (by decide) (fun self hS => ?_)
  refine tot_idx_acs hic hS (fun d hd => ?_)
  obtain ⟨qt, hqt⟩ := hd.1.1
  refine tot_idx hqt ?_
  refine tot_val_eq (Tie.pyMax2_num qt q) ?_
  refine tot_setfield hic hS (ent_set_t hE _) (fun self hS => ?_)
  refine tot_idx_acs hic hS (fun d hd => ?_)
  obtain ⟨ql, hql⟩ := hd.1.2
  refine tot_idx hql ?_
  refine tot_val_eq (pyInt1_num q) ?_
  refine tot_val_eq (Tie.pyMax2_num ql _) ?_
  refine tot_setfield hic hS (ent_set_live hE _) (fun self hS => ?_)
  refine Tot.of_val (c45 false) (fun bds => ?_)
  refine Tot.of_val ⟨_, rfl⟩ (fun b50 => ?_)
  refine Tot.ite (fun _ => ?_) (fun _ => ?_)
  · refine Tot.of_val c28 (fun roll50 => ?_)
    refine Tot.of_val c29 (fun trk50 => ?_)
    refine Tot.of_val c31 (fun rtrk50 => ?_)
    refine Tot.of_val c30 (fun gs50 => ?_)
    refine Tot.of_val c32 (fun tas50 => ?_)
    refine tot_set hE hic hS (by decide) (fun self hS => ?_)
    -- `have jp := fun _ self ob => …; if … then …; jp () self ob else jp () self ob`: the join point becomes a local
    -- definition, the guarded store asks for its invariant, and only then is it unfolded (no copy per branch)
    extract_lets -underBinder +onlyGivenNames jp
    refine tot_store_if hic hS hob0 (ent_set hE _ _ (by decide)) (fun self ob hS hob => ?_)
    unfold jp
    extract_lets -underBinder +onlyGivenNames jp
    refine tot_store_if hic hS hob (ent_set hE _ _ (by decide)) (fun self ob hS hob => ?_)
    unfold jp
    extract_lets -underBinder +onlyGivenNames jp
    refine tot_store_if hic hS hob (ent_set hE _ _ (by decide)) (fun self ob hS hob => ?_)
    unfold jp
    extract_lets -underBinder +onlyGivenNames jp
    refine tot_store_if hic hS hob (ent_set hE _ _ (by decide)) (fun self ob hS hob => ?_)
    unfold jp
    refine tot_store_if (jp := fun _ self ob => pure (ForInStep.yield (self, _, _, _, _, _, _, _, _, _, _, _, _, _, _, ob)))
      hic hS hob (ent_set hE _ _ (by decide)) (fun self ob hS hob => Tot.pure ⟨_, rfl, hS, hob⟩)
  refine Tot.of_val ⟨_, rfl⟩ (fun b60 => ?_)
  refine Tot.ite (fun _ => ?_) (fun _ => ?_)
  · refine Tot.of_val c41 (fun ias60 => ?_)
    refine Tot.of_val c40 (fun hdg60 => ?_)
    refine Tot.of_val c42 (fun mach60 => ?_)
    refine Tot.of_val c43 (fun vrb => ?_)
    refine Tot.of_val c44 (fun vri => ?_)
    refine Tot.bind (R := fun _ => True)
      (Tot.ite (fun _ => Tot.pure trivial) fun _ => Tot.ite (fun _ => Tot.pure trivial) fun _ => Tot.pure trivial)
      (fun any _ => ?_)
    extract_lets -underBinder +onlyGivenNames jp
    have hjp : ∀ self, St a l0 ic (Ent E) self → Tot (jp () self) (fun r => ∃ s', r = ForInStep.yield s' ∧ St a l0 ic (Ent E) s'.1 ∧ IsTup (obC s')) := by
      intro self hS
      unfold jp
      extract_lets -underBinder +onlyGivenNames jp
      refine tot_store_if hic hS hob0 (ent_set hE _ _ (by decide)) (fun self ob hS hob => ?_)
      unfold jp
      extract_lets -underBinder +onlyGivenNames jp
      refine tot_store_if hic hS hob (ent_set hE _ _ (by decide)) (fun self ob hS hob => ?_)
      unfold jp
      extract_lets -underBinder +onlyGivenNames jp
      refine tot_store_if hic hS hob (ent_set hE _ _ (by decide)) (fun self ob hS hob => ?_)
      unfold jp
      extract_lets -underBinder +onlyGivenNames jp
      refine tot_store_if hic hS hob (ent_set hE _ _ (by decide)) (fun self ob hS hob => ?_)
      unfold jp
      exact tot_store_if (jp := fun _ self ob => pure (ForInStep.yield (self, _, _, _, _, _, _, _, _, _, _, _, _, _, _, ob)))
        hic hS hob (ent_set hE _ _ (by decide)) (fun self ob hS hob => Tot.pure ⟨_, rfl, hS, hob⟩)
    exact Tot.ite (fun _ => tot_set hE hic hS (by decide) hjp) (fun _ => hjp _ hS)
  refine Tot.of_val ⟨_, rfl⟩ (fun b44 => ?_)
  refine Tot.ite (fun _ => ?_) (fun _ => Tot.pure ⟨_, rfl, hS, hob0⟩)
  refine Tot.of_val c12 (fun is44 => ?_)
  refine Tot.ite (fun _ => ?_) (fun _ => Tot.pure ⟨_, rfl, hS, hob0⟩)
  refine Tot.of_val c16 (fun v => ?_)
  refine tot_set hE hic hS (by decide) (fun self hS => ?_)
  refine Tot.of_val c15 (fun v => ?_)
  refine tot_set hE hic hS (by decide) (fun self hS => ?_)
  refine Tot.of_val c14 (fun v => ?_)
  refine tot_set hE hic hS (by decide) (fun self hS => ?_)
  refine Tot.of_val c17 (fun v => ?_)
  refine tot_set hE hic hS (by decide) (fun self hS => ?_)
  refine Tot.of_val c13 (fun v => ?_)
  exact tot_set hE hic hS (by decide) (fun self hS => Tot.pure ⟨_, rfl, hS, hob0⟩)

/-- **the Comm-B loop is total and keeps the table invariant** (numeric time stamps, 28-digit hex frames) -/
theorem commbLoop_totalE {E : List (Val × Val) → Prop} (hE : Stable E) (a : List (Val × Val)) (pairs : List (Rat × Msg))
    (hhex : ∀ p ∈ pairs, IsHex p.2 ∧ p.2.length = 28) (l0 : List (Val × Val))
    (s : Val × _) (hs : s.1 = mk a l0) (hwf : WFE E l0) (hob : IsTup (obC s)) :
    Tot (forIn (pairs.map encMsg) s commbBody) (fun s' => ∃ l', s'.1 = mk a l' ∧ WFE E l' ∧ IsTup (obC s')) := by
  refine Tot.forIn (fun s' => ∃ l', s'.1 = mk a l' ∧ WFE E l' ∧ IsTup (obC s')) commbBody _ ?_ s ⟨l0, hs, hwf, hob⟩
  intro it hit s1 ⟨l1, hs1, hwf1, hob1⟩
  obtain ⟨p, hp, rfl⟩ := List.mem_map.1 hit
  exact commbBody_totalE hE a l1 p.1 p.2 (hhex p hp).1 (hhex p hp).2 s1 hs1 hwf1 hob1

/-- **the Comm-B loop is total under `WF` and keeps it** (numeric time stamps, 28-digit hex frames) -/
theorem commbLoop_total_tie (a : List (Val × Val)) (pairs : List (Rat × Msg))
    (hhex : ∀ p ∈ pairs, IsHex p.2 ∧ p.2.length = 28) (l0 : List (Val × Val))
    (s : Val × Val × Val × Val × Val × Val × Val × Val × Val × Val × Val × Val × Val × Val × Val × Val)
    (hs : s.1 = mk a l0) (hwf : WF l0) (hob : IsTup (obC s)) :
    Tot (forIn (pairs.map encMsg) s commbBody) (fun s' => ∃ l', s'.1 = mk a l' ∧ WF l' ∧ IsTup (obC s')) :=
  (commbLoop_totalE stable_true a pairs hhex l0 s hs ((wf_iff _).1 hwf) hob).mono
    fun _ ⟨l', h1, h2, h3⟩ => ⟨l', h1, (wf_iff _).2 h2, h3⟩

end PyModeS.Tie.DecodeDirect
