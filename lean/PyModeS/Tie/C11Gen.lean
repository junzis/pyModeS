/-
  C11 stated about the source-generated definitions: for every 28-digit hex frame the function that py2lean.py
  produces from bds40.py … bds60.py returns the Doc 9871 row value.  Each statement is the composition of a tie theorem
  (`Tie/Bds40.lean` … `Tie/Bds60.lean`: generated definition = hand-written model) with the row theorem of
  `Properties/C11.lean`; of the hand model only `hex2binM` occurs in the statements.
-/
import PyModeS.Properties.C11
import PyModeS.Tie.Bds40
import PyModeS.Tie.Bds44
import PyModeS.Tie.Bds45
import PyModeS.Tie.Bds50
import PyModeS.Tie.Bds53
import PyModeS.Tie.Bds60
namespace PyModeS.C11Gen
open PyModeS PyModeS.Py PyModeS.CRC PyModeS.C11

/-- the MB field of the frame, as the row specifications see it -/
def mb (m : Msg) : Bits := slice 32 88 (hex2binM m)

theorem selalt40mcp_spec_tie (m : Msg) (h : IsHex m) (hl : m.length = 28) :
    Gen.bds40.selalt40mcp (.str m) = .val (Val.ofOptRat (decodeRow rSelalt40mcp (mb m))) := by
  rw [Tie.selalt40mcp_tie m h hl, selalt40mcp_row _ (Tie.frame_bits m hl)]; rfl

theorem selalt40fms_spec_tie (m : Msg) (h : IsHex m) (hl : m.length = 28) :
    Gen.bds40.selalt40fms (.str m) = .val (Val.ofOptRat (decodeRow rSelalt40fms (mb m))) := by
  rw [Tie.selalt40fms_tie m h hl, selalt40fms_row _ (Tie.frame_bits m hl)]; rfl

theorem p40baro_spec_tie (m : Msg) (h : IsHex m) (hl : m.length = 28) :
    Gen.bds40.p40baro (.str m) = .val (Val.ofOptRat (decodeRow rP40baro (mb m))) := by
  rw [Tie.p40baro_tie m h hl, p40baro_row _ (Tie.frame_bits m hl)]; rfl

theorem p44_spec_tie (m : Msg) (h : IsHex m) (hl : m.length = 28) :
    Gen.bds44.p44 (.str m) = .val (Val.ofOptRat (decodeRow rP44 (mb m))) := by
  rw [Tie.p44_tie m h hl, p44_row _ (Tie.frame_bits m hl)]; rfl

theorem hum44_spec_tie (m : Msg) (h : IsHex m) (hl : m.length = 28) :
    Gen.bds44.hum44 (.str m) = .val (Val.ofOptRat (decodeRow rHum44 (mb m))) := by
  rw [Tie.hum44_tie m h hl, hum44_row _ (Tie.frame_bits m hl)]; rfl

theorem turb44_spec_tie (m : Msg) (h : IsHex m) (hl : m.length = 28) :
    Gen.bds44.turb44 (.str m) = .val (Val.ofOptRat (decodeRow rTurb44 (mb m))) := by
  rw [Tie.turb44_tie m h hl, turb44_row _ (Tie.frame_bits m hl)]; rfl

theorem turb45_spec_tie (m : Msg) (h : IsHex m) (hl : m.length = 28) :
    Gen.bds45.turb45 (.str m) = .val (Val.ofOptRat (decodeRow rTurb45 (mb m))) := by
  rw [Tie.turb45_tie m h hl, turb45_row _ (Tie.frame_bits m hl)]; rfl

theorem ws45_spec_tie (m : Msg) (h : IsHex m) (hl : m.length = 28) :
    Gen.bds45.ws45 (.str m) = .val (Val.ofOptRat (decodeRow rWs45 (mb m))) := by
  rw [Tie.ws45_tie m h hl, ws45_row _ (Tie.frame_bits m hl)]; rfl

theorem mb45_spec_tie (m : Msg) (h : IsHex m) (hl : m.length = 28) :
    Gen.bds45.mb45 (.str m) = .val (Val.ofOptRat (decodeRow rMb45 (mb m))) := by
  rw [Tie.mb45_tie m h hl, mb45_row _ (Tie.frame_bits m hl)]; rfl

theorem ic45_spec_tie (m : Msg) (h : IsHex m) (hl : m.length = 28) :
    Gen.bds45.ic45 (.str m) = .val (Val.ofOptRat (decodeRow rIc45 (mb m))) := by
  rw [Tie.ic45_tie m h hl, ic45_row _ (Tie.frame_bits m hl)]; rfl

theorem wv45_spec_tie (m : Msg) (h : IsHex m) (hl : m.length = 28) :
    Gen.bds45.wv45 (.str m) = .val (Val.ofOptRat (decodeRow rWv45 (mb m))) := by
  rw [Tie.wv45_tie m h hl, wv45_row _ (Tie.frame_bits m hl)]; rfl

theorem p45_spec_tie (m : Msg) (h : IsHex m) (hl : m.length = 28) :
    Gen.bds45.p45 (.str m) = .val (Val.ofOptRat (decodeRow rP45 (mb m))) := by
  rw [Tie.p45_tie m h hl, p45_row _ (Tie.frame_bits m hl)]; rfl

theorem rh45_spec_tie (m : Msg) (h : IsHex m) (hl : m.length = 28) :
    Gen.bds45.rh45 (.str m) = .val (Val.ofOptRat (decodeRow rRh45 (mb m))) := by
  rw [Tie.rh45_tie m h hl, rh45_row _ (Tie.frame_bits m hl)]; rfl

theorem roll50_spec_tie (m : Msg) (h : IsHex m) (hl : m.length = 28) :
    Gen.bds50.roll50 (.str m) = .val (Val.ofOptRat (decodeRow rRoll50 (mb m))) := by
  rw [Tie.roll50_tie m h hl, roll50_row _ (Tie.frame_bits m hl)]; rfl

theorem trk50_spec_tie (m : Msg) (h : IsHex m) (hl : m.length = 28) :
    Gen.bds50.trk50 (.str m) = .val (Val.ofOptRat (decodeRow rTrk50 (mb m))) := by
  rw [Tie.trk50_tie m h hl, trk50_row _ (Tie.frame_bits m hl)]; rfl

theorem gs50_spec_tie (m : Msg) (h : IsHex m) (hl : m.length = 28) :
    Gen.bds50.gs50 (.str m) = .val (Val.ofOptRat (decodeRow rGs50 (mb m))) := by
  rw [Tie.gs50_tie m h hl, gs50_row _ (Tie.frame_bits m hl)]; rfl

theorem rtrk50_spec_tie (m : Msg) (h : IsHex m) (hl : m.length = 28) :
    Gen.bds50.rtrk50 (.str m) = .val (Val.ofOptRat (decodeRow rRtrk50 (mb m))) := by
  rw [Tie.rtrk50_tie m h hl, rtrk50_row _ (Tie.frame_bits m hl)]; rfl

theorem tas50_spec_tie (m : Msg) (h : IsHex m) (hl : m.length = 28) :
    Gen.bds50.tas50 (.str m) = .val (Val.ofOptRat (decodeRow rTas50 (mb m))) := by
  rw [Tie.tas50_tie m h hl, tas50_row _ (Tie.frame_bits m hl)]; rfl

theorem hdg53_spec_tie (m : Msg) (h : IsHex m) (hl : m.length = 28) :
    Gen.bds53.hdg53 (.str m) = .val (Val.ofOptRat (decodeRow rHdg53 (mb m))) := by
  rw [Tie.hdg53_tie m h hl, hdg53_row _ (Tie.frame_bits m hl)]; rfl

theorem ias53_spec_tie (m : Msg) (h : IsHex m) (hl : m.length = 28) :
    Gen.bds53.ias53 (.str m) = .val (Val.ofOptRat (decodeRow rIas53 (mb m))) := by
  rw [Tie.ias53_tie m h hl, ias53_row _ (Tie.frame_bits m hl)]; rfl

theorem mach53_spec_tie (m : Msg) (h : IsHex m) (hl : m.length = 28) :
    Gen.bds53.mach53 (.str m) = .val (Val.ofOptRat (decodeRow rMach53 (mb m))) := by
  rw [Tie.mach53_tie m h hl, mach53_row _ (Tie.frame_bits m hl)]; rfl

theorem tas53_spec_tie (m : Msg) (h : IsHex m) (hl : m.length = 28) :
    Gen.bds53.tas53 (.str m) = .val (Val.ofOptRat (decodeRow rTas53 (mb m))) := by
  rw [Tie.tas53_tie m h hl, tas53_row _ (Tie.frame_bits m hl)]; rfl

theorem vr53_spec_tie (m : Msg) (h : IsHex m) (hl : m.length = 28) :
    Gen.bds53.vr53 (.str m) = .val (Val.ofOptRat (decodeRow rVr53 (mb m))) := by
  rw [Tie.vr53_tie m h hl, vr53_row _ (Tie.frame_bits m hl)]; rfl

theorem hdg60_spec_tie (m : Msg) (h : IsHex m) (hl : m.length = 28) :
    Gen.bds60.hdg60 (.str m) = .val (Val.ofOptRat (decodeRow rHdg60 (mb m))) := by
  rw [Tie.hdg60_tie m h hl, hdg60_row _ (Tie.frame_bits m hl)]; rfl

theorem ias60_spec_tie (m : Msg) (h : IsHex m) (hl : m.length = 28) :
    Gen.bds60.ias60 (.str m) = .val (Val.ofOptRat (decodeRow rIas60 (mb m))) := by
  rw [Tie.ias60_tie m h hl, ias60_row _ (Tie.frame_bits m hl)]; rfl

theorem mach60_spec_tie (m : Msg) (h : IsHex m) (hl : m.length = 28) :
    Gen.bds60.mach60 (.str m) = .val (Val.ofOptRat (decodeRow rMach60 (mb m))) := by
  rw [Tie.mach60_tie m h hl, mach60_row _ (Tie.frame_bits m hl)]; rfl

theorem vr60baro_spec_tie (m : Msg) (h : IsHex m) (hl : m.length = 28) :
    Gen.bds60.vr60baro (.str m) = .val (Val.ofOptRat (decodeRow rVr60baro (mb m))) := by
  rw [Tie.vr60baro_tie m h hl, vr60baro_row _ (Tie.frame_bits m hl)]; rfl

theorem vr60ins_spec_tie (m : Msg) (h : IsHex m) (hl : m.length = 28) :
    Gen.bds60.vr60ins (.str m) = .val (Val.ofOptRat (decodeRow rVr60ins (mb m))) := by
  rw [Tie.vr60ins_tie m h hl, vr60ins_row _ (Tie.frame_bits m hl)]; rfl

end PyModeS.C11Gen
