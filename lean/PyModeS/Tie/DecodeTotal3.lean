/-
  TOTALITY of the generated `Gen.decode.Decode_process_raw`, third part.

  Proved: the loop body for type codes 20–22 (`adsbBody_total3_tc2022`: the NUC / NIC block `nuc_p`, `nic_v1`, `nic_v2`
  with the presence-aware reads of the NIC supplements), and loop, method and histories for `Frame3` frames (DF17/18,
  28 hex digits, type code 0, 1–4, 19, 20–22 or 23–31; TC 19 under `PyModeS.Tie.Bds09.FloatFinite`), all instances of the
  `…totalE` theorems of `Tie/DecodeTotal2.lean`.

  Open: type codes 5–18 (the position block).  There is no statement about the loop body on such a frame.  What a proof
  would use is here: the invariant `WF3` with the position fields (`dictFind_setPair_str_num`, `posOK_setPair`), the
  result shapes `shape_pos_ref_tie`, `shape_position_tie`, `shape_nic_b_tie` (`shape_nuc_nic_tie`, for all of 5–22, is
  in `Tie/DecodeTotal2.lean`) and the rules `tot_runK`, `tot_tryCatch` for `try … except: continue`.
-/
import PyModeS.Tie.DecodeTotal2
open PyModeS PyModeS.Py PyModeS.CRC
namespace PyModeS.Tie.DecodeDirect

/-- type codes 20–22 (airborne position, GNSS height — no position decoding in `process_raw`): the NUC / NIC block -/
theorem adsbBody_total3_tc2022 (a l0 : List (Val × Val)) (q : Rat) (m : Msg) (hm : IsHex m) (hl : m.length = 28)
    (n : Nat) (htc : PyModeS.typecode m = some n) (hn : 20 ≤ n ∧ n ≤ 22)
    (s : Val × Val × Val × Val × Val × Val × Val × Val × Val × Val × Val × Val × Val × Val × Val × Val × Val × Val)
    (hs : s.1 = mk a l0) (hwf : WF2 l0) (hob : IsTup (obA s)) :
    Tot (adsbBody (.tuple [.num q, .str m]) s)
      (fun r => ∃ s', r = .yield s' ∧ ∃ l', s'.1 = mk a l' ∧ WF2 l' ∧ IsTup (obA s')) :=
  adsbBody_totalE stable_ext ext_fresh a l0 q m hm hl n htc (by omega) (.inr (.inr rfl)) (by omega) s hs hwf hob

/-- ADS-B frames covered here: 28 hex digits, DF 17/18, type code in {0, 1–4, 19, 20–22, 23–31}: every type code except
    5–18 (the position block) -/
def Frame3 (m : Msg) : Prop :=
  IsHex m ∧ m.length = 28 ∧ ∃ n, PyModeS.typecode m = some n ∧
    (QuietTC n ∨ (1 ≤ n ∧ n ≤ 4) ∨ n = 19 ∨ n = 29 ∨ n = 31 ∨ (20 ≤ n ∧ n ≤ 22))

theorem frameE_of_frame3 (hf : PyModeS.Tie.Bds09.FloatFinite) {m : Msg} (h : Frame3 m) : FrameE Ext m := by
  obtain ⟨h1, h2, n, h3, h4⟩ := h
  refine ⟨h1, h2, n, h3, ?_, .inr (.inr rfl), fun _ => hf⟩
  unfold QuietTC at h4; omega

/-- **the ADS-B loop is total under `WF2` and keeps it**, for `Frame3` frames, under `FloatFinite` -/
theorem adsbLoop_total3_tie (hf : PyModeS.Tie.Bds09.FloatFinite) (a : List (Val × Val)) (pairs : List (Rat × Msg))
    (hq : ∀ p ∈ pairs, Frame3 p.2) (l0 : List (Val × Val))
    (s : Val × Val × Val × Val × Val × Val × Val × Val × Val × Val × Val × Val × Val × Val × Val × Val × Val × Val)
    (hs : s.1 = mk a l0) (hwf : WF2 l0) (hob : IsTup (obA s)) :
    Tot (forIn (pairs.map encMsg) s adsbBody) (fun s' => ∃ l', s'.1 = mk a l' ∧ WF2 l' ∧ IsTup (obA s')) :=
  adsbLoop_totalE stable_ext ext_fresh a pairs (fun p hp => frameE_of_frame3 hf (hq p hp)) l0 s hs hwf hob

/-- **totality of `Decode.process_raw` (generated)** for ADS-B frames of type code 0, 1–4, 19, 20–31 (`Frame3`), any
    28-digit hex Comm-B frames, numeric time stamps and `tnow`, `dumpto = None`, under `FloatFinite`: the call returns
    `(self', None)` and `self'` satisfies `RecvOK2` again -/
theorem process_raw_total3_tie (hf : PyModeS.Tie.Bds09.FloatFinite) (self : Val) (adsb commb : List (Rat × Msg))
    (t : Rat) (hself : RecvOK2 self)
    (hadsb : ∀ p ∈ adsb, Frame3 p.2) (hcommb : ∀ p ∈ commb, IsHex p.2 ∧ p.2.length = 28) :
    ∃ self', Gen.decode.Decode_process_raw self (tsOf adsb) (msgsOf adsb) (tsOf commb) (msgsOf commb) (.num t) =
      .val (.tuple [self', .none]) ∧ RecvOK2 self' :=
  process_raw_totalE stable_ext ext_fresh self adsb commb t hself (fun p hp => frameE_of_frame3 hf (hadsb p hp)) hcommb

theorem history_total3_tie (hf : PyModeS.Tie.Bds09.FloatFinite) (self : Val) (calls : List Call) (hself : RecvOK2 self)
    (hcalls : ∀ c ∈ calls, (∀ p ∈ c.1, Frame3 p.2) ∧ (∀ p ∈ c.2.1, IsHex p.2 ∧ p.2.length = 28)) :
    ∃ self', runHistory self calls = .val self' ∧ RecvOK2 self' :=
  history_totalE stable_ext ext_fresh self calls hself
    (fun c hc => ⟨fun p hp => frameE_of_frame3 hf ((hcalls c hc).1 p hp), (hcalls c hc).2⟩)

/-- **no call of a history ever raises**, from the freshly constructed `Decode()`: ADS-B frames of type code 0, 1–4,
    19, 20–31, any 28-digit hex Comm-B frames, under `FloatFinite` -/
theorem history_total3_fresh_tie (hf : PyModeS.Tie.Bds09.FloatFinite) (calls : List Call)
    (hcalls : ∀ c ∈ calls, (∀ p ∈ c.1, Frame3 p.2) ∧ (∀ p ∈ c.2.1, IsHex p.2 ∧ p.2.length = 28)) :
    ∃ self', runHistory freshDecode calls = .val self' ∧ RecvOK2 self' :=
  history_total3_tie hf freshDecode calls recvOK2_fresh hcalls

theorem adsbBody_total3_tc2022_tie : type_of% @adsbBody_total3_tc2022 := @adsbBody_total3_tc2022
theorem tot_cond_nics_tie : type_of% @tot_cond_nics := @tot_cond_nics
theorem tot_cond_nicab_tie : type_of% @tot_cond_nicab := @tot_cond_nicab

/-! ### for type codes 5–18 (open): the invariant with the position fields, shapes of the position decoders,
  `try / except` -/

abbrev tposKey : Val := Val.str ['t', 'p', 'o', 's']
abbrev latKey : Val := Val.str ['l', 'a', 't']
abbrev lonKey : Val := Val.str ['l', 'o', 'n']
abbrev t0Key : Val := Val.str ['t', '0']
abbrev t1Key : Val := Val.str ['t', '1']

/-- `tpos` present ⇒ `tpos`, `lat`, `lon` numbers; `t0` / `t1` present ⇒ a number, and the frame stored under the numeric
    key 0 / 1 is a 28-digit hex string -/
def PosOK (d : List (Val × Val)) : Prop :=
  (∀ x, dictFind d tposKey = some x →
    (∃ q, x = .num q) ∧ (∃ q, dictFind d latKey = some (.num q)) ∧ (∃ q, dictFind d lonKey = some (.num q))) ∧
  (∀ x, dictFind d t0Key = some x →
    (∃ q, x = .num q) ∧ ∃ m, dictFind d (.num 0) = some (.str m) ∧ IsHex m ∧ m.length = 28) ∧
  (∀ x, dictFind d t1Key = some x →
    (∃ q, x = .num q) ∧ ∃ m, dictFind d (.num 1) = some (.str m) ∧ IsHex m ∧ m.length = 28)

def P3 (d : List (Val × Val)) : Prop := P2 d ∧ PosOK d
def EntOK3 (e : Val) : Prop := ∃ d, e = .dict d ∧ P3 d

/-- `WF2` plus the position fields -/
def WF3 (acs : List (Val × Val)) : Prop := KeysOK acs ∧ ∀ kv ∈ acs, EntOK3 kv.2

theorem wf3_nil : WF3 [] := by simp [WF3, KeysOK, keysOf]

theorem wf2_of_wf3 {acs : List (Val × Val)} (h : WF3 acs) : WF2 acs :=
  ⟨h.1, fun kv hkv => by
    obtain ⟨d, hd, hp, _⟩ := h.2 kv hkv
    exact ⟨d, hd, hp⟩⟩

/-- an item assignment under a string key does not disturb a look-up under a numeric key -/
theorem dictFind_setPair_str_num (s : List Char) (v : Val) (q : Rat) (d : List (Val × Val)) :
    dictFind (setPair (.str s) v d) (.num q) = dictFind d (.num q) := by
  have hb : Val.beq (.num q) (.str s) = false := by simp [Val.beq]
  induction d with
  | nil => simp [setPair_nil, Beast.dictFind_cons, hb, dictFind_nil]
  | cons kv l ih =>
    obtain ⟨k'', v'⟩ := kv
    rw [Beast.setPair_cons]
    by_cases h : Val.beq (.str s) k'' = true
    · rw [if_pos h, Beast.dictFind_cons, Beast.dictFind_cons]
      have e1 : k'' = .str s := (beq_key_left (isKey_str s)).1 h
      rw [e1, hb]
      simp
    · rw [if_neg h, Beast.dictFind_cons, Beast.dictFind_cons, ih]

/-- the position fields survive an item assignment under any other string key -/
theorem posOK_setPair (s : List Char) (v : Val) (h1 : Val.str s ≠ tposKey) (h2 : Val.str s ≠ latKey)
    (h3 : Val.str s ≠ lonKey) (h4 : Val.str s ≠ t0Key) (h5 : Val.str s ≠ t1Key) (d : List (Val × Val))
    (h : PosOK d) : PosOK (setPair (.str s) v d) := by
  unfold PosOK
  rw [dictFind_setPair_ne' (isKey_str _) h1, dictFind_setPair_ne' (isKey_str _) h2,
    dictFind_setPair_ne' (isKey_str _) h3, dictFind_setPair_ne' (isKey_str _) h4,
    dictFind_setPair_ne' (isKey_str _) h5, dictFind_setPair_str_num, dictFind_setPair_str_num]
  exact h

/-- type codes 9–18: `nic_b` a natural number -/
theorem shape_nic_b_tie (m : Msg) (hm : IsHex m) (hl : m.length = 28) (n : Nat)
    (htc : PyModeS.typecode m = some n) (hn : 9 ≤ n ∧ n ≤ 18) :
    ∃ k : Nat, Gen.adsb.nic_b (.str m) = .val (Val.ofNat k) := by
  obtain ⟨a1, a2, a3, a4, a5, a6, a7, a8, a9, a10, a11, a12, a13, a14, a15, a16, a17, a18, a19, a20, a21, a22, a23,
    a24, a25, a26, a27, a28, a29, a30, a31, a32, a33, a34, a35, a36, a37⟩ := PyModeS.C14Gen.no_exc_adsb_tie m hm hl
  obtain ⟨g1, g2, g3, g4, g5, g6, g7, g8, g9, g10, g11, g12, -⟩ := PyModeS.C14Gen.guard_iff_tie m hm hl
  obtain ⟨p, hp⟩ := shape_of_tie (PyModeS.Tie.nic_b_tie m hm (by omega)) a33 (fun hr => g12.1 hr (hasTC_of htc hn))
  exact ⟨p, hp⟩

/-- `Continue.runK`: what follows a `try … except: continue` -/
theorem tot_runK {α β} {Q : β → Prop} (e : Option α) (kc : Unit → Res β) (ks : α → Res β)
    (hc : Tot (kc ()) Q) (hs : ∀ x, Tot (ks x) Q) : Tot (Continue.runK e kc ks) Q := by
  cases e with
  | none => exact hc
  | some x => exact hs x

/-- `try: x  except: h` — the `try` body may fail freely as long as the handler returns -/
theorem tot_tryCatch {α} {x : Res α} {h : Err → Res α} {R : α → Prop} (hv : ∀ a, x = .val a → R a)
    (hr : Tot (h .rte) R) (he : Tot (h .exc) R) : Tot (tryCatch x h) R := by
  cases x with
  | val a => exact ⟨a, rfl, hv a rfl⟩
  | rte => exact hr
  | exc => exact he

/-- type codes 5–18, 20–22: `position_with_ref` on numbers returns a pair of numbers, `altitude` returns a value -/
theorem shape_pos_ref_tie (m : Msg) (hm : IsHex m) (hl : m.length = 28) (n : Nat)
    (htc : PyModeS.typecode m = some n) (hn : (5 ≤ n ∧ n ≤ 8) ∨ (9 ≤ n ∧ n ≤ 18) ∨ (20 ≤ n ∧ n ≤ 22)) :
    (∀ la lo : Rat, ∃ x y : Rat, Gen.adsb.position_with_ref (.str m) (.num la) (.num lo) =
      .val (.tuple [.num x, .num y])) ∧
    (∃ v, Gen.adsb.altitude (.str m) = .val v) := by
  obtain ⟨a1, a2, a3, a4, a5, a6, a7, a8, a9, a10, a11, a12, a13, a14, a15, a16, a17, a18, a19, a20, a21, a22, a23,
    a24, a25, a26, a27, a28, a29, a30, a31, a32, a33, a34, a35, a36, a37⟩ := PyModeS.C14Gen.no_exc_adsb_tie m hm hl
  obtain ⟨g1, g2, g3, g4, g5, g6, g7, g8, g9, g10, g11, g12, g13, g14, g15, g16, g17, g18, g19, g20, g21, g22, g23,
    g24, g25, g26, g27, g28, g29, g30, g31, g32, g33, g34, g35, g36⟩ := PyModeS.C14Gen.guard_iff_tie m hm hl
  have hpos := hasTC_of htc (posTC_of hn)
  refine ⟨fun la lo => ?_, ?_⟩
  · obtain ⟨p, hp⟩ := shape_of_tie (PyModeS.C14Gen.position_with_ref_full m hm hl la lo) (a37 la lo)
      (fun hr => ((g36 la lo).1 hr) hpos)
    exact ⟨p.1, p.2, hp⟩
  · cases hc : Gen.adsb.altitude (.str m) with
    | val v => exact ⟨v, rfl⟩
    | rte => exact absurd hpos (g1.1 hc)
    | exc => exact absurd hc a1

/-- `adsb.position` on two stored 28-digit hex frames, numeric times and a reference that is `None, None` or two numbers:
    whatever it returns is `None` or a pair of numbers (it may also raise: the caller's `try` catches that) -/
theorem shape_position_tie (m0 m1 : Msg) (h0 : IsHex m0) (h1 : IsHex m1) (hl0 : m0.length = 28) (hl1 : m1.length = 28)
    (t0 t1 : Rat) (ref : Option (Rat × Rat)) (v : Val)
    (hv : Gen.adsb.position (.str m0) (.str m1) (.num t0) (.num t1)
      (match ref with | none => Val.none | some r => .num r.1) (match ref with | none => Val.none | some r => .num r.2) =
      .val v) : v = .none ∨ ∃ x y : Rat, v = .tuple [.num x, .num y] := by
  have key : ∀ (x : Res (Option (Rat × Rat))), (x >>= fun o => Res.val (PyModeS.Tie.Adsb.encOptPos o)) = .val v →
      v = .none ∨ ∃ x y : Rat, v = .tuple [.num x, .num y] := by
    intro x hx
    cases x with
    | val o =>
      injection hx with hx
      cases o with
      | none => exact Or.inl hx.symm
      | some p => exact Or.inr ⟨p.1, p.2, hx.symm⟩
    | rte => cases hx
    | exc => cases hx
  cases ref with
  | none =>
    have hf := PyModeS.C14Gen.position_full m0 m1 h0 h1 hl0 hl1 t0 t1 none
    simp only [] at hf hv
    rw [hf] at hv
    exact key _ hv
  | some r =>
    have hf := PyModeS.C14Gen.position_full m0 m1 h0 h1 hl0 hl1 t0 t1 (some r)
    simp only [] at hf hv
    rw [hf] at hv
    exact key _ hv

theorem wf2_of_wf3_tie : type_of% @wf2_of_wf3 := @wf2_of_wf3
theorem tot_runK_tie : type_of% @tot_runK := @tot_runK
theorem tot_tryCatch_tie : type_of% @tot_tryCatch := @tot_tryCatch

end PyModeS.Tie.DecodeDirect
