/-
  Tie: the two generated versions of the CPR "number of longitude zones" function,
  `Gen.py_common.cprNL` (src/pyModeS/py_common.py:190) and `Gen.c_common.cprNL` (src/pyModeS/c_common.pyx:221),
  and their helper `floor`.

  The main branch of `cprNL` goes through double-precision `cos`/`arccos` (`Ext.np_cos`, `Ext.np_arccos`: Lean `Float`,
  opaque to the kernel), so the full tie to the exact hand model `PyModeS.cprNL` (Model/CPR.lean, property C06) is out of
  reach.  What is exact are the three guard branches (`np.isclose(lat, 0)`, `lat > 87 or lat < -87`,
  `np.isclose(abs(lat), 87)`; the Cython text spells the two `isclose` out as `abs(..) <= 1e-08 + 1e-05 * ..`):
  `Ext.np_isclose` is exact rational arithmetic `|a - b| ≤ 1e-8 + 1e-5·|b|`, `Ext.np_floor` is the exact rational floor.

  Helper lemmas live in `PyModeS.Tie.NLG`; the results in `PyModeS.Tie`.
-/
import PyModeS.Tie.CBasic
import PyModeS.Generated.Src.py_common
import PyModeS.Generated.Src.c_common
import PyModeS.Properties.C06

namespace PyModeS.Tie.NLG
open PyModeS PyModeS.Py

/-! ### the float boundary, named -/

/-- `np.pi`: the double `acos(-1.0)` as an exact rational (opaque to the kernel) -/
def piF : Rat := floatToRat (Float.acos (-1.0))

theorem np_pi_eq : Gen.Ext.np_pi = .num piF := rfl

/-- a libm function applied to a rational in double precision: the argument is rounded by `ratToFloat`, the result is
    read back exactly by `floatToRat`; `none` when the result is nan or ±inf (numpy would warn, the model raises) -/
def fl1 (f : Float → Float) (r : Rat) : Option Rat :=
  let y := f (ratToFloat r)
  if y.isNaN || y.isInf then none else some (floatToRat y)

theorem float1_num (f : Float → Float) (r : Rat) :
    Gen.Ext.float1 f (.num r) = match fl1 f r with | some c => .val (.num c) | none => .exc := by
  unfold Gen.Ext.float1 fl1
  simp only [Val.num?]
  split_ifs <;> rfl

theorem np_cos_num (r : Rat) :
    Gen.Ext.np_cos (.num r) = match fl1 Float.cos r with | some c => .val (.num c) | none => .exc :=
  float1_num _ r
theorem np_arccos_num (r : Rat) :
    Gen.Ext.np_arccos (.num r) = match fl1 Float.acos r with | some c => .val (.num c) | none => .exc :=
  float1_num _ r

/-- the main branch of `cprNL` with every external call spelled out:
    `post ⌊ 2π / acos(1 − (1 − cos(π/30)) / cos(π/180·x)²) ⌋`, `x = |lat|`.
    Only `cos`, `acos` (and the constant π) are evaluated in double precision (`fl1`, `piF`); `+ − · / ⌊⌋` between them
    are the exact rational operations of the value model (`Py/Val.lean`: Python floats are modelled exactly).
    `post` is what happens to the integer afterwards: nothing in Python, the C conversions in Cython. -/
def nlMain (post : Int → Int) (x : Rat) : Res Val :=
  match fl1 Float.cos (piF / 30), fl1 Float.cos (piF / 180 * x) with
  | some c30, some cl =>
    if cl ^ 2 = 0 then .exc
    else match fl1 Float.acos (1 - (1 - c30) / cl ^ 2) with
      | some ac => if ac = 0 then .exc else .val (Val.ofInt (post (2 * piF / ac).floor))
      | none => .exc
  | _, _ => .exc

/-- `<long> x` of a double holding the integer `n` (x86-64 `cvttsd2si`: out of range gives LONG_MIN) -/
def satLong (n : Int) : Int := if n ≥ (2 ^ 63 : Nat) ∨ n < -((2 ^ 63 : Nat) : Int) then -((2 ^ 63 : Nat) : Int) else n

/-- what the Cython text does to `⌊nl⌋`: `<long>`, `cdef long`, then `cdef int` (twice) -/
def cPost (n : Int) : Int := C.wrap32 (satLong n)

theorem satLong_of_range {n : Int} (h0 : -9223372036854775808 ≤ n) (h1 : n < 9223372036854775808) : satLong n = n := by
  unfold satLong
  have h : ((2 ^ 63 : Nat) : Int) = 9223372036854775808 := by norm_num
  rw [h, if_neg (by omega)]

theorem wrap64_of_range' {x : Int} (h0 : -9223372036854775808 ≤ x) (h1 : x < 9223372036854775808) : C.wrap64 x = x := by
  unfold C.wrap64
  have e1 : (2 : Int) ^ 64 = 18446744073709551616 := by norm_num
  have e2 : (2 : Int) ^ 63 = 9223372036854775808 := by norm_num
  simp only [e1, e2]
  split <;> omega

theorem wrap64_satLong (n : Int) : C.wrap64 (satLong n) = satLong n := by
  apply wrap64_of_range'
  · unfold satLong
    have h : ((2 ^ 63 : Nat) : Int) = 9223372036854775808 := by norm_num
    rw [h]; split_ifs <;> omega
  · unfold satLong
    have h : ((2 ^ 63 : Nat) : Int) = 9223372036854775808 := by norm_num
    rw [h]; split_ifs <;> omega

theorem cPost_of_range {n : Int} (h0 : -2147483648 ≤ n) (h1 : n < 2147483648) : cPost n = n := by
  unfold cPost
  rw [satLong_of_range (by omega) (by omega), CC.wrap32_of_range h0 h1]

/-! ### exact primitives -/

theorem ite_abs (a : Rat) : (if a < 0 then -a else a) = |a| := C06.rabs_eq_abs a

theorem pyAbs_abs (a : Rat) : pyAbs (.num a) = .val (.num |a|) := by
  rw [pyAbs_num, ite_abs]

/-- `np.isclose(a, b)` (default tolerances) is exact rational arithmetic -/
theorem isclose_num (a b : Rat) :
    Gen.Ext.np_isclose (.num a) (.num b) =
      .val (.bool (decide (|a - b| ≤ (1 : Rat) / 100000000 + (1 : Rat) / 100000 * |b|))) := by
  unfold Gen.Ext.np_isclose
  simp only [Val.num?]
  have h1 : (if a - b < 0 then b - a else a - b) = |a - b| := by
    rw [← ite_abs (a - b)]; congr 1; ring
  rw [h1, ite_abs]

theorem floor_intCast (n : Int) : Rat.floor (n : Rat) = n := by
  have : Rat.floor (n : Rat) = ⌊(n : Rat)⌋ := rfl
  rw [this]; exact Int.floor_intCast n

theorem np_floor_num (q : Rat) : Gen.Ext.np_floor (.num q) = .val (Val.ofInt q.floor) := rfl
theorem common_floor_num (q : Rat) : Gen.Ext.common_floor (.num q) = .val (Val.ofInt q.floor) := rfl

theorem pyInt1_ofInt (n : Int) : pyInt1 (Val.ofInt n) = .val (Val.ofInt n) := by
  have h := CB.truncInt?_int n
  simp only [truncInt?, Option.some.injEq] at h
  simp only [pyInt1, Val.ofInt, h]

theorem cCastLong_ofInt (n : Int) : cCastLong (Val.ofInt n) = .val (Val.ofInt (satLong n)) := by
  have h := CB.truncInt?_int n
  simp only [truncInt?, Option.some.injEq] at h
  simp only [cCastLong, Val.ofInt, Val.num?, h, satLong]
  split_ifs <;> rfl

theorem cConvDouble_num (q : Rat) : cConvDouble (.num q) = .val (.num q) := rfl

theorem num_ofInt (k : Int) : Val.num (k : Rat) = Val.ofInt k := rfl

end PyModeS.Tie.NLG

namespace PyModeS.Tie
open PyModeS PyModeS.Py NLG

/-! ### `floor` -/

/-- `common.floor(x) = int(np.floor(x))` is the exact rational floor, for every rational argument
    (`Ext.np_floor` does not go through `Float`) -/
theorem floor_tie (q : Rat) : Gen.py_common.floor (.num q) = .val (Val.ofInt q.floor) := by
  unfold Gen.py_common.floor
  rw [np_floor_num, bind_val', pyInt1_ofInt]

theorem floor_int_tie (n : Int) : Gen.py_common.floor (.num (n : Rat)) = .val (.num (n : Rat)) := by
  rw [floor_tie, floor_intCast]; rfl

/-- the external `Ext.common_floor` that the generated `cprNL` calls for `floor(nl)` is the generated `floor` -/
theorem common_floor_eq_gen_floor (q : Rat) : Gen.Ext.common_floor (.num q) = Gen.py_common.floor (.num q) := by
  rw [floor_tie, common_floor_num]

/-- Cython `floor(double x)`: `<long> c_floor(x)`; the floor saturated to LONG_MIN outside the `long` range -/
theorem c_floor_tie (q : Rat) : Gen.c_common.floor (.num q) = .val (Val.ofInt (satLong q.floor)) := by
  unfold Gen.c_common.floor
  show (cConvDouble (Val.num q) >>= fun x => _) = _
  rw [cConvDouble_num, bind_val', np_floor_num, bind_val', cCastLong_ofInt, bind_val', CB.cConvLong_int,
    wrap64_satLong]

theorem c_floor_int_tie (n : Int) (h0 : -9223372036854775808 ≤ n) (h1 : n < 9223372036854775808) :
    Gen.c_common.floor (.num (n : Rat)) = .val (.num (n : Rat)) := by
  rw [c_floor_tie, floor_intCast, satLong_of_range h0 h1]; rfl

/-- the two `floor`s agree wherever the floor fits a C `long` -/
theorem c_floor_eq_py_tie (q : Rat) (h0 : -9223372036854775808 ≤ q.floor) (h1 : q.floor < 9223372036854775808) :
    Gen.c_common.floor (.num q) = Gen.py_common.floor (.num q) := by
  rw [c_floor_tie, floor_tie, satLong_of_range h0 h1]

/-! ### the whole generated `cprNL`, guards decided, main branch spelled out -/

namespace NLG

theorem pyPow_two (x : Rat) : pyPow (.num x) (.num 2) = .val (.num (x ^ 2)) := by
  have h : Val.int? (.num 2) = some (Int.ofNat 2) := by
    simp only [Val.int?]; rfl
  simp only [pyPow, Val.num?, h]

theorem pyDiv_num' (a b : Rat) : pyDiv (.num a) (.num b) = if b = 0 then .exc else .val (.num (a / b)) := rfl

end NLG

theorem py_cprNL_unfold (q : Rat) :
    Gen.py_common.cprNL (.num q) =
      if |q| ≤ (1 : Rat) / 100000000 then .val (.num 59)
      else if 87 < q ∨ q < -87 then .val (.num 1)
      else if |(|q| - 87)| ≤ (1 : Rat) / 100000000 + (1 : Rat) / 100000 * 87 then .val (.num 2)
      else nlMain id |q| := by
  unfold Gen.py_common.cprNL
  have ez : |(0 : Rat)| = 0 := abs_zero
  have e87 : |(87 : Rat)| = 87 := abs_of_pos (by norm_num)
  rw [isclose_num, bind_val', pyTruth_bool, sub_zero, ez, mul_zero, add_zero]
  by_cases h1 : |q| ≤ (1 : Rat) / 100000000
  · rw [if_pos h1, decide_eq_true h1, if_pos rfl, Res.pure_eq]
  rw [if_neg h1, decide_eq_false h1, if_neg Bool.false_ne_true, pyGt_num, pyLt_num, or_link _ _ _ rfl, bind_val',
    pyTruth_bool, pyAbs_abs]
  by_cases h2 : 87 < q ∨ q < -87
  · rw [if_pos h2, decide_eq_true h2, if_pos rfl, Res.pure_eq]
  rw [if_neg h2, decide_eq_false h2, if_neg Bool.false_ne_true, bind_val', isclose_num, e87, bind_val', pyTruth_bool]
  by_cases h3 : |(|q| - 87)| ≤ (1 : Rat) / 100000000 + (1 : Rat) / 100000 * 87
  · simp only [h3, decide_true, if_true, Res.pure_eq]
  simp only [h3, decide_false, if_false, Bool.false_eq_true]
  -- the main branch: the calls are evaluated in text order; each `fl1` result is split where it appears
  generalize |q| = x
  have e30 : (2 : Rat) * 15 = 30 := by norm_num
  have n30 : (30 : Rat) ≠ 0 := by norm_num
  have n180 : (180 : Rat) ≠ 0 := by norm_num
  unfold nlMain
  rw [np_pi_eq, pyMul_num, bind_val', e30, pyDiv_num _ _ n30, bind_val', np_cos_num]
  rcases fl1 Float.cos (piF / 30) with _ | c30
  · rfl
  simp only [bind_val', pySub_num, pyDiv_num _ _ n180, pyMul_num, np_cos_num]
  rcases fl1 Float.cos (piF / 180 * x) with _ | cl
  · rfl
  simp only [bind_val', pyPow_two, pyDiv_num']
  by_cases hb : cl ^ 2 = 0
  · simp only [hb, if_true, bind_exc']
  simp only [hb, if_false, bind_val', pySub_num, np_arccos_num]
  rcases fl1 Float.acos (1 - (1 - c30) / cl ^ 2) with _ | ac
  · rfl
  simp only [bind_val', pyDiv_num']
  by_cases hc : ac = 0
  · simp only [hc, if_true, bind_exc']
  simp only [hc, if_false, bind_val', common_floor_num, id]

namespace NLG

theorem cConvInt_small (k : Int) (h0 : -2147483648 ≤ k) (h1 : k < 2147483648) :
    cConvInt (.num (k : Rat)) = .val (.num (k : Rat)) := by
  rw [num_ofInt, CB.cConvInt_int, CC.wrap32_of_range h0 h1]

theorem cConvInt_59 : cConvInt (.num 59) = .val (.num 59) := by
  have := cConvInt_small 59 (by norm_num) (by norm_num); norm_num at this; exact this
theorem cConvInt_1 : cConvInt (.num 1) = .val (.num 1) := by
  have := cConvInt_small 1 (by norm_num) (by norm_num); norm_num at this; exact this
theorem cConvInt_2 : cConvInt (.num 2) = .val (.num 2) := by
  have := cConvInt_small 2 (by norm_num) (by norm_num); norm_num at this; exact this
theorem cConvInt_15 : cConvInt (.num 15) = .val (.num 15) := by
  have := cConvInt_small 15 (by norm_num) (by norm_num); norm_num at this; exact this

end NLG

theorem c_cprNL_unfold (q : Rat) :
    Gen.c_common.cprNL (.num q) =
      if |q| ≤ (1 : Rat) / 100000000 then .val (.num 59)
      else if 87 < q ∨ q < -87 then .val (.num 1)
      else if |(|q| - 87)| ≤ (1 : Rat) / 100000000 + (1 : Rat) / 100000 * 87 then .val (.num 2)
      else nlMain cPost |q| := by
  unfold Gen.c_common.cprNL
  show (cConvDouble (Val.num q) >>= fun x => _) = _
  rw [cConvDouble_num, bind_val', pyAbs_abs, bind_val', pyLe_num, bind_val', pyTruth_bool]
  by_cases h1 : |q| ≤ (1 : Rat) / 100000000
  · rw [if_pos h1, decide_eq_true h1, if_pos rfl, cConvInt_59]
  rw [if_neg h1, decide_eq_false h1, if_neg Bool.false_ne_true, pyGt_num, pyLt_num, or_link _ _ _ rfl, bind_val',
    pyTruth_bool]
  by_cases h2 : 87 < q ∨ q < -87
  · rw [if_pos h2, decide_eq_true h2, if_pos rfl, cConvInt_1]
  rw [if_neg h2, decide_eq_false h2, if_neg Bool.false_ne_true]
  simp only [bind_val', pyTruth_bool, pyAbs_abs, pySub_num, pyMul_num, pyAdd_num, pyLe_num]
  by_cases h3 : |(|q| - 87)| ≤ (1 : Rat) / 100000000 + (1 : Rat) / 100000 * 87
  · simp only [h3, decide_true, if_true, cConvInt_2]
  simp only [h3, decide_false, if_false, Bool.false_eq_true]
  -- the main branch: the calls are evaluated in text order; each `fl1` result is split where it appears
  generalize |q| = x
  have e30 : (2 : Rat) * 15 = 30 := by norm_num
  have n30 : (30 : Rat) ≠ 0 := by norm_num
  have n180 : (180 : Rat) ≠ 0 := by norm_num
  unfold nlMain
  rw [cConvInt_15, bind_val', np_pi_eq, pyMul_num, bind_val', e30, pyDiv_num _ _ n30, bind_val', np_cos_num]
  rcases fl1 Float.cos (piF / 30) with _ | c30
  · rfl
  simp only [bind_val', pySub_num, cConvDouble_num, pyDiv_num _ _ n180, pyMul_num, np_cos_num]
  rcases fl1 Float.cos (piF / 180 * x) with _ | cl
  · rfl
  simp only [bind_val', pyPow_two, cConvDouble_num, pyDiv_num']
  by_cases hb : cl ^ 2 = 0
  · simp only [hb, if_true, bind_exc']
  simp only [hb, if_false, bind_val', pySub_num, np_arccos_num]
  rcases fl1 Float.acos (1 - (1 - c30) / cl ^ 2) with _ | ac
  · rfl
  simp only [bind_val', pyDiv_num']
  by_cases hc : ac = 0
  · simp only [hc, if_true, bind_exc']
  simp only [hc, if_false, bind_val', cConvDouble_num, c_floor_tie, CB.cConvInt_int, cPost]

/-! ### the guard branches (every rational latitude) -/

namespace NLG
/-- the tolerance of `np.isclose(·, 87)`: the window reaches down to 86.99912999 -/
theorem window_const : (1 : Rat) / 100000000 + (1 : Rat) / 100000 * 87 = 87 - 8699912999 / 100000000 := by
  norm_num
theorem not_zero_of_polar {q : Rat} (h : 87 < |q|) : ¬ |q| ≤ (1 : Rat) / 100000000 :=
  fun h' => absurd (h'.trans (by norm_num)) (not_le.mpr h)
theorem polar_iff (q : Rat) : 87 < |q| ↔ (87 < q ∨ q < -87) := by
  rw [lt_abs, lt_neg]
theorem not_zero_of_87 {q : Rat} (h : |(|q| - 87)| ≤ (1 : Rat) / 100000000 + (1 : Rat) / 100000 * 87) :
    ¬ |q| ≤ (1 : Rat) / 100000000 := by
  intro h'
  have h1 := (abs_le.mp h).1
  rw [window_const, neg_sub, sub_le_sub_iff_right] at h1
  exact absurd (h1.trans h') (by norm_num)
end NLG

/-- `np.isclose(lat, 0)`: `|lat| ≤ 1e-8` gives 59 -/
theorem cprNL_zero_tie (q : Rat) (h : |q| ≤ (1 : Rat) / 100000000) :
    Gen.py_common.cprNL (.num q) = .val (.num 59) := by
  rw [py_cprNL_unfold, if_pos h]
/-- Cython: `abs(lat) <= 1e-08` gives 59 -/
theorem c_cprNL_zero_tie (q : Rat) (h : |q| ≤ (1 : Rat) / 100000000) :
    Gen.c_common.cprNL (.num q) = .val (.num 59) := by
  rw [c_cprNL_unfold, if_pos h]

/-- `lat > 87 or lat < -87` gives 1 -/
theorem cprNL_polar_tie (q : Rat) (h : 87 < |q|) : Gen.py_common.cprNL (.num q) = .val (.num 1) := by
  rw [py_cprNL_unfold, if_neg (not_zero_of_polar h), if_pos ((polar_iff q).mp h)]
theorem c_cprNL_polar_tie (q : Rat) (h : 87 < |q|) : Gen.c_common.cprNL (.num q) = .val (.num 1) := by
  rw [c_cprNL_unfold, if_neg (not_zero_of_polar h), if_pos ((polar_iff q).mp h)]

/-- `np.isclose(abs(lat), 87)`, i.e. `| |lat| − 87 | ≤ 1e-8 + 1e-5·|87|`, reached only for `|lat| ≤ 87`: gives 2.
    The window is `86.99912999 ≤ |lat| ≤ 87`. -/
theorem cprNL_87_tie (q : Rat) (h1 : |q| ≤ 87)
    (h2 : |(|q| - 87)| ≤ (1 : Rat) / 100000000 + (1 : Rat) / 100000 * 87) :
    Gen.py_common.cprNL (.num q) = .val (.num 2) := by
  rw [py_cprNL_unfold, if_neg (not_zero_of_87 h2), if_neg (fun h => absurd ((polar_iff q).mpr h) (not_lt.mpr h1)),
    if_pos h2]
/-- Cython: `abs(abs(lat) - 87) <= 1e-08 + 1e-05 * 87` (the same rational inequality) gives 2 -/
theorem c_cprNL_87_tie (q : Rat) (h1 : |q| ≤ 87)
    (h2 : |(|q| - 87)| ≤ (1 : Rat) / 100000000 + (1 : Rat) / 100000 * 87) :
    Gen.c_common.cprNL (.num q) = .val (.num 2) := by
  rw [c_cprNL_unfold, if_neg (not_zero_of_87 h2), if_neg (fun h => absurd ((polar_iff q).mpr h) (not_lt.mpr h1)),
    if_pos h2]

/-- the `isclose` window around 87 in plain form -/
theorem window_87_iff (q : Rat) :
    (|q| ≤ 87 ∧ |(|q| - 87)| ≤ (1 : Rat) / 100000000 + (1 : Rat) / 100000 * 87) ↔
      ((8699912999 : Rat) / 100000000 ≤ |q| ∧ |q| ≤ 87) := by
  rw [window_const]
  constructor
  · rintro ⟨h1, h2⟩
    rw [abs_of_nonpos (sub_nonpos.mpr h1), neg_sub, sub_le_sub_iff_left] at h2
    exact ⟨h2, h1⟩
  · rintro ⟨h1, h2⟩
    rw [abs_of_nonpos (sub_nonpos.mpr h2), neg_sub, sub_le_sub_iff_left]
    exact ⟨h2, h1⟩

/-! ### on the guard regions: both generated functions = hand model `PyModeS.cprNL` = exact staircase -/

/-- the hand model (Model/CPR.lean) in the same shape -/
theorem model_cprNL_unfold (q : Rat) :
    PyModeS.cprNL q =
      if |q| ≤ (1 : Rat) / 100000000 then 59
      else if 87 < q ∨ q < -87 then 1
      else if |(|q| - 87)| ≤ (1 : Rat) / 100000000 + (1 : Rat) / 100000 * 87 then 2
      else nlStair |q| := by
  unfold PyModeS.cprNL
  have e : (87 : Rat) / 100000 = (1 : Rat) / 100000 * 87 := by norm_num
  simp only [C06.rabs_eq_abs, e, gt_iff_lt]

/-- the three guard regions -/
def NLGuardRegion (q : Rat) : Prop :=
  |q| ≤ (1 : Rat) / 100000000 ∨ 87 < |q| ∨
    (|q| ≤ 87 ∧ |(|q| - 87)| ≤ (1 : Rat) / 100000000 + (1 : Rat) / 100000 * 87)

/-- On the three guard regions the two generated functions return the same value, that value is the hand model's
    `PyModeS.cprNL q`, and it is the exact DO-260B staircase `nlStair |q|` (C06: θ₃ = 86.5353…° lies below the whole
    `isclose` window 86.99912999 ≤ |q| ≤ 87, so the short-cut 2 is the exact value on all of it; NL(87) = 2, NL = 1
    above; 59 below θ₅₉ = 10.47…°).  No disagreement on any guard region. -/
theorem cprNL_guards_agree_tie (q : Rat) (h : NLGuardRegion q) :
    Gen.py_common.cprNL (.num q) = .val (Val.ofNat (PyModeS.cprNL q)) ∧
    Gen.c_common.cprNL (.num q) = .val (Val.ofNat (PyModeS.cprNL q)) ∧
    Gen.c_common.cprNL (.num q) = Gen.py_common.cprNL (.num q) ∧
    PyModeS.cprNL q = nlStair |q| := by
  have e59 : Val.ofNat 59 = .num 59 := by simp [Val.ofNat]
  have e1 : Val.ofNat 1 = .num 1 := by simp [Val.ofNat]
  have e2 : Val.ofNat 2 = .num 2 := by simp [Val.ofNat]
  refine ⟨?_, ?_, ?_, C06.cprNL_eq_stair_abs q⟩
  · rcases h with h | h | ⟨h1, h2⟩
    · rw [cprNL_zero_tie q h, model_cprNL_unfold, if_pos h, e59]
    · rw [cprNL_polar_tie q h, model_cprNL_unfold, if_neg (not_zero_of_polar h), if_pos ((polar_iff q).mp h), e1]
    · rw [cprNL_87_tie q h1 h2, model_cprNL_unfold, if_neg (not_zero_of_87 h2),
        if_neg (fun h => absurd ((polar_iff q).mpr h) (not_lt.mpr h1)), if_pos h2, e2]
  · rcases h with h | h | ⟨h1, h2⟩
    · rw [c_cprNL_zero_tie q h, model_cprNL_unfold, if_pos h, e59]
    · rw [c_cprNL_polar_tie q h, model_cprNL_unfold, if_neg (not_zero_of_polar h), if_pos ((polar_iff q).mp h), e1]
    · rw [c_cprNL_87_tie q h1 h2, model_cprNL_unfold, if_neg (not_zero_of_87 h2),
        if_neg (fun h => absurd ((polar_iff q).mpr h) (not_lt.mpr h1)), if_pos h2, e2]
  · rcases h with h | h | ⟨h1, h2⟩
    · rw [c_cprNL_zero_tie q h, cprNL_zero_tie q h]
    · rw [c_cprNL_polar_tie q h, cprNL_polar_tie q h]
    · rw [c_cprNL_87_tie q h1 h2, cprNL_87_tie q h1 h2]

/-- concrete values on the guard regions, exact staircase included: the ends of the 87-window and of the 0-window -/
theorem cprNL_guard_values :
    Gen.py_common.cprNL (.num 87) = .val (.num 2) ∧ Gen.c_common.cprNL (.num 87) = .val (.num 2) ∧ nlStair 87 = 2 ∧
    Gen.py_common.cprNL (.num (8699912999 / 100000000)) = .val (.num 2) ∧
    Gen.c_common.cprNL (.num (-8699912999 / 100000000)) = .val (.num 2) ∧
    nlStair (8699912999 / 100000000) = 2 ∧
    Gen.py_common.cprNL (.num (870000001 / 10000000)) = .val (.num 1) ∧ nlStair (870000001 / 10000000) = 1 ∧
    Gen.py_common.cprNL (.num (1 / 100000000)) = .val (.num 59) ∧ nlStair (1 / 100000000) = 59 := by
  refine ⟨cprNL_87_tie _ ?_ ?_, c_cprNL_87_tie _ ?_ ?_, C06.nlStair_87' _ (by norm_num) (by norm_num),
    cprNL_87_tie _ ?_ ?_, c_cprNL_87_tie _ ?_ ?_, C06.nlStair_87' _ (by norm_num) (by norm_num),
    cprNL_polar_tie _ ?_, C06.nlStair_gt_87 _ (by norm_num), cprNL_zero_tie _ ?_, C06.nlStair_59 _ (by norm_num)⟩ <;>
  norm_num [abs_of_pos, abs_of_neg]

/-! ### the main branch -/

/-- Outside the three guard regions the generated Python function IS the explicit float expression `nlMain id |q|`
    (`NLG.nlMain`: `⌊2π / acos(1 − (1 − cos(π/30)) / cos(π/180·|q|)²)⌋` with `cos`, `acos`, π in double precision).
    `_partial`: the right side is that float expression, not the hand model `PyModeS.cprNL`.  The two are linked by
    `NLFloatOK q` (`nlMain id |q| = .val (Val.ofNat (nlStair |q|))`), a statement about the values of libm `cos`/`acos`
    (Lean `Float`, opaque to the kernel) that `cprNL_tie_partial` takes as its hypothesis. -/
theorem cprNL_main_branch_tie_partial (q : Rat) (h0 : (1 : Rat) / 100000000 < |q|) (h87 : |q| ≤ 87)
    (hw : (1 : Rat) / 100000000 + (1 : Rat) / 100000 * 87 < |(|q| - 87)|) :
    Gen.py_common.cprNL (.num q) = nlMain id |q| := by
  rw [py_cprNL_unfold, if_neg (not_le.mpr h0), if_neg (fun h => absurd ((polar_iff q).mpr h) (not_lt.mpr h87)),
    if_neg (not_le.mpr hw)]

/-- the Cython function: the same float expression, then `cPost` = `<long>` (saturating), `long`, `int` (wrapping) -/
theorem c_cprNL_main_branch_tie_partial (q : Rat) (h0 : (1 : Rat) / 100000000 < |q|) (h87 : |q| ≤ 87)
    (hw : (1 : Rat) / 100000000 + (1 : Rat) / 100000 * 87 < |(|q| - 87)|) :
    Gen.c_common.cprNL (.num q) = nlMain cPost |q| := by
  rw [c_cprNL_unfold, if_neg (not_le.mpr h0), if_neg (fun h => absurd ((polar_iff q).mpr h) (not_lt.mpr h87)),
    if_neg (not_le.mpr hw)]

/-- the main-branch region in plain form: `1e-8 < |q| < 86.99912999` -/
theorem main_region_iff (q : Rat) :
    ((1 : Rat) / 100000000 < |q| ∧ |q| ≤ 87 ∧ (1 : Rat) / 100000000 + (1 : Rat) / 100000 * 87 < |(|q| - 87)|) ↔
      ((1 : Rat) / 100000000 < |q| ∧ |q| < (8699912999 : Rat) / 100000000) := by
  rw [window_const]
  constructor
  · rintro ⟨h0, h1, h2⟩
    rw [abs_of_nonpos (sub_nonpos.mpr h1), neg_sub, sub_lt_sub_iff_left] at h2
    exact ⟨h0, h2⟩
  · rintro ⟨h0, h1⟩
    have h87 : |q| ≤ 87 := h1.le.trans (by norm_num)
    rw [abs_of_nonpos (sub_nonpos.mpr h87), neg_sub, sub_lt_sub_iff_left]
    exact ⟨h0, h87, h1⟩

/-! ### the two modules against each other, and the full tie with the float evaluation named as the hypothesis -/

namespace NLG
theorem ofInt_inj {a b : Int} (h : (Res.val (Val.ofInt a) : Res Val) = .val (Val.ofInt b)) : a = b := by
  simp only [Val.ofInt, Res.val.injEq, Val.num.injEq] at h
  exact_mod_cast h

/-- the C conversions do nothing to a main-branch result that fits a C `int` -/
theorem nlMain_cPost (x : Rat) (n : Int) (h0 : -2147483648 ≤ n) (h1 : n < 2147483648)
    (h : nlMain id x = .val (Val.ofInt n)) : nlMain cPost x = .val (Val.ofInt n) := by
  revert h
  unfold nlMain
  generalize fl1 Float.cos (piF / 30) = o1
  generalize fl1 Float.cos (piF / 180 * x) = o2
  rcases o1 with _ | c30
  · exact id
  rcases o2 with _ | cl
  · exact id
  simp only
  by_cases hb : cl ^ 2 = 0
  · rw [if_pos hb, if_pos hb]; exact id
  rw [if_neg hb, if_neg hb]
  generalize fl1 Float.acos (1 - (1 - c30) / cl ^ 2) = o3
  rcases o3 with _ | ac
  · exact id
  simp only
  by_cases hc : ac = 0
  · rw [if_pos hc, if_pos hc]; exact id
  rw [if_neg hc, if_neg hc]
  intro h
  have e : (2 * piF / ac).floor = n := ofInt_inj h
  rw [e, cPost_of_range h0 h1]
end NLG

/-- Every rational latitude: whenever the generated Python `cprNL` returns an integer that fits a C `int`, the generated
    Cython `cprNL` returns the same integer (guards: identical rational inequalities; main branch: the same float
    expression, and the C conversions are the identity on such a value). -/
theorem c_cprNL_eq_py_tie_partial (q : Rat) (n : Int) (h0 : -2147483648 ≤ n) (h1 : n < 2147483648)
    (h : Gen.py_common.cprNL (.num q) = .val (Val.ofInt n)) :
    Gen.c_common.cprNL (.num q) = .val (Val.ofInt n) := by
  rw [py_cprNL_unfold] at h
  rw [c_cprNL_unfold]
  split_ifs at h ⊢
  · exact h
  · exact h
  · exact h
  · exact nlMain_cPost _ n h0 h1 h

/-- the float evaluation, named: at latitude `q` the double-precision main branch returns the exact staircase value.
    NOT true for every rational `q`: within about 1e-12° of a transition latitude the double-precision expression can
    land on the other side (observed with `#eval`, i.e. compiled `Float`, not kernel-checked:
    `q = 10470471299967/10¹²` (1e-12° below the enclosure of θ₅₉) evaluates to 58 where `nlStair` is 59;
    `q = 14828174368686/10¹²` to 57 where `nlStair` is 58; at distance 1e-9° from all 58 enclosures the two agree).
    C06 (`grid_avoids_transitions_sharp`) keeps every CPR grid latitude more than 8069e-12° away from the transitions. -/
def NLFloatOK (q : Rat) : Prop := nlMain id |q| = .val (Val.ofNat (nlStair |q|))

/-- Full tie of both generated functions to the hand model `PyModeS.cprNL` (= the exact DO-260B staircase, C06), for
    every rational latitude, with the float evaluation `NLFloatOK q` as the only hypothesis — and that hypothesis is
    used only outside the three guard regions (`cprNL_guards_agree_tie` needs none).
    `_partial`: `hf : NLFloatOK q` stands for the evaluation of libm `cos`/`acos` on doubles at `|q|`; it is proved
    nowhere, and matters on `1e-8 < |q| < 86.99912999` only (`main_region_iff`). -/
theorem cprNL_tie_partial (q : Rat) (hf : NLFloatOK q) :
    Gen.py_common.cprNL (.num q) = .val (Val.ofNat (PyModeS.cprNL q)) ∧
    Gen.c_common.cprNL (.num q) = .val (Val.ofNat (PyModeS.cprNL q)) := by
  have hpy : Gen.py_common.cprNL (.num q) = .val (Val.ofNat (PyModeS.cprNL q)) := by
    by_cases hg : NLGuardRegion q
    · exact (cprNL_guards_agree_tie q hg).1
    · unfold NLGuardRegion at hg
      rw [not_or, not_or] at hg
      obtain ⟨g1, g2, g3⟩ := hg
      have g2' : ¬ (87 < q ∨ q < -87) := fun h => g2 ((polar_iff q).mpr h)
      have g3' : ¬ |(|q| - 87)| ≤ (1 : Rat) / 100000000 + (1 : Rat) / 100000 * 87 :=
        fun h => g3 ⟨not_lt.mp g2, h⟩
      rw [py_cprNL_unfold, model_cprNL_unfold, if_neg g1, if_neg g2', if_neg g3', if_neg g1, if_neg g2', if_neg g3']
      exact hf
  refine ⟨hpy, ?_⟩
  rw [← CB.ofInt_natCast] at hpy ⊢
  have hr := (C06.cprNL_range q).2
  exact c_cprNL_eq_py_tie_partial q _ (by omega) (by omega) hpy

end PyModeS.Tie
