/-
  Tie: generated `bds08.callsign` = hand model `PyModeS.callsign` (`Model/Adsb.lean`).
-/
import PyModeS.Tie.Basic
import PyModeS.Tie.Common
import PyModeS.Tie.Bds08
import PyModeS.Generated.Src.bds08

namespace PyModeS.Tie
open PyModeS PyModeS.Py PyModeS.CRC

private theorem slice_slice' {α} (a b c e : Nat) (l : List α) (h : c + b ≤ e) :
    slice a b (slice c e l) = slice (c + a) (c + b) l :=
  slice_slice a b c e l h

/-- the literal in the source is the table the hand model uses -/
private theorem chars_lit :
    "#ABCDEFGHIJKLMNOPQRSTUVWXYZ#####_###############0123456789######".toList = Tables.callsignChars := rfl

/-- the eight table look-ups of `callsign` followed by `.replace("#", "")`, for any table -/
private theorem cs_core (tbl : List Char) (d : Bits) :
    (do let cs ← pyAdd (Val.str []) (← Py.pyIdx (Val.str tbl) (← Gen.py_common.bin2int (← pySliceNN (Val.ofBits d) 0 6)))
        let cs ← pyAdd cs (← Py.pyIdx (Val.str tbl) (← Gen.py_common.bin2int (← pySliceNN (Val.ofBits d) 6 12)))
        let cs ← pyAdd cs (← Py.pyIdx (Val.str tbl) (← Gen.py_common.bin2int (← pySliceNN (Val.ofBits d) 12 18)))
        let cs ← pyAdd cs (← Py.pyIdx (Val.str tbl) (← Gen.py_common.bin2int (← pySliceNN (Val.ofBits d) 18 24)))
        let cs ← pyAdd cs (← Py.pyIdx (Val.str tbl) (← Gen.py_common.bin2int (← pySliceNN (Val.ofBits d) 24 30)))
        let cs ← pyAdd cs (← Py.pyIdx (Val.str tbl) (← Gen.py_common.bin2int (← pySliceNN (Val.ofBits d) 30 36)))
        let cs ← pyAdd cs (← Py.pyIdx (Val.str tbl) (← Gen.py_common.bin2int (← pySliceNN (Val.ofBits d) 36 42)))
        let cs ← pyAdd cs (← Py.pyIdx (Val.str tbl) (← Gen.py_common.bin2int (← pySliceNN (Val.ofBits d) 42 48)))
        let cs ← pyReplace cs (Val.str ['#']) (Val.str [])
        (pure cs : Res Val)) =
    (chars8 tbl d >>= fun cs => .val (.str (cs.filter (fun c => decide (c ≠ '#'))))) := by
  unfold chars8
  have hr : List.range 8 = [0, 1, 2, 3, 4, 5, 6, 7] := by decide
  simp only [table_step, hr, mapM_cons, mapM_nil, bind_assoc, Res.bind_val, pyReplace_remove]
  rfl

/-- the type-code guard `tc is None or tc < 1 or tc > 4` once the type code is known -/
theorem callsign_guard_tc (tc : Nat) :
    (do let b__1 ← pyIs (Val.ofOptNat (some tc)) Val.none
        if pyTruth b__1 then pure b__1 else (do
          let b__2 ← pyLt (Val.ofOptNat (some tc)) (Val.num 1)
          if pyTruth b__2 then pure b__2 else pyGt (Val.ofOptNat (some tc)) (Val.num 4))) =
      .val (.bool (decide (tc < 1 ∨ tc > 4))) := by
  simp only [Val.ofOptNat, pyIs_none_num, bind_val', pyTruth_bool, Bool.false_eq_true, if_false,
    pyLt_num, pyGt_num, Res.pure_eq]
  by_cases h1 : tc < 1
  · have : (tc : Rat) < 1 := by exact_mod_cast h1
    simp [h1, this]
  · have h1' : ¬ ((tc : Rat) < 1) := by exact_mod_cast h1
    by_cases h4 : tc > 4
    · have : (4 : Rat) < (tc : Rat) := by exact_mod_cast h4
      simp [h1, h1', h4, this]
    · have : ¬ ((4 : Rat) < (tc : Rat)) := by exact_mod_cast h4
      simp [h1, h1', h4, this]

theorem callsign_tie (m : Msg) (h : IsHex m) (hl : 10 ≤ m.length) :
    Gen.bds08.callsign (.str m) = (PyModeS.callsign (hex2binM m) >>= fun s => .val (.str s)) := by
  unfold Gen.bds08.callsign PyModeS.callsign
  rw [← chars_lit]
  generalize "#ABCDEFGHIJKLMNOPQRSTUVWXYZ#####_###############0123456789######".toList = tbl
  have hne : m ≠ [] := by intro e; rw [e] at hl; simp at hl
  rw [typecode_str m h hl, typecode_eq, bind_val']
  generalize tcB (hex2binM m) = o
  rcases o with _ | tc
  · rfl
  · rw [callsign_guard_tc, bind_val']
    by_cases hg : tc < 1 ∨ tc > 4
    · simp only [hg, decide_true, pyTruth_bool, if_true, bind_rte']
    · simp only [hg, decide_false, pyTruth_bool, Bool.false_eq_true, if_false]
      rw [hex2bin_str m h hne, bind_val', pySliceNN_ofBits, bind_val']
      rw [cs_core tbl _, bind_assoc]
      rfl

end PyModeS.Tie
