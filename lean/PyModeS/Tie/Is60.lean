/-
  Tie: generated `bds60.is60` = hand model `PyModeS.is60` (`Model/Commb.lean`) on every 28-digit hex frame,
  for the instance of the model's float-conversion parameter `iasOfMach` that the generated code computes:
  `aero.mach2cas(mach, alt * aero.ft) / aero.kts`, with `aero.mach2cas` evaluated in double precision by the
  external `Ext.aero_mach2cas` and the two unit constants exact rationals.
-/
import PyModeS.Tie.Common
import PyModeS.Tie.Bds60

namespace PyModeS.Tie
open PyModeS PyModeS.Py PyModeS.CRC

/-- what the generated `is60` computes for `aero.mach2cas(mach, alt * aero.ft) / aero.kts`:
    `Ext.aero_mach2cas` (double precision) on the exact arguments, divided by the exact `aero.kts` -/
def extIas (mach : Rat) (alt : Int) : Rat :=
  floatToRat (PyModeS.Aero.mach2cas (ratToFloat mach) (ratToFloat ((alt : Rat) * ((381 : Rat) / 1250)))) /
    ((128611 : Rat) / 250000)

/-- `extIas` is the value of the generated expression `aero.mach2cas(mach, alt * aero.ft) / aero.kts` -/
theorem extIas_spec (mach : Rat) (alt : Int) :
    (do pyDiv (← Gen.Ext.aero_mach2cas (.num mach) (← pyMul (.num (alt : Rat)) Gen.aero.ft)) Gen.aero.kts) =
      .val (.num (extIas mach alt)) := by
  have hk : ((128611 : Rat) / 250000) ≠ 0 := by norm_num
  simp only [Gen.aero.ft, Gen.aero.kts, pyMul_num, bind_val', Gen.Ext.aero_mach2cas, num?_num, pyDiv_num _ _ hk, extIas]

/-- `abs(ias - ias_) > 20` → `False`, else `True` -/
theorem iasDiffers (x y : Rat) :
    (pySub (.num x) (.num y) >>= fun d => pyAbs d >>= fun a => pyGt a (.num 20) >>= fun c =>
      if pyTruth c = true then Res.val (Val.bool false) else Res.val (Val.bool true)) =
      .val (.bool (!decide (rabs (x - y) > 20))) := by
  simp only [pySub_num, pyAbs_num, pyGt_num, bind_val', pyTruth_bool, rabs, gt_iff_lt]
  generalize x - y = z
  by_cases hc : (20 : Rat) < (if z < 0 then -z else z) <;> simp [hc]

theorem is60_tie (m : Msg) (h : IsHex m) (hl : m.length = 28) :
    Gen.bds60.is60 (.str m) = (PyModeS.is60 extIas (hex2binM m) >>= fun b => .val (.bool b)) := by
  unfold Gen.bds60.is60
  -- the model runs the altitude check after `is60Core`; the source runs it as the last step of one guard sequence
  conv_rhs =>
    arg 1
    simp only [PyModeS.is60, PyModeS.is60Core, bind_assoc, Res.ite_bind, pure_bind, Bool.not_false, Bool.not_true,
      if_true, Bool.false_eq_true, if_false]
  refine pred_open m h hl _ _ fun d _ => ?_
  refine status_step d [(1, 2, 12), (13, 14, 23), (24, 25, 34), (35, 36, 45), (46, 47, 56)] (by decide) _ _ ?_
  refine guard_step (ias60_tie m h hl) (gateGt · 500) _ _ fun oi hi => ?_
  refine guard_step (mach60_tie m h hl) (gateGt · 1) _ _ fun om hm => ?_
  refine guard_step (vr60baro_tie m h hl) (gateAbsGt · 6000) _ _ fun _ _ => ?_
  refine guard_step (vr60ins_tie m h hl) (gateAbsGt · 6000) _ _ fun _ _ => ?_
  -- the check against the altitude of a DF20 reply
  rw [PyModeS.is60AltCheck, hm, hi, ← df_eq]
  rcases om with _ | mach
  · rfl
  rcases oi with _ | ias
  · rfl
  have hdf := pyEq_ofNat (PyModeS.df m) 20
  simp only [Nat.cast_ofNat] at hdf
  simp only [Val.ofOptRat, pyIsNot_none_num, Res.bind_val, pyTruth_bool, if_true, df_str m h (by omega), hdf,
    decide_eq_true_eq]
  by_cases hd : PyModeS.df m = 20
  swap
  · simp only [hd, if_false]
    rfl
  have halt : PyModeS.altcode m = altitude13 (slice 19 32 (hex2binM m)) := by simp [PyModeS.altcode, hd]
  simp only [hd, if_true, altcode_tie m h (by omega), halt]
  rcases altitude13 (slice 19 32 (hex2binM m)) with ((_ | a) | _ | _)
  · rfl
  · have hk : ((128611 : Rat) / 250000) ≠ 0 := by norm_num
    have hext : ∀ x y : Rat, Gen.Ext.aero_mach2cas (.num x) (.num y) =
        .val (.num (floatToRat (PyModeS.Aero.mach2cas (ratToFloat x) (ratToFloat y)))) := fun _ _ => rfl
    simp only [Val.ofOptInt, Res.bind_val, pyIsNot_none_num, pyTruth_bool, if_true, Gen.aero.ft, Gen.aero.kts,
      pyMul_num, hext, pyDiv_num _ _ hk, extIas]
    exact iasDiffers _ _
  · rfl
  · rfl

end PyModeS.Tie
