/-
  Tie: generated `bds50.py` = hand model (`Model/Commb.lean`) on every 28-digit hex frame.
-/
import PyModeS.Tie.Commb
import PyModeS.Generated.Src.bds50

namespace PyModeS.Tie
open PyModeS PyModeS.Py PyModeS.CRC

theorem roll50_tie (m : Msg) (h : IsHex m) (hl : m.length = 28) :
    Gen.bds50.roll50 (.str m) = (PyModeS.roll50 (hex2binM m) >>= fun o => .val (Val.ofOptRat o)) := by
  unfold Gen.bds50.roll50 PyModeS.roll50
  refine field_open m h hl _ _ _ fun d _ => sfield_step d 0 1 2 11 512 rfl (45 / 256) _ fun x => ?_
  rw [pyMul_num, Res.bind_val, pyDiv_num _ _ (by norm_num), mul_div_assoc]

theorem gs50_tie (m : Msg) (h : IsHex m) (hl : m.length = 28) :
    Gen.bds50.gs50 (.str m) = (PyModeS.gs50 (hex2binM m) >>= fun o => .val (Val.ofOptRat o)) := by
  unfold Gen.bds50.gs50 PyModeS.gs50
  refine field_open m h hl _ _ _ fun d _ => ufield_step d 23 24 34 2 0 _ fun v => ?_
  simp only [Val.ofNat, pyMul_num, add_zero]

theorem tas50_tie (m : Msg) (h : IsHex m) (hl : m.length = 28) :
    Gen.bds50.tas50 (.str m) = (PyModeS.tas50 (hex2binM m) >>= fun o => .val (Val.ofOptRat o)) := by
  unfold Gen.bds50.tas50 PyModeS.tas50
  refine field_open m h hl _ _ _ fun d _ => ufield_step d 45 46 56 2 0 _ fun v => ?_
  simp only [Val.ofNat, pyMul_num, add_zero]

theorem rtrk50_tie (m : Msg) (h : IsHex m) (hl : m.length = 28) :
    Gen.bds50.rtrk50 (.str m) = (PyModeS.rtrk50 (hex2binM m) >>= fun o => .val (Val.ofOptRat o)) := by
  unfold Gen.bds50.rtrk50 PyModeS.rtrk50
  refine field_open m h hl _ _ _ fun d _ => sfield_step d 34 35 36 45 512 rfl (8 / 256) _ fun x => ?_
  rw [pyMul_num, Res.bind_val, pyDiv_num _ _ (by norm_num), mul_div_assoc]

theorem trk50_tie (m : Msg) (h : IsHex m) (hl : m.length = 28) :
    Gen.bds50.trk50 (.str m) = (PyModeS.trk50 (hex2binM m) >>= fun o => .val (Val.ofOptRat o)) := by
  unfold Gen.bds50.trk50 PyModeS.trk50
  exact field_open m h hl _ _ _ fun d _ => heading_step d 11 12 13 23 rfl

theorem is50_tie (m : Msg) (h : IsHex m) (hl : m.length = 28) :
    Gen.bds50.is50 (.str m) = (PyModeS.is50 (hex2binM m) >>= fun b => .val (.bool b)) := by
  unfold Gen.bds50.is50 PyModeS.is50
  refine pred_open m h hl _ _ fun d _ => ?_
  refine status_step d [(1, 2, 11), (12, 13, 23), (24, 25, 34), (35, 36, 45), (46, 47, 56)] (by decide) _ _ ?_
  refine guard_step (roll50_tie m h hl) (gateAbsGt · 50) _ _ fun _ _ => ?_
  refine guard_step (gs50_tie m h hl) (gateGt · 600) _ _ fun gs _ => ?_
  refine guard_step (tas50_tie m h hl) (gateGt · 600) _ _ fun tas _ => ?_
  -- `gs is not None and tas is not None and abs(tas - gs) > 200`
  rcases gs with _ | g
  · rfl
  rcases tas with _ | t
  · rfl
  simp only [Val.ofOptRat, pyIsNot_none_num, Res.bind_val, pyTruth_bool, if_true, pySub_num, pyAbs_num, pyGt_num, rabs,
    gt_iff_lt, Res.pure_eq]
  cases decide (200 < if t - g < 0 then -(t - g) else t - g) <;> rfl

end PyModeS.Tie
