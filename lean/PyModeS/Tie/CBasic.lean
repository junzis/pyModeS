/-
  Tie: generated `c_common` (the Cython module `src/pyModeS/c_common.pyx`, transliterated with explicit C conversions)
  = hand-written C-semantics model `PyModeS.C` (`Model/CCommon.lean`): the conversion helpers
  char_to_int, int_to_char, hex2bin, bin2int, hex2int, then df, data, allzeros, typecode, bin2hex, wrongstatus,
  and the transports `c_<f>_eq_py_tie` (generated C function = generated Python function where no overflow occurs).

  Helper lemmas live in `PyModeS.Tie.CB`; the results `c_<f>_tie` in `PyModeS.Tie`.
-/
import PyModeS.Tie.Crc
import PyModeS.Generated.Src.c_common
import PyModeS.Properties.C15
namespace PyModeS.Tie.CB
open PyModeS PyModeS.Py PyModeS.CRC PyModeS.CC CrcTie

theorem truncInt?_int (i : Int) : truncInt? (.num (i : Rat)) = some i := by
  simp only [truncInt?]
  have hf : ∀ j : Int, Rat.floor (j : Rat) = j := by
    intro j
    have : Rat.floor (j : Rat) = ⌊(j : Rat)⌋ := rfl
    rw [this]; exact Int.floor_intCast j
  by_cases h : (i : Rat) < 0
  · rw [if_pos h]
    have : (-(i : Rat)) = ((-i : Int) : Rat) := by push_cast; rfl
    rw [this, hf]; simp
  · rw [if_neg h, hf]

theorem wrapSigned64 (i : Int) : wrapSigned 64 i = C.wrap64 i := by
  unfold wrapSigned C.wrap64
  have h1 : (((2 ^ 64 : Nat) : Int)) = (2 : Int) ^ 64 := by norm_num
  have h2 : ((2 : Int) ^ 64) / 2 = 2 ^ 63 := by norm_num
  simp only [h1, h2]

theorem wrapSigned32 (i : Int) : wrapSigned 32 i = C.wrap32 i := by
  unfold wrapSigned C.wrap32
  have h1 : (((2 ^ 32 : Nat) : Int)) = (2 : Int) ^ 32 := by norm_num
  have h2 : ((2 : Int) ^ 32) / 2 = 2 ^ 31 := by norm_num
  simp only [h1, h2]

theorem cConvLong_int (i : Int) : cConvLong (Val.ofInt i) = .val (Val.ofInt (C.wrap64 i)) := by
  simp only [cConvLong, Val.ofInt, truncInt?_int, wrapSigned64]

theorem cConvInt_int (i : Int) : cConvInt (Val.ofInt i) = .val (Val.ofInt (C.wrap32 i)) := by
  simp only [cConvInt, Val.ofInt, truncInt?_int, wrapSigned32]

theorem ofInt_natCast (n : Nat) : Val.ofInt (n : Int) = Val.ofNat n := by
  simp [Val.ofInt, Val.ofNat]

theorem cConvUchar_int (i : Int) : cConvUchar (Val.ofInt i) = .val (Val.ofNat (i % 256).toNat) := by
  simp only [cConvUchar, Val.ofInt, truncInt?_int]
  rw [← ofInt_natCast, Int.toNat_of_nonneg (Int.emod_nonneg _ (by decide))]
  rfl

theorem cConvUchar_ofNat (n : Nat) : cConvUchar (Val.ofNat n) = .val (Val.ofNat (n % 256)) := by
  rw [← ofInt_natCast, cConvUchar_int]
  congr 2

theorem cConvUchar_char (c : Char) : cConvUchar (.str [c]) = .val (Val.ofNat (c.toNat % 256)) := rfl

theorem cConvInt_ofNat (n : Nat) (h : n < 2147483648) : cConvInt (Val.ofNat n) = .val (Val.ofNat n) := by
  rw [← ofInt_natCast, cConvInt_int, wrap32_of_range (by omega) (by omega)]

theorem cConvLong_ofNat (n : Nat) (h : n < 9223372036854775808) : cConvLong (Val.ofNat n) = .val (Val.ofNat n) := by
  rw [← ofInt_natCast, cConvLong_int, wrap64_of_range (by omega) (by omega)]

/-- the body of `char_to_int` on a byte value -/
def charToIntN (n : Nat) : Nat :=
  if 48 ≤ n ∧ n ≤ 57 then n - 48
  else if 97 ≤ n ∧ n ≤ 102 then n - 97 + 10
  else if 65 ≤ n ∧ n ≤ 70 then n - 65 + 10
  else 0

theorem charToInt_eq_N (c : Char) : C.charToInt c = charToIntN (c.toNat % 256) := rfl

/-- a non-negative integer literal of the generated text read as an integer -/
theorem num_lit_int (n : Nat) : Val.num (no_index (OfNat.ofNat n)) = Val.ofInt (OfNat.ofNat n) := by
  simp [Val.ofInt]

theorem char_to_int_body (k : Nat) (hk : k < 256) (v : Val) (hv : cConvUchar v = .val (Val.ofNat k)) :
    Gen.c_common.char_to_int v = .val (Val.ofNat (charToIntN k)) := by
  unfold Gen.c_common.char_to_int charToIntN
  simp only [hv, bind_val', num_lit, Res.pure_eq, chain_le, pyTruth_bool, decide_eq_true_eq]
  split_ifs with h1 h2 h3
  · rw [pySub_ofNat _ _ h1.1, bind_val', cConvInt_ofNat _ (by omega)]
  · rw [pySub_ofNat _ _ h2.1, bind_val', pyAdd_ofNat, bind_val', cConvInt_ofNat _ (by omega)]
  · rw [pySub_ofNat _ _ h3.1, bind_val', pyAdd_ofNat, bind_val', cConvInt_ofNat _ (by omega)]
  · rw [cConvInt_ofNat _ (by omega)]

/-- the body of `int_to_char` on a byte value -/
def intToCharN (n : Nat) : Nat := if n < 10 then 48 + n else (87 + n) % 256

end PyModeS.Tie.CB

namespace PyModeS.Tie
open PyModeS PyModeS.Py PyModeS.CRC PyModeS.CC CrcTie CB

/-- `char_to_int(c)` on a byte value (an item of a `bytes` object) -/
theorem c_char_to_int_tie (c : Char) :
    Gen.c_common.char_to_int (Val.ofNat c.toNat) = .val (Val.ofNat (C.charToInt c)) := by
  rw [charToInt_eq_N]
  exact char_to_int_body _ (Nat.mod_lt _ (by decide)) _ (cConvUchar_ofNat _)

/-- `char_to_int(c)` on a one-character string -/
theorem c_char_to_int_tie_str (c : Char) :
    Gen.c_common.char_to_int (.str [c]) = .val (Val.ofNat (C.charToInt c)) := by
  rw [charToInt_eq_N]
  exact char_to_int_body _ (Nat.mod_lt _ (by decide)) _ (cConvUchar_char _)

/-- `char_to_int(n)` on any non-negative integer (reduced mod 256 by the `unsigned char` parameter) -/
theorem c_char_to_int_nat (n : Nat) :
    Gen.c_common.char_to_int (Val.ofNat n) = .val (Val.ofNat (charToIntN (n % 256))) :=
  char_to_int_body _ (Nat.mod_lt _ (by decide)) _ (cConvUchar_ofNat _)

theorem c_int_to_char_tie (n : Nat) :
    Gen.c_common.int_to_char (Val.ofNat n) = .val (Val.ofNat (intToCharN (n % 256))) := by
  unfold Gen.c_common.int_to_char intToCharN
  have hk : n % 256 < 256 := Nat.mod_lt _ (by decide)
  simp only [cConvUchar_ofNat, bind_val', num_lit, pyLt_ofNat, pyTruth_bool,
    decide_eq_true_eq, pySub_ofNat _ _ (by decide : 10 ≤ 97), pyAdd_ofNat]
  generalize n % 256 = k at hk
  split_ifs with h1
  · rw [Nat.mod_eq_of_lt (by omega)]
  · rfl

theorem c_int_to_char_digit (n : Nat) (h : n < 10) :
    Gen.c_common.int_to_char (Val.ofNat n) = .val (Val.ofNat (48 + n)) := by
  rw [c_int_to_char_tie, Nat.mod_eq_of_lt (by omega), intToCharN, if_pos h]

theorem c_int_to_char_bit (b : Bool) :
    Gen.c_common.int_to_char (Val.ofNat b.toNat) = .val (Val.ofNat b.toDigit.toNat) := by
  cases b
  · exact c_int_to_char_digit 0 (by decide)
  · exact c_int_to_char_digit 1 (by decide)

end PyModeS.Tie

namespace PyModeS.Tie.CB
open PyModeS PyModeS.Py PyModeS.CRC PyModeS.CC CrcTie

/-! ### loops over `range(0, n)`, byte strings -/

/-- loop rule for `for i in range(0, n)`: an invariant indexed by the number of completed iterations -/
theorem Post.forRange {σ} (enc : Nat → Val) (Inv : Nat → σ → Prop) (f : Val → σ → Res (ForInStep σ)) (n : Nat)
    (s0 : σ) (h0 : Inv 0 s0)
    (hstep : ∀ i, i < n → ∀ s, Inv i s → Post (f (enc i) s) (fun r => ∃ s', r = .yield s' ∧ Inv (i + 1) s')) :
    Post (forIn ((List.range n).map enc) s0 f) (Inv n) := by
  have := Post.forIdx enc f (List.range n) Inv s0 h0 (fun k hk s hs => by
    rw [List.getElem_range]
    exact hstep k (by simpa using hk) s hs)
  rwa [List.length_range] at this

/-- `s.encode()` of an ASCII string: the list of code points -/
theorem pyEncode_ascii (m : Msg) (h : IsAscii m) : pyEncode (.str m) = .val (natList (m.map Char.toNat)) := by
  have : (m.all fun c => decide (c.toNat < 128)) = true := by
    rw [List.all_eq_true]; intro c hc; simpa using h c hc
  simp only [pyEncode, this, if_true, natList, List.map_map]
  rfl

theorem pyBytes_repr (l : List Nat) : pyBytes (natList l) = .val (natList l) := rfl
theorem pyBytearray_repr (l : List Nat) : pyBytearray (natList l) = .val (natList l) := rfl
theorem pyBytearray_ofNat (n : Nat) : pyBytearray (Val.ofNat n) = .val (natList (List.replicate n 0)) := by
  simp only [pyBytearray, int?_ofNat, natList, List.map_replicate]
  rfl
theorem cConvObj_eq (v : Val) : cConvObj v = .val v := rfl
theorem cConvStr_str (s : List Char) : cConvStr (.str s) = .val (.str s) := rfl
theorem cConvSsize_ofNat (n : Nat) (h : n < 2 ^ 63) : cConvSsize (Val.ofNat n) = .val (Val.ofNat n) :=
  cConvLong_ofNat n (by omega)

theorem mapM_bits (g : Val → Option Char) (hg : ∀ x : Bool, g (Val.ofNat x.toDigit.toNat) = some x.toDigit)
    (b : Bits) : (List.map Val.ofNat (b.map fun x => x.toDigit.toNat)).mapM g = some (b.map Bool.toDigit) := by
  induction b with
  | nil => rfl
  | cons x b ih => simp only [List.map_cons, List.mapM_cons, ih, hg]; rfl

/-- `b.decode()` of the bytes of a '0'/'1' string -/
theorem pyDecode_bits (b : Bits) : pyDecode (natList (b.map fun x => x.toDigit.toNat)) = .val (Val.ofBits b) := by
  unfold pyDecode natList Val.ofBits
  simp only []
  rw [mapM_bits _ ?_ b]
  intro x
  cases x <;> rfl

theorem charToIntN_lt (n : Nat) (h : n < 256) : charToIntN n < 16 := by
  unfold charToIntN; split_ifs <;> omega

theorem charToInt_lt (c : Char) : C.charToInt c < 16 := by
  rw [charToInt_eq_N]; exact charToIntN_lt _ (Nat.mod_lt _ (by decide))

theorem bit_digit (x : Nat) (h : x < 2) : (x == 1).toDigit.toNat = 48 + x := by
  interval_cases x <;> rfl

theorem and_one_lt (x : Nat) : x &&& 1 < 2 := by
  rw [Nat.and_one_is_mod]; omega

theorem set4 (A T : List Nat) (p : Nat) (hp : A.length = p) (x0 x1 x2 x3 a b c d : Nat) :
    ((((A ++ x0 :: x1 :: x2 :: x3 :: T).set p a).set (p + 1) b).set (p + 2) c).set (p + 3) d =
      A ++ a :: b :: c :: d :: T := by
  subst hp
  induction A with
  | nil => rfl
  | cons y A ih => simp []

theorem getD_map_toNat (m : Msg) (i : Nat) (h : i < m.length) : (m.map Char.toNat).getD i 0 = (m[i]).toNat := by
  simp [List.getD_eq_getElem?_getD, h]

theorem hex2bin_take_succ (m : Msg) (i : Nat) (h : i < m.length) :
    C.hex2bin (m.take (i + 1)) = C.hex2bin (m.take i) ++
      (let v := C.charToInt m[i]; [(v >>> 3) &&& 1 == 1, (v >>> 2) &&& 1 == 1, (v >>> 1) &&& 1 == 1, v &&& 1 == 1]) := by
  unfold C.hex2bin
  rw [List.take_add_one, List.flatMap_append, List.getElem?_eq_getElem h]
  simp

end PyModeS.Tie.CB

namespace PyModeS.Tie
open PyModeS PyModeS.Py PyModeS.CRC PyModeS.CC CrcTie CB

/-- `c_common.hex2bin(hexstr)` on an ASCII string (`pyEncode` models `str.encode()` on ASCII only: one byte per
    character).  The length bound is the range of `Py_ssize_t` (`cConvSsize` wraps to 64 bits). -/
theorem c_hex2bin_tie (m : Msg) (h : IsAscii m) (hl : m.length < 2 ^ 63) :
    Gen.c_common.hex2bin (.str m) = .val (Val.ofBits (C.hex2bin m)) := by
  apply Post.eq
  unfold Gen.c_common.hex2bin
  simp only [cConvStr_str, bind_val', pyEncode_ascii m h, pyBytes_repr, pyLen_repr, List.length_map,
    cConvSsize_ofNat _ hl, num_lit, pyMul_ofNat, pyBytearray_ofNat, cConvObj_eq, pyRange_ofNat,
    pyIter_tuple]
  refine Post.bind (Post.forRange Val.ofNat
    (fun k (s : Val × Val × Val) => s.1 = natList ((C.hex2bin (m.take k)).map (fun x => x.toDigit.toNat) ++
        List.replicate (4 * (m.length - k)) 0)) _ _ _ (by simp [C.hex2bin]) ?step) ?final
  case step =>
    rintro i hi ⟨s1, s2, s3⟩ rfl
    simp only []
    have hlen : ((C.hex2bin (m.take i)).map (fun x => x.toDigit.toNat)).length = 4 * i := by
      rw [List.length_map, c_hex2bin_eq_of_ascii _ (isAscii_take h i), hex2binM_length, List.length_take,
        Nat.min_eq_left (Nat.le_of_lt hi)]
    have hrep : List.replicate (4 * (m.length - i)) 0 = 0 :: 0 :: 0 :: 0 :: List.replicate (4 * (m.length - (i + 1))) 0 := by
      have : 4 * (m.length - i) = 4 * (m.length - (i + 1)) + 4 := by omega
      rw [this]; rfl
    rw [hrep]
    rw [hex2bin_take_succ m i hi, List.map_append]
    generalize hA : (C.hex2bin (m.take i)).map (fun x => x.toDigit.toNat) = A at hlen ⊢
    generalize List.replicate (4 * (m.length - (i + 1))) 0 = T
    have hv := charToInt_lt m[i]
    rw [pyIdx_repr _ _ (by simpa using hi), bind_val', getD_map_toNat m i hi, c_char_to_int_tie, bind_val',
      cConvUchar_ofNat, Nat.mod_eq_of_lt (by omega), bind_val']
    generalize C.charToInt m[i] = v at hv ⊢
    have b3 := and_one_lt (v >>> 3)
    have b2 := and_one_lt (v >>> 2)
    have b1 := and_one_lt (v >>> 1)
    have b0 := and_one_lt v
    simp (disch := ((try simp only [List.length_set, List.length_append, List.length_cons]); omega)) only
      [pyMul_ofNat, bind_val', pyShr_ofNat, pyBitAnd_ofNat, c_int_to_char_digit,
       pySetItem_repr, pyAdd_ofNat, Res.pure_eq]
    refine Post.val ⟨_, rfl, ?_⟩
    simp only [List.map_cons, List.map_nil, bit_digit _ b3, bit_digit _ b2, bit_digit _ b1, bit_digit _ b0]
    rw [set4 A T (4 * i) hlen, List.append_assoc]
    rfl
  case final =>
    rintro ⟨a1, a2, a3⟩ rfl
    simp only [List.take_length, Nat.sub_self, Nat.mul_zero, List.replicate_zero, List.append_nil, pyDecode_bits,
      bind_val', cConvStr]
    exact Post.val rfl

end PyModeS.Tie

namespace PyModeS.Tie.CB
open PyModeS PyModeS.Py PyModeS.CRC PyModeS.CC CrcTie

/-! ### `bin2int`, `hex2int`: `cumul = K*cumul + char_to_int(b[i])` on a C long -/

theorem pyMul_ofNat_ofInt (k : Nat) (a : Int) : pyMul (Val.ofNat k) (Val.ofInt a) = .val (Val.ofInt (k * a)) := by
  simp [Val.ofNat, Val.ofInt]
theorem pyAdd_ofInt_ofNat (a : Int) (b : Nat) : pyAdd (Val.ofInt a) (Val.ofNat b) = .val (Val.ofInt (a + b)) := by
  simp [Val.ofNat, Val.ofInt]
theorem ofInt_zero : Val.num 0 = Val.ofInt 0 := by simp [Val.ofInt]

theorem wrap64_zero : C.wrap64 0 = 0 := by decide

theorem wrap64_idem (x : Int) : C.wrap64 (C.wrap64 x) = C.wrap64 x := wrap64_congr (wrap64_emod x)

/-- the accumulation of the two loops, as a fold over the characters -/
def accC (K : Nat) (m : Msg) : Int := m.foldl (fun acc c => C.wrap64 (K * acc + C.charToInt c)) 0

theorem accC_take_succ (K : Nat) (m : Msg) (i : Nat) (h : i < m.length) :
    accC K (m.take (i + 1)) = C.wrap64 (K * accC K (m.take i) + C.charToInt m[i]) := by
  unfold accC
  rw [List.take_add_one, List.foldl_append, List.getElem?_eq_getElem h]
  rfl

theorem accC_idem (K : Nat) (m : Msg) : C.wrap64 (accC K m) = accC K m := by
  rcases List.eq_nil_or_concat m with rfl | ⟨l, c, rfl⟩
  · exact wrap64_zero
  · unfold accC
    rw [List.concat_eq_append, List.foldl_append]
    exact wrap64_idem _

theorem accLoop (K : Nat) (m : Msg) (i0 : Val) :
    Post (forIn ((List.range m.length).map Val.ofNat) (i0, Val.ofInt 0) (fun it__1 (__s : Val × Val) => do
        let __do_lift ← pyMul (Val.ofNat K) __s.2
        let __do_lift_1 ← Py.pyIdx (natList (m.map Char.toNat)) it__1
        let __do_lift_2 ← Gen.c_common.char_to_int __do_lift_1
        let __do_lift ← pyAdd __do_lift __do_lift_2
        let cumul ← cConvLong __do_lift
        pure (ForInStep.yield (it__1, cumul))))
      (fun s => s.2 = Val.ofInt (accC K m)) := by
  have key := fun f => Post.forRange Val.ofNat (fun k (s : Val × Val) => s.2 = Val.ofInt (accC K (m.take k))) f
    m.length (i0, Val.ofInt 0) rfl
  simp only [List.take_length] at key
  refine key _ ?_
  rintro i hi ⟨s1, s2⟩ rfl
  simp only []
  rw [pyMul_ofNat_ofInt, bind_val', pyIdx_repr _ _ (by simpa using hi), bind_val', getD_map_toNat m i hi,
    c_char_to_int_tie, bind_val', pyAdd_ofInt_ofNat, bind_val', cConvLong_int, bind_val']
  exact Post.val ⟨_, rfl, by simp only [accC_take_succ K m i hi]⟩

theorem accC_bits (b : Bits) : accC 2 (b.map Bool.toDigit) = C.bin2int b := by
  unfold accC C.bin2int
  rw [List.foldl_map]
  congr 1
  funext acc x
  cases x <;> rfl

theorem isAscii_bits (b : Bits) : IsAscii (b.map Bool.toDigit) := by
  intro c hc
  rw [List.mem_map] at hc
  obtain ⟨x, _, rfl⟩ := hc
  cases x <;> decide

end PyModeS.Tie.CB

namespace PyModeS.Tie
open PyModeS PyModeS.Py PyModeS.CRC PyModeS.CC CrcTie CB

/-- `c_common.bin2int(binstr)` on any ASCII string: the 64-bit accumulation `cumul = 2*cumul + char_to_int(c)` -/
theorem c_bin2int_str (m : Msg) (h : IsAscii m) (hl : m.length < 2 ^ 63) :
    Gen.c_common.bin2int (.str m) = .val (Val.ofInt (accC 2 m)) := by
  apply Post.eq
  unfold Gen.c_common.bin2int
  simp only [cConvStr_str, bind_val', pyEncode_ascii m h, pyBytearray_repr, cConvObj_eq, pyLen_repr, List.length_map,
    cConvSsize_ofNat _ hl, ofInt_zero, cConvLong_int, wrap64_zero, num_lit 2]
  rw [← ofInt_zero, num_zero_ofNat, pyRange_ofNat, bind_val', pyIter_tuple, bind_val']
  refine Post.bind (accLoop 2 m _) ?_
  rintro ⟨a1, a2⟩ rfl
  simp only [cConvLong_int, accC_idem]
  exact Post.val rfl

/-- `c_common.bin2int(binstr)` on a bit string (no condition on its length beyond the range of `Py_ssize_t`) -/
theorem c_bin2int_tie (b : Bits) (hl : b.length < 2 ^ 63) :
    Gen.c_common.bin2int (Val.ofBits b) = .val (Val.ofInt (C.bin2int b)) := by
  rw [Val.ofBits, c_bin2int_str _ (isAscii_bits b) (by simpa using hl), accC_bits]

/-- `c_common.hex2int(hexstr)` on an ASCII string -/
theorem c_hex2int_tie (m : Msg) (h : IsAscii m) (hl : m.length < 2 ^ 63) :
    Gen.c_common.hex2int (.str m) = .val (Val.ofInt (C.hex2int m)) := by
  apply Post.eq
  unfold Gen.c_common.hex2int
  simp only [cConvStr_str, bind_val', pyEncode_ascii m h, pyBytearray_repr, cConvObj_eq, pyLen_repr, List.length_map,
    cConvSsize_ofNat _ hl, ofInt_zero, cConvLong_int, wrap64_zero, num_lit 16]
  rw [← ofInt_zero, num_zero_ofNat, pyRange_ofNat, bind_val', pyIter_tuple, bind_val']
  refine Post.bind (accLoop 16 m _) ?_
  rintro ⟨a1, a2⟩ rfl
  simp only [cConvLong_int, accC_idem]
  exact Post.val rfl

end PyModeS.Tie

namespace PyModeS.Tie.CB
open PyModeS PyModeS.Py PyModeS.CRC PyModeS.CC CrcTie

/-! ### df, typecode, data, allzeros, bin2hex, wrongstatus -/

theorem c_hex2bin_length (m : Msg) : (C.hex2bin m).length = 4 * m.length := by
  unfold C.hex2bin
  induction m with
  | nil => rfl
  | cons c m ih => simp only [List.flatMap_cons, List.length_append, ih, List.length_cons, List.length_nil]; omega

theorem c_bin2int_idem (b : Bits) : C.wrap64 (C.bin2int b) = C.bin2int b := by
  rw [← accC_bits, accC_idem]

theorem cConvStr_ofBits (b : Bits) : cConvStr (Val.ofBits b) = .val (Val.ofBits b) := rfl

theorem pyGt_ofInt_ofNat (a : Int) (b : Nat) : pyGt (Val.ofInt a) (Val.ofNat b) = .val (.bool (decide ((b : Int) < a))) := by
  simp only [Val.ofInt, Val.ofNat, pyGt_num]
  congr 2
  have : ((b : Rat) < (a : Rat)) ↔ ((b : Int) < a) := by
    rw [← Int.cast_natCast (R := Rat) b]; exact Int.cast_lt
  exact decide_eq_decide.mpr this

theorem lit17 : Val.num 17 = Val.ofNat 17 := num_lit _
theorem lit18 : Val.num 18 = Val.ofNat 18 := num_lit _
theorem litm1 : Val.num (-1) = Val.ofInt (-1) := by simp [Val.ofInt]
theorem wrap32_m1 : C.wrap32 (-1) = -1 := by decide

theorem pySlice_N_str (m : Msg) (k : Nat) : pySlice_N (.str m) k = .val (.str (m.take k)) := rfl
theorem pySliceNN_str (m : Msg) (a b : Nat) : pySliceNN (.str m) a b = .val (.str (slice a b m)) := rfl

end PyModeS.Tie.CB

namespace PyModeS.Tie
open PyModeS PyModeS.Py PyModeS.CRC PyModeS.CC CrcTie CB

/-- `c_common.df(msg)` on any ASCII string (no length condition: a short string gives fewer bits, `bin2int('')` is 0 in C) -/
theorem c_df_tie (m : Msg) (h : IsAscii m) : Gen.c_common.df (.str m) = .val (Val.ofNat (C.df m)) := by
  unfold Gen.c_common.df C.df
  have hl2 : (m.take 2).length < 2 ^ 63 := by
    have : (m.take 2).length ≤ 2 := by simp
    omega
  have hl5 : (slice 0 5 (C.hex2bin (m.take 2))).length < 2 ^ 63 := by
    have : (slice 0 5 (C.hex2bin (m.take 2))).length ≤ 5 := by rw [slice_length]; omega
    omega
  simp only [cConvStr_str, bind_val', pySlice_N_str, c_hex2bin_tie _ (isAscii_take h 2) hl2, cConvStr_ofBits,
    pySliceNN_ofBits, c_bin2int_tie _ hl5, cConvLong_int, c_bin2int_idem, num_lit, pyGt_ofInt_ofNat, pyTruth_bool,
    cConvUchar_ofNat, cConvUchar_int, decide_eq_true_eq]
  split_ifs <;> first | rfl | omega

/-- `c_common.typecode(msg)` on any ASCII string: −1 instead of `None` -/
theorem c_typecode_tie (m : Msg) (h : IsAscii m) : Gen.c_common.typecode (.str m) = .val (Val.ofInt (C.typecode m)) := by
  unfold Gen.c_common.typecode C.typecode
  have hg := @notin_ite Val (C.df m) [17, 18]
  simp only [List.map_cons, List.map_nil, Nat.cast_ofNat, List.mem_cons, List.not_mem_nil, or_false] at hg
  have hm : (C.df m ≠ 17 ∧ C.df m ≠ 18) ↔ ¬ (C.df m = 17 ∨ C.df m = 18) := not_or.symm
  have hl2 : (slice 8 10 m).length < 2 ^ 63 := by
    have : (slice 8 10 m).length ≤ 2 := by rw [slice_length]; omega
    omega
  have hl5 : (slice 0 5 (C.hex2bin (slice 8 10 m))).length < 2 ^ 63 := by
    have : (slice 0 5 (C.hex2bin (slice 8 10 m))).length ≤ 5 := by rw [slice_length]; omega
    omega
  simp only [cConvStr_str, bind_val', c_df_tie m h, hg, hm, ite_not, litm1, cConvInt_int, wrap32_m1, pySliceNN_str,
    c_hex2bin_tie _ (isAscii_slice h 8 10) hl2, cConvStr_ofBits, pySliceNN_ofBits, c_bin2int_tie _ hl5,
    apply_ite (fun x => Res.val (Val.ofInt x))]

/-- `c_common.data(msg)` = `msg[8:-6]` -/
theorem c_data_tie (m : Msg) : Gen.c_common.data (.str m) = .val (.str (dataM m)) := by
  have := data_str m
  unfold Gen.py_common.data at this
  unfold Gen.c_common.data
  simp only [cConvStr_str, bind_val', this]

end PyModeS.Tie

namespace PyModeS.Tie.CB
open PyModeS PyModeS.Py PyModeS.CRC PyModeS.CC CrcTie

theorem dataM_length (m : Msg) : (dataM m).length = m.length - 14 := by
  simp only [dataM, dropLast, List.length_drop, List.length_take]; omega

theorem dataM_length_le (m : Msg) : (dataM m).length ≤ m.length := by
  rw [dataM_length]; omega

theorem isAscii_dataM {m : Msg} (h : IsAscii m) : IsAscii (dataM m) :=
  fun c hc => h c (List.mem_of_mem_take (List.mem_of_mem_drop hc))

theorem pySub_ofNat_one (n : Nat) (h : 1 ≤ n) : pySub (Val.ofNat n) (Val.num 1) = .val (Val.ofNat (n - 1)) := by
  simp [Val.ofNat, Nat.cast_sub h]

theorem pyIdx_ofBits (d : Bits) (k : Nat) : Py.pyIdx (Val.ofBits d) (Val.ofNat k) = pyIdxN (Val.ofBits d) k := by
  have : ¬ ((k : Int) < 0) := by omega
  simp only [Py.pyIdx, int?_ofNat, pyIdxN, Val.ofBits, idxList, this, if_false, Int.toNat_natCast]

theorem pySlice_ofBits (d : Bits) (a b : Nat) :
    pySlice (Val.ofBits d) (some (Val.ofNat a)) (some (Val.ofNat b)) = .val (Val.ofBits (slice a b d)) := by
  have i0 : ∀ n : Nat, optInt (some (Val.ofNat n)) = .val (some (n : Int)) := by
    intro n
    have := int?_ofNat n
    unfold Val.ofNat at this ⊢
    simp only [optInt, this]
  simp only [pySlice, i0, Res.bind_val, Val.ofBits, sliceList, normBound_nonneg, List.length_map]
  simp only [slice, List.map_take, List.map_drop]
  congr 2
  rcases Nat.lt_or_ge d.length a with hlt | hge
  · rw [Nat.min_eq_right (Nat.le_of_lt hlt), List.drop_eq_nil_of_le (by simp), List.drop_eq_nil_of_le (by simp; omega)]
    simp
  · rw [Nat.min_eq_left hge]
    rcases Nat.lt_or_ge d.length b with hlt2 | hge2
    · rw [Nat.min_eq_right (Nat.le_of_lt hlt2)]
      rw [List.take_of_length_le (by simp only [List.length_drop, List.length_map]; omega),
        List.take_of_length_le (by simp only [List.length_drop, List.length_map]; omega)]
    · rw [Nat.min_eq_left hge2]

theorem pyNe_ofInt_zero (a : Int) : pyNe (Val.ofInt a) (Val.num 0) = .val (.bool (a != 0)) := by
  simp only [Val.ofInt, pyNe_num]
  by_cases h : a = 0
  · subst h; rfl
  · have h' : ¬ ((a : Rat) = 0) := by exact_mod_cast h
    have e1 : ((a : Rat) == 0) = false := by simpa using h'
    have e2 : (a != 0) = true := by simpa using h
    rw [e1, e2]; rfl

end PyModeS.Tie.CB

namespace PyModeS.Tie
open PyModeS PyModeS.Py PyModeS.CRC PyModeS.CC CrcTie CB

/-- `c_common.allzeros(msg)` on any ASCII string: `False` iff the C long read from the data bits is positive
    (no exception on an empty data field, unlike py_common: `bin2int('')` is 0 in C) -/
theorem c_allzeros_tie (m : Msg) (h : IsAscii m) (hl : m.length < 2 ^ 61) :
    Gen.c_common.allzeros (.str m) = .val (.bool (decide (C.bin2int (C.hex2bin (dataM m)) ≤ 0))) := by
  unfold Gen.c_common.allzeros
  have hd := dataM_length_le m
  have hl1 : (dataM m).length < 2 ^ 63 := by omega
  have hl2 : (C.hex2bin (dataM m)).length < 2 ^ 63 := by rw [c_hex2bin_length]; omega
  simp only [cConvStr_str, bind_val', c_data_tie, c_hex2bin_tie _ (isAscii_dataM h) hl1, c_bin2int_tie _ hl2,
    num_zero_ofNat, pyGt_ofInt_ofNat, pyTruth_bool, decide_eq_true_eq, Nat.cast_zero]
  by_cases hp : 0 < C.bin2int (C.hex2bin (dataM m))
  · have : ¬ (C.bin2int (C.hex2bin (dataM m)) ≤ 0) := by omega
    simp only [hp, if_true, this, decide_false]; rfl
  · have : (C.bin2int (C.hex2bin (dataM m)) ≤ 0) := by omega
    simp only [hp, if_false, this, decide_true]; rfl

/-- `c_common.bin2hex` is the same text as `py_common.bin2hex` with `str` conversions: equal on every string -/
theorem c_bin2hex_tie (s : List Char) : Gen.c_common.bin2hex (.str s) = Gen.py_common.bin2hex (.str s) := by
  unfold Gen.c_common.bin2hex Gen.py_common.bin2hex
  simp only [cConvStr_str, bind_val']
  cases hv : pyInt2 (Val.str s) (Val.num 2) with
  | rte => rfl
  | exc => rfl
  | val v =>
    simp only [bind_val']
    unfold pyFmtHexU
    split <;> rfl

/-- `c_common.wrongstatus(d, sb, msb, lsb)` on a bit string, 1-based positions: the value is the C long of the slice
    (0 on an empty slice, where py_common raises) -/
theorem c_wrongstatus_tie (d : Bits) (sb msb lsb : Nat) (h1 : 1 ≤ sb) (h2 : 1 ≤ msb) (hl : d.length < 2 ^ 63) :
    Gen.c_common.wrongstatus (Val.ofBits d) (Val.ofNat sb) (Val.ofNat msb) (Val.ofNat lsb) =
      (idxR d (sb - 1) >>= fun s => .val (.bool (!s && C.bin2int (slice (msb - 1) lsb d) != 0))) := by
  unfold Gen.c_common.wrongstatus
  have hls : (slice (msb - 1) lsb d).length < 2 ^ 63 := by
    have : (slice (msb - 1) lsb d).length ≤ d.length := by rw [slice_length]; omega
    omega
  simp only [pySub_ofNat_one _ h1, pySub_ofNat_one _ h2, bind_val', pyIdx_ofBits, pySlice_ofBits, pyIdxN_ofBits,
    c_bin2int_tie _ hls]
  cases hi : idxR d (sb - 1) with
  | rte => rfl
  | exc => rfl
  | val s =>
    simp only [bind_val', pyInt1_digit, pyNe_ofInt_zero, cConvObj_eq]
    cases s <;> cases C.bin2int (slice (msb - 1) lsb d) != 0 <;> rfl

end PyModeS.Tie

/-! ### transports: generated C function = generated Python function where no overflow (and no `None`) is involved -/

namespace PyModeS.Tie
open PyModeS PyModeS.Py PyModeS.CRC PyModeS.CC CrcTie CB

theorem c_hex2bin_eq_py_tie (m : Msg) (h : IsHex m) (hne : m ≠ []) (hl : m.length < 2 ^ 63) :
    Gen.c_common.hex2bin (.str m) = Gen.py_common.hex2bin (.str m) := by
  rw [c_hex2bin_tie m (isAscii_of_isHex h) hl, C15.c_hex2bin_eq m h, hex2bin_str m h hne]

/-- at most 63 bits: no 64-bit wrap; at least one: `int('', 2)` raises in Python (C gives 0) -/
theorem c_bin2int_eq_py_tie (b : Bits) (h0 : 0 < b.length) (hl : b.length ≤ 63) :
    Gen.c_common.bin2int (Val.ofBits b) = Gen.py_common.bin2int (Val.ofBits b) := by
  rw [c_bin2int_tie b (by omega), C15.c_bin2int_eq_63 b hl, bin2int_ofBits, bin2intR_of_length h0, bind_val',
    ofInt_natCast]

/-- the empty string is where the two differ: 0 in C, `ValueError` in Python -/
theorem c_bin2int_nil : Gen.c_common.bin2int (Val.ofBits []) = .val (Val.ofInt 0) ∧
    Gen.py_common.bin2int (Val.ofBits []) = .exc := by
  refine ⟨c_bin2int_tie [] (by simp), ?_⟩
  rw [bin2int_ofBits]; rfl

/-- 64 ones: −1 in C, 2^64 − 1 in Python -/
theorem c_bin2int_wraps_tie :
    Gen.c_common.bin2int (Val.ofBits (List.replicate 64 true)) = .val (Val.ofInt (-1)) ∧
    Gen.py_common.bin2int (Val.ofBits (List.replicate 64 true)) = .val (Val.ofNat 18446744073709551615) := by
  refine ⟨?_, ?_⟩
  · rw [c_bin2int_tie _ (by simp), C15.c_bin2int_wraps_at_64.1]
  · rw [bin2int_ofBits, bin2intR_of_length (by simp), bind_val', C15.c_bin2int_wraps_at_64.2]

theorem c_hex2int_eq_py_tie (m : Msg) (h : IsHex m) (hne : m ≠ []) (hl : m.length ≤ 15) :
    Gen.c_common.hex2int (.str m) = Gen.py_common.hex2int (.str m) := by
  rw [c_hex2int_tie m (isAscii_of_isHex h) (by omega), C15.c_hex2int_eq m h hl, hex2int_tie m h hne, ofInt_natCast]

theorem c_df_eq_py_tie (m : Msg) (h : IsHex m) (hl : 2 ≤ m.length) :
    Gen.c_common.df (.str m) = Gen.py_common.df (.str m) := by
  rw [c_df_tie m (isAscii_of_isHex h), C15.c_df_eq m h, df_str m h hl]

/-- the documented sentinel: `None` of py_common is −1 in c_common -/
def tcSentinel : Val → Val
  | .none => Val.ofInt (-1)
  | v => v

theorem c_typecode_eq_py_tie (m : Msg) (h : IsHex m) (hl : 10 ≤ m.length) :
    Gen.c_common.typecode (.str m) = (Gen.py_common.typecode (.str m) >>= fun v => .val (tcSentinel v)) := by
  rw [c_typecode_tie m (isAscii_of_isHex h), C15.c_typecode_val m h, typecode_str m h hl, bind_val']
  cases PyModeS.typecode m with
  | none => rfl
  | some t => simp only [Val.ofOptNat, tcSentinel, Val.ofInt, Int.cast_natCast]

theorem c_data_eq_py_tie (m : Msg) : Gen.c_common.data (.str m) = Gen.py_common.data (.str m) := by
  rw [c_data_tie, data_str]

/-- `py_common.allzeros(msg)` on any hex string with a non-empty data field (`allzeros_str` is the 28-digit case) -/
theorem allzeros_gen (m : Msg) (h : IsHex m) (hne : dataM m ≠ []) :
    Gen.py_common.allzeros (.str m) = .val (.bool (PyModeS.bin2int (hex2binM (dataM m)) = 0)) := by
  unfold Gen.py_common.allzeros
  have hh : IsHex (dataM m) := fun c hc => h c (List.mem_of_mem_take (List.mem_of_mem_drop hc))
  have hpos : 0 < (hex2binM (dataM m)).length := by
    rw [hex2binM_length]; have := List.length_pos_of_ne_nil hne; omega
  simp only [data_str, Res.bind_val, hex2bin_str _ hh hne, bin2int_ofBits, bin2intR_of_length hpos, Val.ofNat, pyGt_num]
  by_cases hz : PyModeS.bin2int (hex2binM (dataM m)) = 0
  · simp [hz]
  · have : (0 : Rat) < (PyModeS.bin2int (hex2binM (dataM m)) : Rat) := by
      exact_mod_cast Nat.pos_of_ne_zero hz
    simp [hz, this]

/-- 15 to 29 hex digits: a non-empty data field of at most 60 bits -/
theorem c_allzeros_eq_py_tie (m : Msg) (h : IsHex m) (h15 : 15 ≤ m.length) (h29 : m.length ≤ 29) :
    Gen.c_common.allzeros (.str m) = Gen.py_common.allzeros (.str m) := by
  have hlen := dataM_length m
  have hne : dataM m ≠ [] := List.ne_nil_of_length_pos (by omega)
  have hh : IsHex (dataM m) := fun c hc => h c (List.mem_of_mem_take (List.mem_of_mem_drop hc))
  have hb : (hex2binM (dataM m)).length ≤ 63 := by rw [hex2binM_length]; omega
  rw [c_allzeros_tie m (isAscii_of_isHex h) (by omega), allzeros_gen m h hne, C15.c_hex2bin_eq _ hh,
    C15.c_bin2int_eq_63 _ hb]
  congr 2
  apply decide_eq_decide.mpr
  omega

/-- a 56-bit frame has no data field: `True` in C, `ValueError` in Python -/
theorem c_allzeros_nodata (m : Msg) (h : IsAscii m) (hl : m.length ≤ 14) :
    Gen.c_common.allzeros (.str m) = .val (.bool true) ∧ Gen.py_common.allzeros (.str m) = .exc := by
  have hd : dataM m = [] := List.eq_nil_of_length_eq_zero (by rw [dataM_length]; omega)
  refine ⟨?_, ?_⟩
  · rw [c_allzeros_tie m h (by omega), hd]; rfl
  · unfold Gen.py_common.allzeros
    rw [data_str, hd]
    rfl

theorem c_bin2hex_eq_py_tie (s : List Char) : Gen.c_common.bin2hex (.str s) = Gen.py_common.bin2hex (.str s) :=
  c_bin2hex_tie s

/-- a non-empty value field of at most 63 bits -/
theorem c_wrongstatus_eq_py_tie (d : Bits) (sb msb lsb : Nat) (h1 : 1 ≤ sb) (h2 : 1 ≤ msb) (hl : d.length < 2 ^ 63)
    (hne : msb - 1 < lsb) (hin : msb - 1 < d.length) (h63 : lsb - (msb - 1) ≤ 63) :
    Gen.c_common.wrongstatus (Val.ofBits d) (Val.ofNat sb) (Val.ofNat msb) (Val.ofNat lsb) =
      Gen.py_common.wrongstatus (Val.ofBits d) (Val.ofNat sb) (Val.ofNat msb) (Val.ofNat lsb) := by
  have hsl : (slice (msb - 1) lsb d).length ≤ 63 := by rw [slice_length]; omega
  rw [c_wrongstatus_tie d sb msb lsb h1 h2 hl, wrongstatus_ofBits d sb msb lsb h1 h2, PyModeS.wrongstatus,
    bin2intR_slice_of_lt d _ _ hne hin, C15.c_bin2int_eq_63 _ hsl]
  cases idxR d (sb - 1) with
  | rte => rfl
  | exc => rfl
  | val s =>
    simp only [bind_val', Res.pure_eq]
    congr 2
    generalize PyModeS.bin2int (slice (msb - 1) lsb d) = n
    have hb : ((n : Int) != 0) = (n != 0) := by
      rw [Bool.eq_iff_iff, bne_iff_ne, bne_iff_ne]; exact Int.natCast_ne_zero
    rw [hb]

end PyModeS.Tie
