/-
  C03 / C04 / C05 transported to the source-generated definitions of bds05.py / bds06.py / adsb.py: the CPR theorems
  (global airborne decode, decode with a reference position, global surface decode) stated about
  `Gen.bds05.airborne_position`, `Gen.bds05.airborne_position_with_ref`, `Gen.bds06.surface_position`,
  `Gen.bds06.surface_position_with_ref` and the dispatchers `Gen.adsb.position` / `Gen.adsb.position_with_ref` (the Lean
  text py2lean.py produced from the current Python source, NL function `common.cprNL`).  Each statement composes a tie
  theorem (`Tie/Cpr.lean`, `Tie/CprGlobal.lean`, `Tie/Adsb.lean`) with a theorem of `Properties/C03.lean`, `C04.lean`,
  `C05.lean`.  Frames are hex strings `m`; the hypotheses name the three CPR fields of `hex2binM m` (`cprF`, `cprYZ`,
  `cprXZ` below: ME bit 22, ME bits 23–39, ME bits 40–56).  The last section applies the generated decoders to the hex
  digits of frames built from the DO-260B encoder `Spec.cprEncode`.
-/
import PyModeS.Properties.C03
import PyModeS.Properties.C04
import PyModeS.Properties.C05
import PyModeS.Proofs.Fields.Frame
import PyModeS.Tie.Cpr
import PyModeS.Tie.CprGlobal
import PyModeS.Tie.Adsb

namespace PyModeS.C03Gen
open PyModeS PyModeS.Py PyModeS.CRC PyModeS.Spec

/-! ### the CPR fields of a frame -/

/-- ME bit 22 (frame bit 54): the CPR format, `false` = even, `true` = odd -/
def cprF (bits : Bits) : Bool := bits.getD 53 false
/-- ME bits 23–39: the 17-bit encoded latitude YZ -/
def cprYZ (bits : Bits) : Nat := bin2int (slice 54 71 bits)
/-- ME bits 40–56: the 17-bit encoded longitude XZ -/
def cprXZ (bits : Bits) : Nat := bin2int (slice 71 88 bits)

theorem bits_len (m : Msg) (hl : 22 ≤ m.length) : 88 ≤ (hex2binM m).length := by
  rw [hex2binM_length]; omega

theorem cprFields_eq (bits : Bits) (h : 88 ≤ bits.length) :
    cprFields bits = .val ⟨cprF bits, cprYZ bits, cprXZ bits⟩ := by
  unfold cprFields
  dsimp only
  rw [Fields.idxR_drop 32 21 (by omega), Fields.bin2intR_slice_drop rfl 32 22 39 (by omega) (by omega),
    Fields.bin2intR_slice_drop rfl 32 39 56 (by omega) (by omega)]
  simp only [Res.bind_val, Res.pure_eq, cprF, cprYZ, cprXZ, Nat.reduceAdd, List.getD_eq_getElem?_getD,
    List.getElem?_eq_getElem (show 53 < bits.length by omega), Option.getD_some]

theorem surfFields_eq (bits : Bits) (h : 88 ≤ bits.length) : surfFields bits = .val (cprYZ bits, cprXZ bits) := by
  unfold surfFields
  rw [Fields.bin2intR_slice rfl 54 71 (by omega) (by omega), Fields.bin2intR_slice rfl 71 88 (by omega) (by omega)]
  rfl

/-! ### the four generated decoders in terms of the fields -/

theorem gen_airborne (m0 m1 : Msg) (h0 : IsHex m0) (h1 : IsHex m1) (hl0 : 22 ≤ m0.length) (hl1 : 22 ≤ m1.length)
    (t0 t1 : Rat) :
    Gen.bds05.airborne_position (.str m0) (.str m1) (.num t0) (.num t1) =
      (airbornePositionCore cprNL ⟨cprF (hex2binM m0), cprYZ (hex2binM m0), cprXZ (hex2binM m0)⟩
        ⟨cprF (hex2binM m1), cprYZ (hex2binM m1), cprXZ (hex2binM m1)⟩ t0 t1 >>=
          fun o => .val (Tie.CprGlobal.encOptPos o)) := by
  rw [Tie.airborne_position_tie m0 m1 h0 h1 hl0 hl1 t0 t1]
  unfold airbornePosition
  rw [cprFields_eq _ (bits_len m0 hl0), cprFields_eq _ (bits_len m1 hl1)]
  rfl

theorem gen_surface (m0 m1 : Msg) (h0 : IsHex m0) (h1 : IsHex m1) (hl0 : 22 ≤ m0.length) (hl1 : 22 ≤ m1.length)
    (t0 t1 la lo : Rat) :
    Gen.bds06.surface_position (.str m0) (.str m1) (.num t0) (.num t1) (.num la) (.num lo) =
      .val (Tie.CprGlobal.encOptPos (surfacePositionCore cprNL (cprYZ (hex2binM m0), cprXZ (hex2binM m0))
        (cprYZ (hex2binM m1), cprXZ (hex2binM m1)) t0 t1 la lo)) := by
  rw [Tie.surface_position_tie m0 m1 h0 h1 (Tie.ne_nil_of_le hl0) (Tie.ne_nil_of_le hl1) t0 t1 la lo]
  unfold surfacePosition
  rw [surfFields_eq _ (bits_len m0 hl0), surfFields_eq _ (bits_len m1 hl1)]
  rfl

theorem gen_airborne_ref (m : Msg) (h : IsHex m) (hl : 22 ≤ m.length) (la lo : Rat) :
    Gen.bds05.airborne_position_with_ref (.str m) (.num la) (.num lo) =
      .val (.tuple [.num (positionWithRefCore cprNL 360
          ⟨cprF (hex2binM m), cprYZ (hex2binM m), cprXZ (hex2binM m)⟩ la lo).1,
        .num (positionWithRefCore cprNL 360 ⟨cprF (hex2binM m), cprYZ (hex2binM m), cprXZ (hex2binM m)⟩ la lo).2]) := by
  rw [Tie.airborne_position_with_ref_tie m h (Tie.ne_nil_of_le hl) la lo]
  unfold airbornePositionWithRef
  rw [cprFields_eq _ (bits_len m hl)]
  rfl

theorem gen_surface_ref (m : Msg) (h : IsHex m) (hl : 22 ≤ m.length) (la lo : Rat) :
    Gen.bds06.surface_position_with_ref (.str m) (.num la) (.num lo) =
      .val (.tuple [.num (positionWithRefCore cprNL 90
          ⟨cprF (hex2binM m), cprYZ (hex2binM m), cprXZ (hex2binM m)⟩ la lo).1,
        .num (positionWithRefCore cprNL 90 ⟨cprF (hex2binM m), cprYZ (hex2binM m), cprXZ (hex2binM m)⟩ la lo).2]) := by
  rw [Tie.surface_position_with_ref_tie m h (Tie.ne_nil_of_le hl) la lo]
  unfold surfacePositionWithRef
  rw [cprFields_eq _ (bits_len m hl)]
  rfl

/-- `None` read through the encoding of the tie -/
theorem optpos_none_iff (x : Res (Option (Rat × Rat))) :
    (x >>= fun o => (.val (Tie.CprGlobal.encOptPos o) : Res Val)) = .val .none ↔ x = .val none := by
  rcases x with ((_ | ⟨a, b⟩) | _ | _)
  · simp [Tie.CprGlobal.encOptPos]
  · simp [Tie.CprGlobal.encOptPos]
  · simp
  · simp

/-! ## C03 — airborne global decode (`bds05.airborne_position`) -/

/-- two frames of the same CPR format are rejected by the generated decoder with RuntimeError -/
theorem same_parity_runtimeError_tie (m0 m1 : Msg) (h0 : IsHex m0) (h1 : IsHex m1) (hl0 : 22 ≤ m0.length)
    (hl1 : 22 ≤ m1.length) (t0 t1 : Rat) (hp : cprF (hex2binM m0) = cprF (hex2binM m1)) :
    Gen.bds05.airborne_position (.str m0) (.str m1) (.num t0) (.num t1) = .rte := by
  rw [gen_airborne m0 m1 h0 h1 hl0 hl1, C03.same_parity_runtimeError cprNL _ _ t0 t1 hp]
  rfl

/-- passing (odd, even) instead of (even, odd), times swapped accordingly, gives the same result -/
theorem arg_order_irrelevant_tie (m0 m1 : Msg) (h0 : IsHex m0) (h1 : IsHex m1) (hl0 : 22 ≤ m0.length)
    (hl1 : 22 ≤ m1.length) (t0 t1 : Rat) (hf0 : cprF (hex2binM m0) = false) (hf1 : cprF (hex2binM m1) = true) :
    Gen.bds05.airborne_position (.str m1) (.str m0) (.num t1) (.num t0) =
      Gen.bds05.airborne_position (.str m0) (.str m1) (.num t0) (.num t1) := by
  rw [gen_airborne m0 m1 h0 h1 hl0 hl1, gen_airborne m1 m0 h1 h0 hl1 hl0,
    C03.arg_order_irrelevant cprNL ⟨cprF (hex2binM m0), cprYZ (hex2binM m0), cprXZ (hex2binM m0)⟩
      ⟨cprF (hex2binM m1), cprYZ (hex2binM m1), cprXZ (hex2binM m1)⟩ t0 t1 hf0 hf1]

/-- the generated decoder on an (even, odd) pair in terms of its intermediate values: `None` when the two candidate
    latitudes lie in different NL zones, otherwise the candidate of the newer frame and its wrapped longitude -/
theorem airborne_position_unfold_tie (m0 m1 : Msg) (h0 : IsHex m0) (h1 : IsHex m1) (hl0 : 22 ≤ m0.length)
    (hl1 : 22 ≤ m1.length) (t0 t1 : Rat) (hf0 : cprF (hex2binM m0) = false) (hf1 : cprF (hex2binM m1) = true) :
    Gen.bds05.airborne_position (.str m0) (.str m1) (.num t0) (.num t1) =
      (let f0 : CprFrame := ⟨false, cprYZ (hex2binM m0), cprXZ (hex2binM m0)⟩
       let f1 : CprFrame := ⟨true, cprYZ (hex2binM m1), cprXZ (hex2binM m1)⟩
       if cprNL (CPR.latEven f0 f1) ≠ cprNL (CPR.latOdd f0 f1) then .val .none
       else if t0 > t1 then
         .val (.tuple [.num (CPR.latEven f0 f1),
           .num (CPR.wrap180 (CPR.lonRaw 360 (cprNL (CPR.latEven f0 f1)) 0 f0.lon f1.lon f0.lon))])
       else
         .val (.tuple [.num (CPR.latOdd f0 f1),
           .num (CPR.wrap180 (CPR.lonRaw 360 (cprNL (CPR.latOdd f0 f1)) 1 f0.lon f1.lon f1.lon))])) := by
  rw [gen_airborne m0 m1 h0 h1 hl0 hl1, hf0, hf1, C03.decode_unfold cprNL _ _ t0 t1 rfl rfl]
  dsimp only
  split_ifs <;> rfl

/-- **none_iff_NL_differs.** Even and odd frame carrying the fields of two DO-260B encodings whose carried latitudes
    differ by less than 3/59°: the generated decoder returns `None` exactly when the two carried latitudes lie in
    different NL zones. -/
theorem none_iff_NL_differs_tie (m0 m1 : Msg) (h0 : IsHex m0) (h1 : IsHex m1) (hl0 : 22 ≤ m0.length)
    (hl1 : 22 ≤ m1.length) (lat0 lon0 lat1 lon1 t0 t1 : ℚ) (e0 e1 : Spec.Enc)
    (he0 : e0 = Spec.cprEncode cprNL 360 0 lat0 lon0) (he1 : e1 = Spec.cprEncode cprNL 360 1 lat1 lon1)
    (hf0 : cprF (hex2binM m0) = false) (hy0 : cprYZ (hex2binM m0) = e0.yz) (hx0 : cprXZ (hex2binM m0) = e0.xz)
    (hf1 : cprF (hex2binM m1) = true) (hy1 : cprYZ (hex2binM m1) = e1.yz) (hx1 : cprXZ (hex2binM m1) = e1.xz)
    (hr0 : -90 ≤ e0.rlat ∧ e0.rlat ≤ 90) (hr1 : -90 ≤ e1.rlat ∧ e1.rlat ≤ 90)
    (hclose : |e0.rlat - e1.rlat| < 3 / 59) :
    Gen.bds05.airborne_position (.str m0) (.str m1) (.num t0) (.num t1) = .val .none
      ↔ cprNL e0.rlat ≠ cprNL e1.rlat := by
  rw [gen_airborne m0 m1 h0 h1 hl0 hl1, hf0, hy0, hx0, hf1, hy1, hx1, optpos_none_iff]
  exact C03.none_iff_NL_differs cprNL lat0 lon0 lat1 lon1 t0 t1 e0 e1 he0 he1 hr0 hr1 hclose

/-- **global_decode.** Under the hypotheses of `none_iff_NL_differs_tie`, if both carried latitudes have the same
    `n = cprNL rlat` and — when `n ≥ 2` — the carried longitudes differ, modulo 360, by less than `180/(n(n−1))`, the
    generated decoder returns the position carried by the *newer* frame: the latitude exactly, the longitude as its
    representative modulo 360 in `(-180, 180]`. -/
theorem global_decode_tie (m0 m1 : Msg) (h0 : IsHex m0) (h1 : IsHex m1) (hl0 : 22 ≤ m0.length)
    (hl1 : 22 ≤ m1.length) (lat0 lon0 lat1 lon1 t0 t1 : ℚ) (e0 e1 : Spec.Enc)
    (he0 : e0 = Spec.cprEncode cprNL 360 0 lat0 lon0) (he1 : e1 = Spec.cprEncode cprNL 360 1 lat1 lon1)
    (hf0 : cprF (hex2binM m0) = false) (hy0 : cprYZ (hex2binM m0) = e0.yz) (hx0 : cprXZ (hex2binM m0) = e0.xz)
    (hf1 : cprF (hex2binM m1) = true) (hy1 : cprYZ (hex2binM m1) = e1.yz) (hx1 : cprXZ (hex2binM m1) = e1.xz)
    (hr0 : -90 ≤ e0.rlat ∧ e0.rlat ≤ 90) (hr1 : -90 ≤ e1.rlat ∧ e1.rlat ≤ 90)
    (hclose : |e0.rlat - e1.rlat| < 3 / 59)
    (hnl : cprNL e0.rlat = cprNL e1.rlat)
    (hlon : 2 ≤ cprNL e0.rlat → ∃ s : ℤ,
      |e0.rlon - e1.rlon - 360 * s| < 180 / ((cprNL e0.rlat : ℚ) * ((cprNL e0.rlat : ℚ) - 1))) :
    ∃ lon : ℚ,
      Gen.bds05.airborne_position (.str m0) (.str m1) (.num t0) (.num t1)
        = .val (.tuple [.num (if t0 > t1 then e0.rlat else e1.rlat), .num lon]) ∧
      (∃ z : ℤ, lon = (if t0 > t1 then e0.rlon else e1.rlon) + 360 * z) ∧
      -180 < lon ∧ lon ≤ 180 := by
  obtain ⟨lon, hdec, hz, hlo, hhi⟩ := C03.global_decode cprNL lat0 lon0 lat1 lon1 t0 t1 e0 e1 he0 he1 hr0 hr1
    hclose hnl hlon
  refine ⟨lon, ?_, hz, hlo, hhi⟩
  rw [gen_airborne m0 m1 h0 h1 hl0 hl1, hf0, hy0, hx0, hf1, hy1, hx1, hdec]
  rfl

/-! ## C04 — decode with a reference position (`bds05.airborne_position_with_ref`,
  `bds06.surface_position_with_ref`, `adsb.position_with_ref`) -/

/-- the generated `adsb.position_with_ref` routes by type code: the generated surface decoder for TC 5–8, the generated
    airborne decoder for TC 9–18 and 20–22, RuntimeError otherwise; the reference is handed on unchanged -/
theorem position_with_ref_routing_tie (m : Msg) (h : IsHex m) (hl : 10 ≤ m.length) (la lo : Val) (tc : Nat)
    (htc : tcB (hex2binM m) = some tc) :
    Gen.adsb.position_with_ref (.str m) la lo =
      if 5 ≤ tc ∧ tc ≤ 8 then Gen.bds06.surface_position_with_ref (.str m) la lo
      else if (9 ≤ tc ∧ tc ≤ 18) ∨ (20 ≤ tc ∧ tc ≤ 22) then Gen.bds05.airborne_position_with_ref (.str m) la lo
      else .rte := by
  rw [Tie.position_with_ref_tie m h hl la lo, C04.tc_routing _ tc htc]
  split_ifs <;> rfl

/-- … and RuntimeError on a frame without a type code (DF other than 17/18) -/
theorem position_with_ref_no_tc_tie (m : Msg) (h : IsHex m) (hl : 10 ≤ m.length) (la lo : Val)
    (htc : tcB (hex2binM m) = none) :
    Gen.adsb.position_with_ref (.str m) la lo = .rte := by
  rw [Tie.position_with_ref_tie m h hl la lo]
  unfold positionWithRefRoute
  rw [htc]
  rfl

/-- **ref_decode (airborne).** The frame carries the fields of the DO-260B encoding `e` of some position (format `i`);
    a reference latitude closer than half a latitude zone to the carried latitude and a reference longitude closer than
    half a longitude zone to the carried longitude shifted by `s` zones make the generated decoder return exactly the
    carried latitude and that shifted longitude. -/
theorem airborne_ref_decode_tie (m : Msg) (h : IsHex m) (hl : 22 ≤ m.length) (i : ℕ) (hi : i = 0 ∨ i = 1)
    (lat lon latRef lonRef : ℚ) (e : Spec.Enc) (he : e = Spec.cprEncode cprNL 360 i lat lon)
    (hf : cprF (hex2binM m) = decide (i = 1)) (hy : cprYZ (hex2binM m) = e.yz) (hx : cprXZ (hex2binM m) = e.xz)
    (s : ℤ) (hlat : |latRef - e.rlat| < e.dlat / 2) (hlon : |lonRef - (e.rlon + e.dlon * s)| < e.dlon / 2) :
    Gen.bds05.airborne_position_with_ref (.str m) (.num latRef) (.num lonRef) =
      .val (.tuple [.num e.rlat, .num (e.rlon + e.dlon * s)]) := by
  rw [gen_airborne_ref m h hl, hf, hy, hx,
    C04.ref_decode cprNL 360 (by norm_num) i hi lat lon latRef lonRef e he s hlat hlon]

/-- **ref_decode (surface)**: the same for the generated `surface_position_with_ref` (zones of `90°`) -/
theorem surface_ref_decode_tie (m : Msg) (h : IsHex m) (hl : 22 ≤ m.length) (i : ℕ) (hi : i = 0 ∨ i = 1)
    (lat lon latRef lonRef : ℚ) (e : Spec.Enc) (he : e = Spec.cprEncode cprNL 90 i lat lon)
    (hf : cprF (hex2binM m) = decide (i = 1)) (hy : cprYZ (hex2binM m) = e.yz) (hx : cprXZ (hex2binM m) = e.xz)
    (s : ℤ) (hlat : |latRef - e.rlat| < e.dlat / 2) (hlon : |lonRef - (e.rlon + e.dlon * s)| < e.dlon / 2) :
    Gen.bds06.surface_position_with_ref (.str m) (.num latRef) (.num lonRef) =
      .val (.tuple [.num e.rlat, .num (e.rlon + e.dlon * s)]) := by
  rw [gen_surface_ref m h hl, hf, hy, hx,
    C04.ref_decode cprNL 90 (by norm_num) i hi lat lon latRef lonRef e he s hlat hlon]

/-- **ref_lon_mod360 (airborne).** The longitude is recovered modulo 360: the reference picks the sheet `t`. -/
theorem airborne_ref_mod360_tie (m : Msg) (h : IsHex m) (hl : 22 ≤ m.length) (i : ℕ) (hi : i = 0 ∨ i = 1)
    (lat lon latRef lonRef : ℚ) (e : Spec.Enc) (he : e = Spec.cprEncode cprNL 360 i lat lon)
    (hf : cprF (hex2binM m) = decide (i = 1)) (hy : cprYZ (hex2binM m) = e.yz) (hx : cprXZ (hex2binM m) = e.xz)
    (t : ℤ) (hlat : |latRef - e.rlat| < e.dlat / 2) (hlon : |lonRef - e.rlon - 360 * t| < e.dlon / 2) :
    Gen.bds05.airborne_position_with_ref (.str m) (.num latRef) (.num lonRef) =
      .val (.tuple [.num e.rlat, .num (e.rlon + 360 * t)]) := by
  rw [gen_airborne_ref m h hl, hf, hy, hx, C04.ref_lat cprNL 360 (by norm_num) i hi lat lon latRef lonRef e he hlat,
    C04.ref_lon_mod360 cprNL i hi lat lon latRef lonRef e he t hlat hlon]

/-- **ref_lon_surface_mod360.** Surface frames: the same, the 360-degree sheet being `4 t` surface sheets. -/
theorem surface_ref_mod360_tie (m : Msg) (h : IsHex m) (hl : 22 ≤ m.length) (i : ℕ) (hi : i = 0 ∨ i = 1)
    (lat lon latRef lonRef : ℚ) (e : Spec.Enc) (he : e = Spec.cprEncode cprNL 90 i lat lon)
    (hf : cprF (hex2binM m) = decide (i = 1)) (hy : cprYZ (hex2binM m) = e.yz) (hx : cprXZ (hex2binM m) = e.xz)
    (t : ℤ) (hlat : |latRef - e.rlat| < e.dlat / 2) (hlon : |lonRef - e.rlon - 360 * t| < e.dlon / 2) :
    Gen.bds06.surface_position_with_ref (.str m) (.num latRef) (.num lonRef) =
      .val (.tuple [.num e.rlat, .num (e.rlon + 360 * t)]) := by
  rw [gen_surface_ref m h hl, hf, hy, hx, C04.ref_lat cprNL 90 (by norm_num) i hi lat lon latRef lonRef e he hlat,
    C04.ref_lon_surface_mod360 cprNL i hi lat lon latRef lonRef e he t hlat hlon]

/-- **ref_stable (airborne).** The result of the generated decoder does not depend on the reference as long as it stays
    inside the open box of half a zone around the (shifted) carried position. -/
theorem airborne_ref_stable_tie (m : Msg) (h : IsHex m) (hl : 22 ≤ m.length) (i : ℕ) (hi : i = 0 ∨ i = 1)
    (lat lon latRef lonRef latRef' lonRef' : ℚ) (e : Spec.Enc) (he : e = Spec.cprEncode cprNL 360 i lat lon)
    (hf : cprF (hex2binM m) = decide (i = 1)) (hy : cprYZ (hex2binM m) = e.yz) (hx : cprXZ (hex2binM m) = e.xz)
    (s : ℤ) (hlat : |latRef - e.rlat| < e.dlat / 2) (hlon : |lonRef - (e.rlon + e.dlon * s)| < e.dlon / 2)
    (hlat' : |latRef' - e.rlat| < e.dlat / 2) (hlon' : |lonRef' - (e.rlon + e.dlon * s)| < e.dlon / 2) :
    Gen.bds05.airborne_position_with_ref (.str m) (.num latRef) (.num lonRef) =
      Gen.bds05.airborne_position_with_ref (.str m) (.num latRef') (.num lonRef') := by
  rw [airborne_ref_decode_tie m h hl i hi lat lon latRef lonRef e he hf hy hx s hlat hlon,
    airborne_ref_decode_tie m h hl i hi lat lon latRef' lonRef' e he hf hy hx s hlat' hlon']

/-- **ref_stable (surface).** -/
theorem surface_ref_stable_tie (m : Msg) (h : IsHex m) (hl : 22 ≤ m.length) (i : ℕ) (hi : i = 0 ∨ i = 1)
    (lat lon latRef lonRef latRef' lonRef' : ℚ) (e : Spec.Enc) (he : e = Spec.cprEncode cprNL 90 i lat lon)
    (hf : cprF (hex2binM m) = decide (i = 1)) (hy : cprYZ (hex2binM m) = e.yz) (hx : cprXZ (hex2binM m) = e.xz)
    (s : ℤ) (hlat : |latRef - e.rlat| < e.dlat / 2) (hlon : |lonRef - (e.rlon + e.dlon * s)| < e.dlon / 2)
    (hlat' : |latRef' - e.rlat| < e.dlat / 2) (hlon' : |lonRef' - (e.rlon + e.dlon * s)| < e.dlon / 2) :
    Gen.bds06.surface_position_with_ref (.str m) (.num latRef) (.num lonRef) =
      Gen.bds06.surface_position_with_ref (.str m) (.num latRef') (.num lonRef') := by
  rw [surface_ref_decode_tie m h hl i hi lat lon latRef lonRef e he hf hy hx s hlat hlon,
    surface_ref_decode_tie m h hl i hi lat lon latRef' lonRef' e he hf hy hx s hlat' hlon']

/-- **`adsb.position_with_ref`, all position type codes at once.** The frame has type code `tc` (5–8 surface, zones of
    90°; 9–18 / 20–22 airborne, zones of 360°) and carries the fields of the encoding `e` for that zone size: the
    generated dispatcher returns the carried latitude and the shifted carried longitude. -/
theorem adsb_position_with_ref_decode_tie (m : Msg) (h : IsHex m) (hl : 22 ≤ m.length) (tc : Nat)
    (htc : tcB (hex2binM m) = some tc)
    (hpos : (5 ≤ tc ∧ tc ≤ 8) ∨ (9 ≤ tc ∧ tc ≤ 18) ∨ (20 ≤ tc ∧ tc ≤ 22))
    (i : ℕ) (hi : i = 0 ∨ i = 1) (lat lon latRef lonRef : ℚ) (e : Spec.Enc)
    (he : e = Spec.cprEncode cprNL (if 5 ≤ tc ∧ tc ≤ 8 then 90 else 360) i lat lon)
    (hf : cprF (hex2binM m) = decide (i = 1)) (hy : cprYZ (hex2binM m) = e.yz) (hx : cprXZ (hex2binM m) = e.xz)
    (s : ℤ) (hlat : |latRef - e.rlat| < e.dlat / 2) (hlon : |lonRef - (e.rlon + e.dlon * s)| < e.dlon / 2) :
    Gen.adsb.position_with_ref (.str m) (.num latRef) (.num lonRef) =
      .val (.tuple [.num e.rlat, .num (e.rlon + e.dlon * s)]) := by
  rw [position_with_ref_routing_tie m h (by omega) _ _ tc htc]
  by_cases hs : 5 ≤ tc ∧ tc ≤ 8
  · rw [if_pos hs] at he
    rw [if_pos hs]
    exact surface_ref_decode_tie m h hl i hi lat lon latRef lonRef e he hf hy hx s hlat hlon
  · rw [if_neg hs] at he
    have ha : (9 ≤ tc ∧ tc ≤ 18) ∨ (20 ≤ tc ∧ tc ≤ 22) := by omega
    rw [if_neg hs, if_pos ha]
    exact airborne_ref_decode_tie m h hl i hi lat lon latRef lonRef e he hf hy hx s hlat hlon

/-! ## C05 — surface global decode (`bds06.surface_position`) and the dispatcher `adsb.position` -/

/-- without a receiver location (`lat_ref` or `lon_ref` is `None`) the generated `adsb.position` refuses a surface pair
    with RuntimeError -/
theorem surface_requires_ref_tie (m0 m1 : Msg) (h0 : IsHex m0) (h1 : IsHex m1) (hl0 : 10 ≤ m0.length)
    (hl1 : 10 ≤ m1.length) (tc0 tc1 : Nat) (htc0 : tcB (hex2binM m0) = some tc0) (htc1 : tcB (hex2binM m1) = some tc1)
    (s0 : 5 ≤ tc0 ∧ tc0 ≤ 8) (s1 : 5 ≤ tc1 ∧ tc1 ≤ 8) (t0 t1 la lo : Val) (hno : la = .none ∨ lo = .none) :
    Gen.adsb.position (.str m0) (.str m1) t0 t1 la lo = .rte := by
  rw [Tie.position_tie m0 m1 h0 h1 hl0 hl1]
  have hr : Tie.Adsb.haveRef la lo = false := by
    rcases hno with rfl | rfl
    · rfl
    · simp [Tie.Adsb.haveRef, Val.beq]
  rw [hr]
  unfold positionRoute
  simp [htc0, htc1, s0, s1]

/-- two surface frames (TC 5–8) and a receiver location: `adsb.position` is the generated `surface_position` -/
theorem position_surface_tie (m0 m1 : Msg) (h0 : IsHex m0) (h1 : IsHex m1) (hl0 : 10 ≤ m0.length)
    (hl1 : 10 ≤ m1.length) (tc0 tc1 : Nat) (htc0 : tcB (hex2binM m0) = some tc0) (htc1 : tcB (hex2binM m1) = some tc1)
    (s0 : 5 ≤ tc0 ∧ tc0 ≤ 8) (s1 : 5 ≤ tc1 ∧ tc1 ≤ 8) (t0 t1 : Val) (la lo : Rat) :
    Gen.adsb.position (.str m0) (.str m1) t0 t1 (.num la) (.num lo) =
      Gen.bds06.surface_position (.str m0) (.str m1) t0 t1 (.num la) (.num lo) := by
  rw [Tie.position_tie m0 m1 h0 h1 hl0 hl1]
  have hr : Tie.Adsb.haveRef (.num la) (.num lo) = true := rfl
  rw [hr]
  unfold positionRoute
  simp [htc0, htc1, s0, s1]

/-- two airborne frames (both TC 9–18 or both TC 20–22): `adsb.position` is the generated `airborne_position`, the
    reference being ignored -/
theorem position_airborne_tie (m0 m1 : Msg) (h0 : IsHex m0) (h1 : IsHex m1) (hl0 : 10 ≤ m0.length)
    (hl1 : 10 ≤ m1.length) (tc0 tc1 : Nat) (htc0 : tcB (hex2binM m0) = some tc0) (htc1 : tcB (hex2binM m1) = some tc1)
    (ha : (9 ≤ tc0 ∧ tc0 ≤ 18 ∧ 9 ≤ tc1 ∧ tc1 ≤ 18) ∨ (20 ≤ tc0 ∧ tc0 ≤ 22 ∧ 20 ≤ tc1 ∧ tc1 ≤ 22))
    (t0 t1 la lo : Val) :
    Gen.adsb.position (.str m0) (.str m1) t0 t1 la lo = Gen.bds05.airborne_position (.str m0) (.str m1) t0 t1 := by
  rw [Tie.position_tie m0 m1 h0 h1 hl0 hl1]
  unfold positionRoute
  rw [htc0, htc1]
  have hs : ¬ (5 ≤ tc0 ∧ tc0 ≤ 8 ∧ 5 ≤ tc1 ∧ tc1 ≤ 8) := by omega
  by_cases h9 : 9 ≤ tc0 ∧ tc0 ≤ 18 ∧ 9 ≤ tc1 ∧ tc1 ≤ 18
  · simp only [if_neg hs, if_pos h9]; rfl
  · have h20 : 20 ≤ tc0 ∧ tc0 ≤ 22 ∧ 20 ≤ tc1 ∧ tc1 ≤ 22 := by omega
    simp only [if_neg hs, if_neg h9, if_pos h20]; rfl

/-- the generated surface decoder in terms of its intermediate values (`msg0` taken as the even, `msg1` as the odd
    frame, as coded): `None` when the chosen latitudes lie in different NL zones, otherwise the chosen latitude of the
    newer frame and the candidate longitude closest to the reference -/
theorem surface_position_unfold_tie (m0 m1 : Msg) (h0 : IsHex m0) (h1 : IsHex m1) (hl0 : 22 ≤ m0.length)
    (hl1 : 22 ≤ m1.length) (t0 t1 latRef lonRef : ℚ) :
    Gen.bds06.surface_position (.str m0) (.str m1) (.num t0) (.num t1) (.num latRef) (.num lonRef) =
      (let e : ℕ × ℕ := (cprYZ (hex2binM m0), cprXZ (hex2binM m0))
       let o : ℕ × ℕ := (cprYZ (hex2binM m1), cprXZ (hex2binM m1))
       if cprNL (CPR.sLatEven e o latRef) ≠ cprNL (CPR.sLatOdd e o latRef) then .val .none
       else if t0 > t1 then
         .val (.tuple [.num (CPR.sLatEven e o latRef),
           .num (CPR.pickLon lonRef (CPR.lonRaw 90 (cprNL (CPR.sLatEven e o latRef)) 0 e.2 o.2 e.2))])
       else
         .val (.tuple [.num (CPR.sLatOdd e o latRef),
           .num (CPR.pickLon lonRef (CPR.lonRaw 90 (cprNL (CPR.sLatOdd e o latRef)) 1 e.2 o.2 o.2))])) := by
  rw [gen_surface m0 m1 h0 h1 hl0 hl1, C05.decode_unfold]
  dsimp only
  split_ifs <;> rfl

/-- **surface None.** Two surface frames carrying the fields of two base-90 encodings whose carried latitudes differ by
    less than 0.75/59°, receiver latitude within 45° of both: the generated decoder returns `None` exactly when the two
    carried latitudes lie in different NL zones. -/
theorem surface_none_iff_NL_differs_tie (m0 m1 : Msg) (h0 : IsHex m0) (h1 : IsHex m1) (hl0 : 22 ≤ m0.length)
    (hl1 : 22 ≤ m1.length) (lat0 lon0 lat1 lon1 t0 t1 latRef lonRef : ℚ) (e0 e1 : Spec.Enc)
    (he0 : e0 = Spec.cprEncode cprNL 90 0 lat0 lon0) (he1 : e1 = Spec.cprEncode cprNL 90 1 lat1 lon1)
    (hy0 : cprYZ (hex2binM m0) = e0.yz) (hx0 : cprXZ (hex2binM m0) = e0.xz)
    (hy1 : cprYZ (hex2binM m1) = e1.yz) (hx1 : cprXZ (hex2binM m1) = e1.xz)
    (hr0 : -90 ≤ e0.rlat ∧ e0.rlat < 90) (hr1 : -90 ≤ e1.rlat ∧ e1.rlat < 90)
    (hclose : |e0.rlat - e1.rlat| < 3 / 4 / 59)
    (href0 : |latRef - e0.rlat| < 45) (href1 : |latRef - e1.rlat| < 45) :
    Gen.bds06.surface_position (.str m0) (.str m1) (.num t0) (.num t1) (.num latRef) (.num lonRef) = .val .none
      ↔ cprNL e0.rlat ≠ cprNL e1.rlat := by
  obtain ⟨hE, hO⟩ := C05.hemisphere_choice cprNL lat0 lon0 lat1 lon1 latRef e0 e1 he0 he1 hr0 hr1 hclose href0 href1
  rw [gen_surface m0 m1 h0 h1 hl0 hl1, hy0, hx0, hy1, hx1, C05.decode_unfold, hE, hO]
  by_cases hn : cprNL e0.rlat = cprNL e1.rlat
  · simp [hn, Tie.CprGlobal.encOptPos]
  · simp [hn, Tie.CprGlobal.encOptPos]

/-- **hemisphere_choice / lon_quadrant_choice.** Under the same hypotheses and equal NL zones the latitude returned by
    the generated decoder is the latitude carried by the newer frame (the southern candidate `x − 90` is taken when the
    receiver is in the south), and the returned longitude is one of the four candidates `lon + 90k` normalised to
    `[-180, 180)`, none of which is closer to the receiver longitude in circular distance. -/
theorem surface_hemisphere_quadrant_tie (m0 m1 : Msg) (h0 : IsHex m0) (h1 : IsHex m1) (hl0 : 22 ≤ m0.length)
    (hl1 : 22 ≤ m1.length) (lat0 lon0 lat1 lon1 t0 t1 latRef lonRef : ℚ) (e0 e1 : Spec.Enc)
    (he0 : e0 = Spec.cprEncode cprNL 90 0 lat0 lon0) (he1 : e1 = Spec.cprEncode cprNL 90 1 lat1 lon1)
    (hy0 : cprYZ (hex2binM m0) = e0.yz) (hx0 : cprXZ (hex2binM m0) = e0.xz)
    (hy1 : cprYZ (hex2binM m1) = e1.yz) (hx1 : cprXZ (hex2binM m1) = e1.xz)
    (hr0 : -90 ≤ e0.rlat ∧ e0.rlat < 90) (hr1 : -90 ≤ e1.rlat ∧ e1.rlat < 90)
    (hclose : |e0.rlat - e1.rlat| < 3 / 4 / 59)
    (href0 : |latRef - e0.rlat| < 45) (href1 : |latRef - e1.rlat| < 45)
    (hnl : cprNL e0.rlat = cprNL e1.rlat) (lonR : ℚ)
    (hlonR : lonR = if t0 > t1 then CPR.lonRaw 90 (cprNL e0.rlat) 0 e0.xz e1.xz e0.xz
      else CPR.lonRaw 90 (cprNL e1.rlat) 1 e0.xz e1.xz e1.xz) :
    ∃ k, k < 4 ∧
      Gen.bds06.surface_position (.str m0) (.str m1) (.num t0) (.num t1) (.num latRef) (.num lonRef) =
        .val (.tuple [.num (if t0 > t1 then e0.rlat else e1.rlat), .num ((CPR.lonCands lonR).getD k 0)]) ∧
      ∀ j, j < 4 → CPR.circDist lonRef ((CPR.lonCands lonR).getD k 0)
        ≤ CPR.circDist lonRef ((CPR.lonCands lonR).getD j 0) := by
  obtain ⟨hE, hO⟩ := C05.hemisphere_choice cprNL lat0 lon0 lat1 lon1 latRef e0 e1 he0 he1 hr0 hr1 hclose href0 href1
  obtain ⟨k, hk, hp, hmin⟩ := C05.lon_quadrant_choice lonRef lonR
  refine ⟨k, hk, ?_, hmin⟩
  rw [gen_surface m0 m1 h0 h1 hl0 hl1, hy0, hx0, hy1, hx1, C05.decode_unfold, hE, hO, if_neg (not_not.mpr hnl), ← hp,
    hlonR]
  by_cases ht : t0 > t1
  · simp only [ht, if_true]; rfl
  · simp only [ht, if_false]; rfl

/-- **surface_decode.** Carried latitudes closer than 0.75/59°, receiver latitude within 45° of both, same
    `n = cprNL rlat`, carried longitudes (when `n ≥ 2`) closer than `45/(n(n−1))` modulo 90, and receiver longitude within
    45° (circular) of the newer frame's carried longitude: the generated decoder returns the newer frame's carried
    position, longitude normalised to `[-180, 180)`. -/
theorem surface_decode_tie (m0 m1 : Msg) (h0 : IsHex m0) (h1 : IsHex m1) (hl0 : 22 ≤ m0.length)
    (hl1 : 22 ≤ m1.length) (lat0 lon0 lat1 lon1 t0 t1 latRef lonRef : ℚ) (e0 e1 : Spec.Enc)
    (he0 : e0 = Spec.cprEncode cprNL 90 0 lat0 lon0) (he1 : e1 = Spec.cprEncode cprNL 90 1 lat1 lon1)
    (hy0 : cprYZ (hex2binM m0) = e0.yz) (hx0 : cprXZ (hex2binM m0) = e0.xz)
    (hy1 : cprYZ (hex2binM m1) = e1.yz) (hx1 : cprXZ (hex2binM m1) = e1.xz)
    (hr0 : -90 ≤ e0.rlat ∧ e0.rlat < 90) (hr1 : -90 ≤ e1.rlat ∧ e1.rlat < 90)
    (hclose : |e0.rlat - e1.rlat| < 3 / 4 / 59)
    (href0 : |latRef - e0.rlat| < 45) (href1 : |latRef - e1.rlat| < 45)
    (hnl : cprNL e0.rlat = cprNL e1.rlat)
    (hlon : 2 ≤ cprNL e0.rlat → ∃ s : ℤ,
      |e0.rlon - e1.rlon - 90 * s| < 45 / ((cprNL e0.rlat : ℚ) * ((cprNL e0.rlat : ℚ) - 1)))
    (hlonRef : CPR.circDist lonRef (if t0 > t1 then e0.rlon else e1.rlon) < 45) :
    Gen.bds06.surface_position (.str m0) (.str m1) (.num t0) (.num t1) (.num latRef) (.num lonRef) =
      .val (.tuple [.num (if t0 > t1 then e0.rlat else e1.rlat),
        .num (CPR.wrapPM (if t0 > t1 then e0.rlon else e1.rlon))]) := by
  rw [gen_surface m0 m1 h0 h1 hl0 hl1, hy0, hx0, hy1, hx1,
    C05.surface_decode cprNL lat0 lon0 lat1 lon1 t0 t1 latRef lonRef e0 e1 he0 he1 hr0 hr1 hclose href0 href1 hnl
      hlon hlonRef]
  rfl

/-! ## encoder round trips: the generated decoders applied to the hex digits of encoded frames -/

/-- a 112-bit DF 17/18 position frame: 53 bits `hdr` (DF, CA, ICAO, TC, surveillance status / movement, altitude /
    track, time bit) | CPR format | YZ (17) | XZ (17) | parity (24) -/
def cprFrame (hdr : Bits) (oe : Bool) (yz xz parity : Nat) : Bits :=
  hdr ++ [oe] ++ natToBits 17 yz ++ natToBits 17 xz ++ natToBits 24 parity

theorem cprFrame_length (hdr : Bits) (hh : hdr.length = 53) (oe : Bool) (yz xz parity : Nat) :
    (cprFrame hdr oe yz xz parity).length = 112 := by
  simp [cprFrame, hh]

theorem cprFrame_F (hdr : Bits) (hh : hdr.length = 53) (oe : Bool) (yz xz parity : Nat) :
    cprF (cprFrame hdr oe yz xz parity) = oe := by
  have e : cprFrame hdr oe yz xz parity =
      hdr ++ ([oe] ++ natToBits 17 yz ++ natToBits 17 xz ++ natToBits 24 parity) := by
    simp [cprFrame, List.append_assoc]
  unfold cprF
  rw [e, List.getD_eq_getElem?_getD, List.getElem?_append_right (by omega), hh]
  rfl

theorem cprFrame_YZ (hdr : Bits) (hh : hdr.length = 53) (oe : Bool) (yz xz parity : Nat) (hy : yz < 131072) :
    cprYZ (cprFrame hdr oe yz xz parity) = yz := by
  have e : cprFrame hdr oe yz xz parity =
      (hdr ++ [oe]) ++ natToBits 17 yz ++ (natToBits 17 xz ++ natToBits 24 parity) := by
    simp [cprFrame, List.append_assoc]
  have := slice_append_mid (hdr ++ [oe]) (natToBits 17 yz) (natToBits 17 xz ++ natToBits 24 parity)
  simp only [List.length_append, hh, List.length_cons, List.length_nil, natToBits_length, Nat.reduceAdd] at this
  unfold cprYZ
  rw [e, this, bin2int_natToBits_of_lt (by omega : yz < 2 ^ 17)]

theorem cprFrame_XZ (hdr : Bits) (hh : hdr.length = 53) (oe : Bool) (yz xz parity : Nat) (hx : xz < 131072) :
    cprXZ (cprFrame hdr oe yz xz parity) = xz := by
  have := slice_append_mid (hdr ++ [oe] ++ natToBits 17 yz) (natToBits 17 xz) (natToBits 24 parity)
  simp only [List.length_append, hh, List.length_cons, List.length_nil, natToBits_length, Nat.reduceAdd] at this
  unfold cprXZ cprFrame
  rw [this, bin2int_natToBits_of_lt (by omega : xz < 2 ^ 17)]

/-- the hex string of an encoded frame and what the decoders read from it -/
theorem cprFrame_hex (hdr : Bits) (hh : hdr.length = 53) (oe : Bool) (yz xz parity : Nat) (hy : yz < 131072)
    (hx : xz < 131072) :
    IsHex (hexOfBits (cprFrame hdr oe yz xz parity)) ∧ (hexOfBits (cprFrame hdr oe yz xz parity)).length = 28 ∧
    cprF (hex2binM (hexOfBits (cprFrame hdr oe yz xz parity))) = oe ∧
    cprYZ (hex2binM (hexOfBits (cprFrame hdr oe yz xz parity))) = yz ∧
    cprXZ (hex2binM (hexOfBits (cprFrame hdr oe yz xz parity))) = xz := by
  have hlen := cprFrame_length hdr hh oe yz xz parity
  have hback := hex2binM_hexOfBits (cprFrame hdr oe yz xz parity) (by rw [hlen])
  refine ⟨hexOfBits_isHex _, by rw [hexOfBits_length, hlen], ?_, ?_, ?_⟩
  · rw [hback]; exact cprFrame_F hdr hh oe yz xz parity
  · rw [hback]; exact cprFrame_YZ hdr hh oe yz xz parity hy
  · rw [hback]; exact cprFrame_XZ hdr hh oe yz xz parity hx

/-- **Airborne global round trip.** Two positions with latitudes in `[-90, 90]`, encoded per DO-260B as an even and an
    odd airborne frame (arbitrary 53 leading bits and parity), written as 28 hex digits each.  If the carried latitudes
    differ by less than 3/59°, lie in the same NL zone and the carried longitudes are closer than half the even/odd zone
    offset, the generated `airborne_position` returns the position carried by the newer frame (longitude modulo 360 in
    `(-180, 180]`); if the NL zones differ it returns `None`. -/
theorem airborne_global_roundtrip_tie (hdr0 hdr1 : Bits) (hh0 : hdr0.length = 53) (hh1 : hdr1.length = 53)
    (p0 p1 : Nat) (lat0 lon0 lat1 lon1 t0 t1 : ℚ) (e0 e1 : Spec.Enc)
    (he0 : e0 = Spec.cprEncode cprNL 360 0 lat0 lon0) (he1 : e1 = Spec.cprEncode cprNL 360 1 lat1 lon1)
    (hlat0 : -90 ≤ lat0 ∧ lat0 ≤ 90) (hlat1 : -90 ≤ lat1 ∧ lat1 ≤ 90)
    (hclose : |e0.rlat - e1.rlat| < 3 / 59) :
    (cprNL e0.rlat ≠ cprNL e1.rlat →
      Gen.bds05.airborne_position (.str (hexOfBits (cprFrame hdr0 false e0.yz e0.xz p0)))
        (.str (hexOfBits (cprFrame hdr1 true e1.yz e1.xz p1))) (.num t0) (.num t1) = .val .none) ∧
    (cprNL e0.rlat = cprNL e1.rlat →
      (2 ≤ cprNL e0.rlat → ∃ s : ℤ,
        |e0.rlon - e1.rlon - 360 * s| < 180 / ((cprNL e0.rlat : ℚ) * ((cprNL e0.rlat : ℚ) - 1))) →
      ∃ lon : ℚ,
        Gen.bds05.airborne_position (.str (hexOfBits (cprFrame hdr0 false e0.yz e0.xz p0)))
          (.str (hexOfBits (cprFrame hdr1 true e1.yz e1.xz p1))) (.num t0) (.num t1)
          = .val (.tuple [.num (if t0 > t1 then e0.rlat else e1.rlat), .num lon]) ∧
        (∃ z : ℤ, lon = (if t0 > t1 then e0.rlon else e1.rlon) + 360 * z) ∧ -180 < lon ∧ lon ≤ 180) := by
  have hy0 : e0.yz < 131072 := by rw [he0]; exact CPR.enc_yz_lt _ _ _ _ _
  have hx0 : e0.xz < 131072 := by rw [he0]; exact CPR.enc_xz_lt _ _ _ _ _
  have hy1 : e1.yz < 131072 := by rw [he1]; exact CPR.enc_yz_lt _ _ _ _ _
  have hx1 : e1.xz < 131072 := by rw [he1]; exact CPR.enc_xz_lt _ _ _ _ _
  obtain ⟨a0, b0, f0, y0, x0⟩ := cprFrame_hex hdr0 hh0 false e0.yz e0.xz p0 hy0 hx0
  obtain ⟨a1, b1, f1, y1, x1⟩ := cprFrame_hex hdr1 hh1 true e1.yz e1.xz p1 hy1 hx1
  have hr0 : -90 ≤ e0.rlat ∧ e0.rlat ≤ 90 := by
    rw [he0]; exact C03.rlat_in_range cprNL 0 (Or.inl rfl) lat0 lon0 hlat0
  have hr1 : -90 ≤ e1.rlat ∧ e1.rlat ≤ 90 := by
    rw [he1]; exact C03.rlat_in_range cprNL 1 (Or.inr rfl) lat1 lon1 hlat1
  constructor
  · intro hne
    exact (none_iff_NL_differs_tie _ _ a0 a1 (by omega) (by omega) lat0 lon0 lat1 lon1 t0 t1 e0 e1 he0 he1 f0 y0 x0
      f1 y1 x1 hr0 hr1 hclose).mpr hne
  · intro hnl hlon
    exact global_decode_tie _ _ a0 a1 (by omega) (by omega) lat0 lon0 lat1 lon1 t0 t1 e0 e1 he0 he1 f0 y0 x0
      f1 y1 x1 hr0 hr1 hclose hnl hlon

/-- **Local round trip (airborne and surface).** Any position, encoded per DO-260B (`i` = 0 even / 1 odd) into a frame
    with arbitrary leading bits and parity and written as 28 hex digits: with a reference closer than half a zone to the
    carried position (longitude shifted by `s` zones) the generated `airborne_position_with_ref` (360° encoding) and
    `surface_position_with_ref` (90° encoding) return exactly the carried latitude and the shifted carried longitude. -/
theorem local_roundtrip_tie (hdr : Bits) (hh : hdr.length = 53) (p : Nat) (i : ℕ) (hi : i = 0 ∨ i = 1)
    (lat lon latRef lonRef : ℚ) (s : ℤ) :
    (∀ e : Spec.Enc, e = Spec.cprEncode cprNL 360 i lat lon →
      |latRef - e.rlat| < e.dlat / 2 → |lonRef - (e.rlon + e.dlon * s)| < e.dlon / 2 →
      Gen.bds05.airborne_position_with_ref (.str (hexOfBits (cprFrame hdr (decide (i = 1)) e.yz e.xz p)))
        (.num latRef) (.num lonRef) = .val (.tuple [.num e.rlat, .num (e.rlon + e.dlon * s)])) ∧
    (∀ e : Spec.Enc, e = Spec.cprEncode cprNL 90 i lat lon →
      |latRef - e.rlat| < e.dlat / 2 → |lonRef - (e.rlon + e.dlon * s)| < e.dlon / 2 →
      Gen.bds06.surface_position_with_ref (.str (hexOfBits (cprFrame hdr (decide (i = 1)) e.yz e.xz p)))
        (.num latRef) (.num lonRef) = .val (.tuple [.num e.rlat, .num (e.rlon + e.dlon * s)])) := by
  constructor
  · intro e he hlat hlon
    have hy : e.yz < 131072 := by rw [he]; exact CPR.enc_yz_lt _ _ _ _ _
    have hx : e.xz < 131072 := by rw [he]; exact CPR.enc_xz_lt _ _ _ _ _
    obtain ⟨a, b, f, y, x⟩ := cprFrame_hex hdr hh (decide (i = 1)) e.yz e.xz p hy hx
    exact airborne_ref_decode_tie _ a (by omega) i hi lat lon latRef lonRef e he f y x s hlat hlon
  · intro e he hlat hlon
    have hy : e.yz < 131072 := by rw [he]; exact CPR.enc_yz_lt _ _ _ _ _
    have hx : e.xz < 131072 := by rw [he]; exact CPR.enc_xz_lt _ _ _ _ _
    obtain ⟨a, b, f, y, x⟩ := cprFrame_hex hdr hh (decide (i = 1)) e.yz e.xz p hy hx
    exact surface_ref_decode_tie _ a (by omega) i hi lat lon latRef lonRef e he f y x s hlat hlon

/-- **Surface global round trip.** Two positions encoded per DO-260B (base 90) as an even and an odd surface frame
    (arbitrary leading bits — the format bit included, which `surface_position` does not read — and parity), written as
    28 hex digits each.  Under the hypotheses of `surface_decode_tie` on the carried positions and the receiver location
    the generated `surface_position` returns the position carried by the newer frame, longitude in `[-180, 180)`. -/
theorem surface_global_roundtrip_tie (hdr0 hdr1 : Bits) (hh0 : hdr0.length = 53) (hh1 : hdr1.length = 53)
    (oe0 oe1 : Bool) (p0 p1 : Nat) (lat0 lon0 lat1 lon1 t0 t1 latRef lonRef : ℚ) (e0 e1 : Spec.Enc)
    (he0 : e0 = Spec.cprEncode cprNL 90 0 lat0 lon0) (he1 : e1 = Spec.cprEncode cprNL 90 1 lat1 lon1)
    (hr0 : -90 ≤ e0.rlat ∧ e0.rlat < 90) (hr1 : -90 ≤ e1.rlat ∧ e1.rlat < 90)
    (hclose : |e0.rlat - e1.rlat| < 3 / 4 / 59)
    (href0 : |latRef - e0.rlat| < 45) (href1 : |latRef - e1.rlat| < 45)
    (hnl : cprNL e0.rlat = cprNL e1.rlat)
    (hlon : 2 ≤ cprNL e0.rlat → ∃ s : ℤ,
      |e0.rlon - e1.rlon - 90 * s| < 45 / ((cprNL e0.rlat : ℚ) * ((cprNL e0.rlat : ℚ) - 1)))
    (hlonRef : CPR.circDist lonRef (if t0 > t1 then e0.rlon else e1.rlon) < 45) :
    Gen.bds06.surface_position (.str (hexOfBits (cprFrame hdr0 oe0 e0.yz e0.xz p0)))
        (.str (hexOfBits (cprFrame hdr1 oe1 e1.yz e1.xz p1))) (.num t0) (.num t1) (.num latRef) (.num lonRef) =
      .val (.tuple [.num (if t0 > t1 then e0.rlat else e1.rlat),
        .num (CPR.wrapPM (if t0 > t1 then e0.rlon else e1.rlon))]) := by
  have hy0 : e0.yz < 131072 := by rw [he0]; exact CPR.enc_yz_lt _ _ _ _ _
  have hx0 : e0.xz < 131072 := by rw [he0]; exact CPR.enc_xz_lt _ _ _ _ _
  have hy1 : e1.yz < 131072 := by rw [he1]; exact CPR.enc_yz_lt _ _ _ _ _
  have hx1 : e1.xz < 131072 := by rw [he1]; exact CPR.enc_xz_lt _ _ _ _ _
  obtain ⟨a0, b0, _, y0, x0⟩ := cprFrame_hex hdr0 hh0 oe0 e0.yz e0.xz p0 hy0 hx0
  obtain ⟨a1, b1, _, y1, x1⟩ := cprFrame_hex hdr1 hh1 oe1 e1.yz e1.xz p1 hy1 hx1
  exact surface_decode_tie _ _ a0 a1 (by omega) (by omega) lat0 lon0 lat1 lon1 t0 t1 latRef lonRef e0 e1 he0 he1
    y0 x0 y1 x1 hr0 hr1 hclose href0 href1 hnl hlon hlonRef

/-- non-vacuity: the even frame of the pyModeS test pair (`8D40621D58C382D690C8AC2863A7`) is a 28-digit hex string
    carrying the fields of the encoding of (52.2572, 3.91937) used in the example of `Properties/C03.lean` -/
example :
    let m := "8D40621D58C382D690C8AC2863A7".toList
    let e0 := Spec.cprEncode cprNL 360 0 (522572 / 10000) (391937 / 100000)
    m.length = 28 ∧ cprF (hex2binM m) = false ∧ cprYZ (hex2binM m) = e0.yz ∧ cprXZ (hex2binM m) = e0.xz := by
  decide +kernel

end PyModeS.C03Gen
