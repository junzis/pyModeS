/-
  Tie: generated `c_common` (Cython module, transliterated) = hand-written C-semantics model `PyModeS.C`
  for the 13-bit functions: squawk, altitude (every bit string), gray2int, gray2alt, and the frame wrappers
  idcode, altcode; then the transports "generated C function = generated Python function".

  Helper lemmas are prefixed `ca_` (in `PyModeS.Tie.CA` or `PyModeS.Tie`); the results `c_<f>_tie`,
  `c_<f>_eq_py_tie` are in `PyModeS.Tie`.
-/
import PyModeS.Tie.CBasic
set_option linter.style.nameCheck false
namespace PyModeS.Tie.CA
open PyModeS PyModeS.Py PyModeS.CRC PyModeS.CC CrcTie CB

/-! ### byte arrays of bit strings -/

/-- the bytes of a '0'/'1' string -/
def bb (b : Bits) : List Nat := b.map fun x => x.toDigit.toNat

theorem ca_cConvStr_ofBits (b : Bits) : cConvStr (Val.ofBits b) = .val (Val.ofBits b) := rfl

theorem ca_pyEncode_ofBits (b : Bits) : pyEncode (Val.ofBits b) = .val (natList (bb b)) := by
  rw [Val.ofBits, pyEncode_ascii _ (isAscii_bits b), List.map_map]
  rfl

theorem ca_pyDecode_bb (b : Bits) : pyDecode (natList (bb b)) = .val (Val.ofBits b) := pyDecode_bits b

theorem ca_pyIdxN_bb (b : Bits) (k : Nat) :
    pyIdxN (natList (bb b)) k = (idxR b k >>= fun x => .val (Val.ofNat x.toDigit.toNat)) := by
  simp only [pyIdxN, natList, bb, idxR, List.getElem?_map]
  cases h : b[k]? <;> simp

theorem ca_pySlice_N_bb (b : Bits) (k : Nat) : pySlice_N (natList (bb b)) k = .val (natList (bb (b.take k))) := by
  simp [pySlice_N, natList, bb, List.map_take]

theorem ca_pySliceN__bb (b : Bits) (k : Nat) : pySliceN_ (natList (bb b)) k = .val (natList (bb (b.drop k))) := by
  simp [pySliceN_, natList, bb, List.map_drop]

theorem ca_pySliceNN_bb (b : Bits) (i j : Nat) :
    pySliceNN (natList (bb b)) i j = .val (natList (bb (slice i j b))) := by
  simp [pySliceNN, natList, bb, slice, List.map_take, List.map_drop]

theorem ca_pyAdd_bb (x y : Bits) : pyAdd (natList (bb x)) (natList (bb y)) = .val (natList (bb (x ++ y))) := by
  simp [pyAdd, natList, bb]

theorem ca_uchar_bit (x : Bool) : cConvUchar (Val.ofNat x.toDigit.toNat) = .val (Val.ofNat x.toDigit.toNat) := by
  rw [cConvUchar_ofNat]
  cases x <;> rfl

theorem ca_char_to_int_bit (x : Bool) :
    Gen.c_common.char_to_int (Val.ofNat x.toDigit.toNat) = .val (Val.ofNat x.toNat) := by
  rw [c_char_to_int_tie]
  cases x <;> rfl

theorem ca_oct_lt (a b c : Bool) : (a.toNat * 2 + b.toNat) * 2 + c.toNat < 8 := by
  cases a <;> cases b <;> cases c <;> decide

theorem ca_int_to_char_oct (a b c : Bool) :
    Gen.c_common.int_to_char (Val.ofNat ((a.toNat * 2 + b.toNat) * 2 + c.toNat)) =
      .val (Val.ofNat (48 + ((a.toNat * 2 + b.toNat) * 2 + c.toNat))) :=
  c_int_to_char_digit _ (by have := ca_oct_lt a b c; omega)

theorem ca_mapM_digits (g : Val → Option Char)
    (hg : ∀ d, d < 10 → g (Val.ofNat (48 + d)) = some (Nat.digitChar d)) (l : List Nat) (hl : ∀ d ∈ l, d < 10) :
    (List.map Val.ofNat (l.map (48 + ·))).mapM g = some (l.map Nat.digitChar) := by
  induction l with
  | nil => rfl
  | cons x l ih =>
    simp only [List.map_cons, List.mapM_cons, hg x (hl x (by simp)), ih (fun d hd => hl d (by simp [hd]))]
    rfl

/-- `bytearray.decode()` of ASCII digits -/
theorem ca_pyDecode_digits (l : List Nat) (hl : ∀ d ∈ l, d < 10) :
    pyDecode (natList (l.map (48 + ·))) = .val (.str (l.map Nat.digitChar)) := by
  unfold pyDecode natList
  simp only []
  rw [ca_mapM_digits _ ?_ l hl]
  intro d hd
  interval_cases d <;> rfl

theorem ca_ite_toNat (x : Bool) : (if x = true then 1 else 0 : Nat) = x.toNat := by cases x <;> rfl

theorem ca_c_squawk_ne (b : Bits) (hb : b.length ≠ 13) : C.squawk b = .rte := (C15.c_squawk_rte b hb).1

theorem ca_c_altitude_ne (b : Bits) (hb : b.length ≠ 13) : C.altitude b = .rte :=
  (c_altitude_rte_iff b).mpr (altitude13_of_length_ne hb)

theorem ca_rep4 : List.replicate 4 (0 : Nat) = [0, 0, 0, 0] := rfl

/-- `cdef unsigned char X = mbin[k]` -/
theorem ca_read {β} {b : Bits} {k : Nat} {x : Bool} {f : Val → Res β} {r : Res β} (hk : b[k]? = some x)
    (hf : f (Val.ofNat x.toDigit.toNat) = r) :
    (pyIdxN (natList (bb b)) k >>= fun v => cConvUchar v >>= f) = r := by
  rw [ca_pyIdxN_bb, idxR, hk, bind_val', bind_val', ca_uchar_bit]
  exact hf

/-- `_idcode[p] = int_to_char((char_to_int(X4)*2 + char_to_int(X2))*2 + char_to_int(X1))` -/
theorem ca_put_oct {β} {l : List Nat} {p : Nat} {a b c : Bool} {f : Val → Res β} {r : Res β}
    (hp : p < l.length) (hf : f (natList (l.set p (48 + ((a.toNat * 2 + b.toNat) * 2 + c.toNat)))) = r) :
    (do let l' ← pySetItem (natList l) (Val.num ofNat(p)) (← Gen.c_common.int_to_char (← pyAdd (← pyMul (← pyAdd
          (← pyMul (← Gen.c_common.char_to_int (Val.ofNat a.toDigit.toNat)) (Val.num 2))
          (← Gen.c_common.char_to_int (Val.ofNat b.toDigit.toNat))) (Val.num 2))
          (← Gen.c_common.char_to_int (Val.ofNat c.toDigit.toNat))))
        f l') = r := by
  simp only [ca_char_to_int_bit, bind_val', num_lit 2, pyMul_ofNat, pyAdd_ofNat, ca_int_to_char_oct]
  exact bind_eq (pySetItem_repr l p _ hp) hf

end PyModeS.Tie.CA

namespace PyModeS.Tie
open PyModeS PyModeS.Py PyModeS.CRC PyModeS.CC CrcTie CB CA

/-- `c_common.squawk(binstr)` on EVERY bit string: `RuntimeError` unless it has 13 bits, otherwise the four octal
    digits as a 4-character string (`Val.ofDigits`, the encoder of the Python tie `squawk_tie`; see
    `c_squawk_tie_chars` for the explicit characters). -/
theorem c_squawk_tie (b : Bits) :
    Gen.c_common.squawk (Val.ofBits b) = (C.squawk b >>= fun l => .val (Val.ofDigits l)) := by
  unfold Gen.c_common.squawk
  refine bind_eq (ca_cConvStr_ofBits b) (bind_eq (guard13 b) ?_)
  by_cases hb : b.length = 13
  swap
  · rw [ca_c_squawk_ne b hb]
    exact then_ret (decide_eq_true hb) rfl
  refine else_ret (fun h => of_decide_eq_true h hb) ?_
  obtain ⟨C1, A1, C2, A2, C4, A4, M, B1, D1, B2, D2, B4, D4, rfl⟩ := bits13 hb
  refine bind_eq (ca_pyEncode_ofBits _) (bind_eq (pyBytearray_repr _) (bind_eq (cConvObj_eq _) ?_))
  refine bind_eq (pyBytearray_ofNat 4) (bind_eq (cConvObj_eq _) ?_)
  iterate 12 refine ca_read rfl ?_
  iterate 4 refine ca_put_oct (by simp only [List.length_set, List.length_replicate, Nat.reduceLT]) ?_
  simp only [ca_rep4, List.set_cons_zero, List.set_cons_succ]
  refine bind_eq (ca_pyDecode_digits [_, _, _, _] ?_) ?_
  · intro d hd
    simp only [List.mem_cons, List.not_mem_nil, or_false] at hd
    rcases hd with rfl | rfl | rfl | rfl <;> exact Nat.lt_of_lt_of_le (ca_oct_lt _ _ _) (by decide)
  simp only [C.squawk, ca_ite_toNat, bind_val', cConvStr_str, Val.ofDigits, List.map_cons, List.map_nil,
    List.flatMap_cons, List.flatMap_nil, List.append_nil, toString_digit _ (ca_oct_lt _ _ _), List.cons_append,
    List.nil_append]

end PyModeS.Tie

namespace PyModeS.Tie.CA
open PyModeS PyModeS.Py PyModeS.CRC PyModeS.CC CrcTie CB

/-! ### gray2int, gray2alt -/

theorem ca_xor_shr_lt (n j k : Nat) (h : n < 2 ^ k) : n ^^^ (n >>> j) < 2 ^ k :=
  Nat.xor_lt_two_pow h (Nat.lt_of_le_of_lt (Nat.shiftRight_le n j) h)

/-- the C Gray value of at most 31 bits is a natural number below `2 ^ k` -/
theorem ca_gray2int_nat (b : Bits) (k : Nat) (h : b.length ≤ k) (hk : k ≤ 31) :
    ∃ n : Nat, C.gray2int b = (n : Int) ∧ n < 2 ^ k := by
  refine ⟨PyModeS.gray2int b, c_gray2int_eq b (by omega), ?_⟩
  unfold PyModeS.gray2int
  have h0 := bin2int_lt_of_length_le b k h
  exact ca_xor_shr_lt _ _ _ (ca_xor_shr_lt _ _ _ (ca_xor_shr_lt _ _ _ (ca_xor_shr_lt _ _ _ h0)))

theorem ca_two31 : (2 : Nat) ^ 31 = 2147483648 := by decide

/-- the two Gray fields of `gray2alt` (500-ft field: 8 bits, 100-ft field: the rest) as natural numbers -/
theorem ca_gray_fields (b : Bits) (h : b.length ≤ 32) :
    ∃ n500 n100 : Nat, C.gray2int (slice 0 8 b) = n500 ∧ C.gray2int (b.drop 8) = n100 ∧
      n500 < 256 ∧ n100 < 16777216 := by
  have hs : slice 0 8 b = b.take 8 := by simp [slice]
  obtain ⟨n500, e500, h500⟩ := ca_gray2int_nat (b.take 8) 8 (by simp) (by omega)
  obtain ⟨n100, e100, h100⟩ := ca_gray2int_nat (b.drop 8) 24 (by simp; omega) (by omega)
  exact ⟨n500, n100, hs ▸ e500, e100, h500, h100⟩

end PyModeS.Tie.CA

namespace PyModeS.Tie
open PyModeS PyModeS.Py PyModeS.CRC PyModeS.CC CrcTie CB CA

/-- `c_common.gray2int(graystr)` on a bit string of at most 31 bits (beyond that the C `int` may be negative and
    `>>` is an arithmetic shift, which the hand model does not describe) -/
theorem c_gray2int_tie (b : Bits) (h : b.length ≤ 31) :
    Gen.c_common.gray2int (Val.ofBits b) = .val (Val.ofInt (C.gray2int b)) := by
  unfold Gen.c_common.gray2int C.gray2int
  have h0 : PyModeS.bin2int b < 2147483648 := by
    have := bin2int_lt_of_length_le b 31 h; rwa [ca_two31] at this
  have hw : C.wrap32 (C.bin2int b) = ((PyModeS.bin2int b : Nat) : Int) := by
    rw [c_bin2int_eq' b (by omega), wrap32_of_range (by omega) (by omega)]
  generalize PyModeS.bin2int b = n at h0 hw
  have k0 : n < 2 ^ 31 := by rw [ca_two31]; exact h0
  have k1 := ca_xor_shr_lt n 8 31 k0
  have k2 := ca_xor_shr_lt _ 4 31 k1
  have k3 := ca_xor_shr_lt _ 2 31 k2
  have k4 := ca_xor_shr_lt _ 1 31 k3
  rw [ca_two31] at k1 k2 k3 k4
  simp only [ca_cConvStr_ofBits, bind_val', c_bin2int_tie b (by omega), cConvInt_int, hw, ofInt_natCast,
    Int.toNat_natCast, num_lit, pyShr_ofNat, pyBitXor_ofNat, cConvInt_ofNat _ k1,
    cConvInt_ofNat _ k2, cConvInt_ofNat _ k3, cConvInt_ofNat _ k4]

theorem ca_pyMul_ofInt (a b : Int) : pyMul (Val.ofInt a) (Val.ofInt b) = .val (Val.ofInt (a * b)) := by
  simp [Val.ofInt]
theorem ca_pyAdd_ofInt (a b : Int) : pyAdd (Val.ofInt a) (Val.ofInt b) = .val (Val.ofInt (a + b)) := by
  simp [Val.ofInt]
theorem ca_pySub_ofInt (a b : Int) : pySub (Val.ofInt a) (Val.ofInt b) = .val (Val.ofInt (a - b)) := by
  simp [Val.ofInt]
theorem ca_lit (n : Nat) [n.AtLeastTwo] : Val.num (OfNat.ofNat n) = Val.ofInt (OfNat.ofNat n) := by
  simp [Val.ofInt]
theorem ca_wrap32_m1 : C.wrap32 (-1) = -1 := by decide

/-- `c_common.gray2alt(codestr)` for at most 32 bits (8 + 24: beyond that `n100 * 100` may overflow the C `int`,
    which the hand model does not describe); −1 stands for `None` -/
theorem c_gray2alt_tie (b : Bits) (h : b.length ≤ 32) :
    Gen.c_common.gray2alt (Val.ofBits b) = .val (Val.ofInt (C.gray2alt b)) := by
  unfold Gen.c_common.gray2alt C.gray2alt
  obtain ⟨n500, n100, e500, e100, h500, h100⟩ := ca_gray_fields b h
  have g500 : Gen.c_common.gray2int (Val.ofBits (b.take 8)) = .val (Val.ofNat n500) := by
    rw [c_gray2int_tie _ (by simp), ← ofInt_natCast, ← e500, slice, List.drop_zero]
  have g100 : Gen.c_common.gray2int (Val.ofBits (b.drop 8)) = .val (Val.ofNat n100) := by
    rw [c_gray2int_tie _ (by simp; omega), e100, ofInt_natCast]
  refine bind_eq (ca_cConvStr_ofBits b) ?_
  refine bind_eq (pySliceTo_ofBits b 8) (bind_eq (ca_cConvStr_ofBits _) ?_)
  refine bind_eq g500 (bind_eq (cConvInt_ofNat _ (by omega)) ?_)
  refine bind_eq (pySliceFrom_ofBits b 8) (bind_eq (ca_cConvStr_ofBits _) ?_)
  refine bind_eq g100 (bind_eq (cConvInt_ofNat _ (by omega)) ?_)
  rw [e500, e100]
  -- the tests of the model are on C integers, those of the generated text on natural numbers
  have c1 : ((n100 : Int) = 0 ∨ (n100 : Int) = 5 ∨ (n100 : Int) = 6) ↔ (n100 = 0 ∨ n100 = 5 ∨ n100 = 6) := by omega
  have c2 : (n100 : Int) = 7 ↔ n100 = 7 := by omega
  have c3 : (n500 : Int) % 2 ≠ 0 ↔ n500 % 2 ≠ 0 := by omega
  -- one path of the generated text at a time; on each, every number is a C `int` in range
  refine bind_eq (pyIn_ofNat3 n100 0 5 6) ?_
  by_cases hc : n100 = 0 ∨ n100 = 5 ∨ n100 = 6
  · simp only [c1, hc, pyTruth_bool, decide_true, ↓reduceIte, litm1, cConvInt_int, wrap32_m1]
  refine else_ret (mt of_decide_eq_true hc) (bind_eq (pyEq_ofNat n100 7) ?_)
  simp only [c1, c2, c3, hc, pyMod_ofNat_two, pyTruth_ofNat, pyTruth_bool, decide_eq_true_eq, bind_val', ↓reduceIte]
  by_cases h7 : n100 = 7
  · subst h7
    by_cases hp : n500 % 2 ≠ 0 <;>
      simp (disch := omega) only [hp, ne_eq, not_false_eq_true, ↓reduceIte, ← ofInt_natCast,
        num_lit_int, ca_pyMul_ofInt, ca_pyAdd_ofInt, ca_pySub_ofInt, cConvInt_int, bind_val', wrap32_of_range]
  · by_cases hp : n500 % 2 ≠ 0 <;>
      simp (disch := omega) only [h7, hp, ne_eq, not_false_eq_true, ↓reduceIte, ← ofInt_natCast,
        num_lit_int, ca_pyMul_ofInt, ca_pyAdd_ofInt, ca_pySub_ofInt, cConvInt_int, bind_val', wrap32_of_range]

theorem ca_cConvChar_bit (x : Bool) : cConvChar (.str [x.toDigit]) = .val (Val.ofNat (48 + x.toNat)) := by
  cases x <;> simp [cConvChar, wrapSigned, Val.ofNat, Bool.toDigit]

theorem ca_pyEq_bit48 (x : Bool) : pyEq (Val.ofNat (48 + x.toNat)) (Val.num 48) = .val (.bool (!x)) := by
  cases x <;> rfl
theorem ca_pyEq_bit49 (x : Bool) : pyEq (Val.ofNat (48 + x.toNat)) (Val.num 49) = .val (.bool x) := by
  cases x <;> rfl

theorem ca_pyEq_ofInt_zero (a : Int) : pyEq (Val.ofInt a) (Val.num 0) = .val (.bool (decide (a = 0))) := by
  simp only [Val.ofInt, pyEq_num]
  congr 2
  by_cases h : a = 0
  · simp [h]
  · have : ¬ ((a : Rat) = 0) := by exact_mod_cast h
    simp [h, this]

/-- `_graybytes[p] = mbin[q]` -/
theorem ca_copy {β} {b : Bits} {l : List Nat} {p q : Nat} {x : Bool} {f : Val → Res β} {r : Res β}
    (hq : b[q]? = some x) (hp : p < l.length) (hf : f (natList (l.set p x.toDigit.toNat)) = r) :
    (pyIdxN (natList (bb b)) q >>= fun v => pySetItem (natList l) (Val.num ofNat(p)) v >>= f) = r := by
  rw [ca_pyIdxN_bb, idxR, hq, bind_val', bind_val']
  exact bind_eq (pySetItem_repr l p _ hp) hf

theorem ca_rep11 : List.replicate 11 (0 : Nat) = [0, 0, 0, 0, 0, 0, 0, 0, 0, 0, 0] := rfl
theorem ca_litm999999 : Val.num (-999999) = Val.ofInt (-999999) := by simp [Val.ofInt]
theorem ca_wrap32_sent : C.wrap32 (-999999) = -999999 := by decide

theorem ca_wrap32_idem (x : Int) : C.wrap32 (C.wrap32 x) = C.wrap32 x := by
  apply wrap32_of_range <;> (unfold C.wrap32; simp only [two32, two31]; split_ifs <;> omega)

/-- the C `gray2alt` of at most 32 bits fits a C `int` -/
theorem ca_gray2alt_range (b : Bits) (h : b.length ≤ 32) : C.wrap32 (C.gray2alt b) = C.gray2alt b := by
  unfold C.gray2alt
  obtain ⟨n500, n100, e500, e100, h500, h100⟩ := ca_gray_fields b h
  rw [e500, e100]
  simp only []
  by_cases hc : (n100 : Int) = 0 ∨ (n100 : Int) = 5 ∨ (n100 : Int) = 6
  · rw [if_pos hc]; exact wrap32_m1
  rw [if_neg hc]
  -- the corrected 100-ft digit lies between 6 − n100 and n100
  generalize hx : (if (n500 : Int) % 2 ≠ 0 then 6 - (if (n100 : Int) = 7 then 5 else (n100 : Int))
    else if (n100 : Int) = 7 then 5 else (n100 : Int)) = x
  have hx' : -16777216 ≤ x ∧ x ≤ 16777216 := by rw [← hx]; split_ifs <;> omega
  exact wrap32_of_range (by omega) (by omega)

/-- the body of `altitude` on thirteen bits; the three encodings (M = 1: metres; M = 0, Q = 1: 25-ft steps;
    M = 0, Q = 0: Gillham code) are run separately, so that only the statements of one branch are evaluated -/
theorem c_altitude_tie13 (m0 m1 m2 m3 m4 m5 M m7 Q m9 m10 m11 m12 : Bool) :
    Gen.c_common.altitude (Val.ofBits [m0, m1, m2, m3, m4, m5, M, m7, Q, m9, m10, m11, m12]) =
      (C.altitude [m0, m1, m2, m3, m4, m5, M, m7, Q, m9, m10, m11, m12] >>= fun a => .val (Val.ofInt a)) := by
  unfold Gen.c_common.altitude C.altitude
  refine bind_eq (ca_cConvStr_ofBits _) (bind_eq (guard13 _) ?_)
  refine else_ret (by simp) ?_
  refine bind_eq (ca_pyEncode_ofBits _) (bind_eq (pyBytearray_repr _) (bind_eq (cConvObj_eq _) ?_))
  refine bind_eq ((pyIdxN_ofBits _ 6).trans rfl) (bind_eq (ca_cConvChar_bit M) ?_)
  refine bind_eq ((pyIdxN_ofBits _ 8).trans rfl) (bind_eq (ca_cConvChar_bit Q) ?_)
  refine bind_eq (cConvInt_ofNat 0 (Nat.succ_pos _)) ?_
  refine bind_eq (pyBytearray_ofNat 11) (bind_eq (cConvObj_eq _) ?_)
  refine bind_eq (c_bin2int_tie _ (by simp)) ?_
  by_cases h0 : C.bin2int [m0, m1, m2, m3, m4, m5, M, m7, Q, m9, m10, m11, m12] = 0
  · refine bind_eq (ca_pyEq_ofInt_zero _) (then_ret (decide_eq_true h0) ?_)
    simp only [h0, ↓reduceIte, ca_litm999999, cConvInt_int, ca_wrap32_sent, bind_val']
  refine bind_eq (ca_pyEq_ofInt_zero _) (else_ret (mt of_decide_eq_true h0) ?_)
  cases M
  · refine bind_eq (ca_pyEq_bit48 false) (then_ret rfl ?_)
    cases Q
    · refine bind_eq (ca_pyEq_bit49 false) (else_ret Bool.false_ne_true ?_)
      refine bind_eq (ca_pyEq_bit48 false) (then_ret rfl ?_)
      iterate 11 refine ca_copy rfl (by simp only [List.length_set, List.length_replicate, Nat.reduceLT]) ?_
      simp only [ca_rep11, List.set_cons_zero, List.set_cons_succ]
      refine bind_eq (ca_pyDecode_bb [m10, m12, m1, m3, m5, m7, m9, m11, m0, m2, m4]) ?_
      refine bind_eq (c_gray2alt_tie _ (by simp)) ?_
      simp only [h0, ↓reduceIte, cConvInt_int, bind_val', ca_gray2alt_range _
        (by simp : [m10, m12, m1, m3, m5, m7, m9, m11, m0, m2, m4].length ≤ 32)]
    · refine bind_eq (ca_pyEq_bit49 true) (then_ret rfl ?_)
      simp only [h0, Bool.not_true, Bool.false_eq_true, Bool.true_eq_false, ↓reduceIte, ca_pySlice_N_bb,
        ca_pySliceN__bb, ca_pySliceNN_bb, ca_pyAdd_bb, ca_pyDecode_bb, bind_val', slice, List.drop_succ_cons,
        List.drop_zero, List.take_succ_cons, List.take_zero, Nat.reduceSub, List.cons_append, List.nil_append,
        c_bin2int_tie _ (by simp : [m0, m1, m2, m3, m4, m5, m7, m9, m10, m11, m12].length < 2 ^ 63),
        num_lit_int 25, num_lit_int 1000, ca_pyMul_ofInt, ca_pySub_ofInt, cConvInt_int, ca_wrap32_idem,
        ca_pyEq_bit48, pyTruth_bool]
  · refine bind_eq (ca_pyEq_bit48 true) (else_ret Bool.false_ne_true ?_)
    refine bind_eq (ca_pyEq_bit49 true) (then_ret rfl ?_)
    have h12 : C.bin2int [m0, m1, m2, m3, m4, m5, m7, Q, m9, m10, m11, m12] =
        ((PyModeS.bin2int [m0, m1, m2, m3, m4, m5, m7, Q, m9, m10, m11, m12] : Nat) : Int) :=
      c_bin2int_eq' _ (by simp)
    have hmul : ∀ (n : Nat) (q : Rat), pyMul (Val.ofNat n) (.num q) = .val (.num ((n : Rat) * q)) := fun _ _ => rfl
    have hm2 : ∀ n : Nat, pyInt1 (.num ((n : Rat) * ((82021 : Rat) / 25000))) = .val (Val.ofInt (m2ft n)) := pyInt1_m2ft
    simp only [h0, Bool.true_eq_false, ↓reduceIte, ca_pySlice_N_bb, ca_pySliceN__bb,
      ca_pyAdd_bb, ca_pyDecode_bb, bind_val', List.drop_succ_cons, List.drop_zero, List.take_succ_cons,
      List.take_zero, List.cons_append, List.nil_append,
      c_bin2int_tie _ (by simp : [m0, m1, m2, m3, m4, m5, m7, Q, m9, m10, m11, m12].length < 2 ^ 63),
      h12, ofInt_natCast, hmul, hm2, cConvInt_int, ca_wrap32_idem, Int.toNat_natCast]
    rfl

theorem c_altitude_tie (b : Bits) :
    Gen.c_common.altitude (Val.ofBits b) = (C.altitude b >>= fun a => .val (Val.ofInt a)) := by
  by_cases hb : b.length = 13
  · obtain ⟨m0, m1, m2, m3, m4, m5, M, m7, Q, m9, m10, m11, m12, rfl⟩ := bits13 hb
    exact c_altitude_tie13 ..
  · unfold Gen.c_common.altitude
    rw [ca_c_altitude_ne b hb]
    exact bind_eq (ca_cConvStr_ofBits b) (bind_eq (guard13 b) (then_ret (decide_eq_true hb) rfl))

/-! ### frame wrappers: idcode, altcode -/

theorem ca_pySlice_N_str (m : Msg) (k : Nat) : pySlice_N (.str m) k = .val (.str (m.take k)) := rfl

theorem ca_df_tie (m : Msg) (h : IsAscii m) : Gen.c_common.df (.str m) = .val (Val.ofNat (C.df m)) := c_df_tie m h

/-- `c_common.idcode(msg)` on any ASCII string (in particular any hex frame) shorter than `2 ^ 63` characters:
    `RuntimeError` unless DF is 5 or 21 (and unless the string has the 32 bits the field needs) -/
theorem c_idcode_tie (m : Msg) (h : IsAscii m) (hl : m.length < 2 ^ 63) :
    Gen.c_common.idcode (.str m) = (C.idcode m >>= fun l => .val (Val.ofDigits l)) := by
  unfold Gen.c_common.idcode C.idcode
  have hg := @notin_ite Val (C.df m) [5, 21] .rte
  simp only [List.map_cons, List.map_nil, Nat.cast_ofNat, List.mem_cons, List.not_mem_nil, or_false] at hg
  have hm : (C.df m ≠ 5 ∧ C.df m ≠ 21) ↔ ¬ (C.df m = 5 ∨ C.df m = 21) := not_or.symm
  simp only [cConvStr_str, bind_val', c_df_tie m h, hg, hm, ite_not, Res.ite_bind, bind_rte', c_hex2bin_tie m h hl,
    pySliceNN_ofBits, c_squawk_tie, bind_assoc, Val.ofDigits]

/-- every value of the C altitude fits a C `int` -/
theorem ca_altitude_range (b : Bits) (a : Int) (h : C.altitude b = .val a) : C.wrap32 a = a := by
  by_cases hb : b.length = 13
  swap
  · rw [ca_c_altitude_ne b hb] at h; cases h
  obtain ⟨m0, m1, m2, m3, m4, m5, M, m7, Q, m9, m10, m11, m12, rfl⟩ := bits13 hb
  unfold C.altitude at h
  simp only [] at h
  -- the value is a sentinel, a Gillham altitude, or was itself assigned to a C `int`
  by_cases h0 : C.bin2int [m0, m1, m2, m3, m4, m5, M, m7, Q, m9, m10, m11, m12] = 0
  · rw [if_pos h0] at h; cases h; exact ca_wrap32_sent
  rw [if_neg h0] at h
  cases M
  · cases Q <;> cases h
    · exact ca_gray2alt_range [m10, m12, m1, m3, m5, m7, m9, m11, m0, m2, m4] (by simp)
    · exact ca_wrap32_idem _
  · cases h; exact ca_wrap32_idem _

/-- the final conversion to a C `int` changes nothing -/
theorem ca_altitude_bind (b : Bits) :
    (C.altitude b >>= fun a => Res.val (Val.ofInt (C.wrap32 a))) = (C.altitude b >>= fun a => .val (Val.ofInt a)) := by
  cases hr : C.altitude b with
  | val a => rw [bind_val', bind_val', ca_altitude_range b a hr]
  | rte => rfl
  | exc => rfl

/-- `c_common.altcode(msg)` on any ASCII string shorter than `2 ^ 63` characters: `RuntimeError` unless DF is
    0, 4, 16 or 20; −999999 / −1 stand for `None` -/
theorem c_altcode_tie (m : Msg) (h : IsAscii m) (hl : m.length < 2 ^ 63) :
    Gen.c_common.altcode (.str m) = (C.altcode m >>= fun a => .val (Val.ofInt a)) := by
  unfold Gen.c_common.altcode C.altcode
  have hg := @notin_ite Val (C.df m) [0, 4, 16, 20] .rte
  simp only [List.map_cons, List.map_nil, Nat.cast_ofNat, Nat.cast_zero, List.mem_cons, List.not_mem_nil,
    or_false] at hg
  have hm : (C.df m ≠ 0 ∧ C.df m ≠ 4 ∧ C.df m ≠ 16 ∧ C.df m ≠ 20) ↔
      ¬ (C.df m = 0 ∨ C.df m = 4 ∨ C.df m = 16 ∨ C.df m = 20) := by simp only [not_or, ne_eq]
  simp only [cConvStr_str, bind_val', c_df_tie m h, hg, hm, ite_not, Res.ite_bind, bind_rte', c_hex2bin_tie m h hl,
    pySliceNN_ofBits, c_altitude_tie, bind_assoc, cConvInt_int, ca_altitude_bind]

/-- `c_squawk_tie` with the characters spelled out: one ASCII digit per octal digit -/
theorem c_squawk_tie_chars (b : Bits) :
    Gen.c_common.squawk (Val.ofBits b) = (C.squawk b >>= fun l => .val (.str (l.map Nat.digitChar))) := by
  rw [c_squawk_tie]
  cases hr : C.squawk b with
  | val l =>
    rw [C15.c_squawk_eq] at hr
    simp only [bind_val', (ofDigits_squawk b l hr).2.2]
  | rte => rfl
  | exc => rfl

/-! ### transports: generated C function = generated Python function -/

/-- `c_common.squawk` = `py_common.squawk` on every bit string -/
theorem c_squawk_eq_py_tie (b : Bits) :
    Gen.c_common.squawk (Val.ofBits b) = Gen.py_common.squawk (Val.ofBits b) := by
  rw [c_squawk_tie, squawk_tie, C15.c_squawk_eq]

/-- `c_common.idcode` = `py_common.idcode` on every hex string of at least two and fewer than `2 ^ 63` digits -/
theorem c_idcode_eq_py_tie (m : Msg) (h : IsHex m) (hl : 2 ≤ m.length) (hl2 : m.length < 2 ^ 63) :
    Gen.c_common.idcode (.str m) = Gen.py_common.idcode (.str m) := by
  rw [c_idcode_tie m (isAscii_of_isHex h) hl2, idcode_tie m h hl, C15.c_idcode_eq m h]

/-- `c_common.gray2int` = `py_common.gray2int` on 1 to 31 bits -/
theorem c_gray2int_eq_py_tie (b : Bits) (h0 : 0 < b.length) (h : b.length ≤ 31) :
    Gen.c_common.gray2int (Val.ofBits b) = Gen.py_common.gray2int (Val.ofBits b) := by
  rw [c_gray2int_tie b h, gray2int_tie b h0, C15.c_gray2int_eq b h, ofInt_natCast]

theorem ca_int?_ofInt (i : Int) : (Val.ofInt i).int? = some i := by
  simp [Val.ofInt, Val.int?]

/-- the documented sentinel map on Python values: the C integers −999999 and −1 read as `None`
    (`C.altOfSentinel` of Model/CCommon.lean), every other value is unchanged -/
def sentinelVal (v : Val) : Val :=
  match v.int? with
  | some i => Val.ofOptInt (C.altOfSentinel i)
  | none => v

theorem sentinelVal_ofInt (a : Int) : sentinelVal (Val.ofInt a) = Val.ofOptInt (C.altOfSentinel a) := by
  simp only [sentinelVal, ca_int?_ofInt]

/-- `c_common.gray2alt` read through the sentinel map = `py_common.gray2alt` on 9 to 32 bits -/
theorem c_gray2alt_eq_py_tie (b : Bits) (h8 : 8 < b.length) (h : b.length ≤ 32) :
    (Gen.c_common.gray2alt (Val.ofBits b) >>= fun v => .val (sentinelVal v)) =
      Gen.py_common.gray2alt (Val.ofBits b) := by
  rw [c_gray2alt_tie b h, gray2alt_tie b h8, bind_val', sentinelVal_ofInt, C15.c_gray2alt_sentinel b (by omega)]

/-- `c_common.altitude` read through the sentinel map = `py_common.altitude`, on EVERY bit string
    (`RuntimeError` on the same inputs) -/
theorem c_altitude_eq_py_tie (b : Bits) :
    (Gen.c_common.altitude (Val.ofBits b) >>= fun v => .val (sentinelVal v)) =
      Gen.py_common.altitude (Val.ofBits b) := by
  rw [c_altitude_tie, altitude_tie, ← C15.c_altitude_eq]
  rcases C.altitude b with (a | _ | _)
  · simp only [bind_val', sentinelVal_ofInt]; rfl
  · rfl
  · rfl

/-- `c_common.altcode` read through the sentinel map = `py_common.altcode` on every hex string of at least two and
    fewer than `2 ^ 63` digits -/
theorem c_altcode_eq_py_tie (m : Msg) (h : IsHex m) (hl : 2 ≤ m.length) (hl2 : m.length < 2 ^ 63) :
    (Gen.c_common.altcode (.str m) >>= fun v => .val (sentinelVal v)) = Gen.py_common.altcode (.str m) := by
  rw [c_altcode_tie m (isAscii_of_isHex h) hl2, altcode_tie m h hl, ← C15.c_altcode_eq m h]
  rcases C.altcode m with (a | _ | _)
  · simp only [bind_val', sentinelVal_ofInt]; rfl
  · rfl
  · rfl

end PyModeS.Tie
