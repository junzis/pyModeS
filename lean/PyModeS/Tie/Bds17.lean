/-
  Tie: generated `bds17.py` (`cap17`, `is17`) = hand model (`Model/Commb.lean`) on every 28-digit hex frame.
  The list comprehension over `enumerate(d[:24])` is evaluated for an arbitrary bit string / table.
-/
import PyModeS.Tie.Commb
import PyModeS.Tie.Common
import PyModeS.Generated.Src.bds17

namespace PyModeS.Tie
open PyModeS PyModeS.Py PyModeS.CRC

/-- a list of strings of the hand model as the Python list of `str` -/
def Val.ofStrs (l : List String) : Val := .tuple (l.map fun s => Val.str s.toList)

/-- positions (counted from `k`) of the set bits -/
def onesFrom (k : Nat) : Bits → List Nat
  | [] => []
  | x :: xs => if x then k :: onesFrom (k + 1) xs else onesFrom (k + 1) xs

theorem filter_range_onesFrom (b : Bits) (k : Nat) :
    ((List.range b.length).filter (fun i => b.getD i false)).map (· + k) = onesFrom k b := by
  induction b generalizing k with
  | nil => rfl
  | cons x xs ih =>
    rw [List.length_cons, List.range_succ_eq_map, List.filter_cons, List.filter_map]
    have hf : ((fun i => (x :: xs).getD i false) ∘ Nat.succ) = fun i => xs.getD i false := by
      funext i; simp
    rw [hf]
    have hm : List.map (· + k) (List.map Nat.succ (List.filter (fun i => xs.getD i false) (List.range xs.length))) =
        List.map (· + (k + 1)) (List.filter (fun i => xs.getD i false) (List.range xs.length)) := by
      rw [List.map_map]
      apply List.map_congr_left
      intro i _
      simp only [Function.comp, Nat.succ_eq_add_one]
      omega
    cases x
    · simp only [List.getD_cons_zero, Bool.false_eq_true, if_false, onesFrom]
      rw [hm, ih]
    · simp only [List.getD_cons_zero, if_true, onesFrom, List.map_cons, Nat.zero_add]
      rw [hm, ih]

theorem onesFrom_zero (b : Bits) :
    onesFrom 0 b = (List.range b.length).filter (fun i => b.getD i false) := by
  rw [← filter_range_onesFrom]
  simp

/-- `[i for i, v in enumerate(bits) if v == "1"]` for any comprehension body that behaves as the source's -/
theorem comp_enum (f : Val → Res (Option Val))
    (hf : ∀ (i : Nat) (x : Bool), f (.tuple [Val.ofNat i, .str [x.toDigit]]) =
      .val (if x then some (Val.ofNat i) else none))
    (b : Bits) (k : Nat) :
    compList f (enumFrom k (b.map fun x => Val.str [x.toDigit])) = .val ((onesFrom k b).map Val.ofNat) := by
  induction b generalizing k with
  | nil => rfl
  | cons x xs ih =>
    simp only [List.map_cons, enumFrom, compList, hf, ih, onesFrom]
    cases x <;> rfl

/-- `t[i]` for a tuple and a non-negative integer value -/
private theorem pyIdx_tuple_nat (l : List Val) (n : Nat) :
    Py.pyIdx (.tuple l) (Val.ofNat n) = (idxR l n >>= fun c => .val c) := by
  have : ¬ ((n : Int) < 0) := by omega
  have hi : (Val.num (n : Rat)).int? = some (n : Int) := int?_ofNat n
  simp only [Py.pyIdx, Val.ofNat, hi, idxList, this, if_false, Int.toNat_natCast, idxR]
  cases l[n]? <;> rfl

private theorem mapM_cons' {α β} (f : α → Res β) (a : α) (as : List α) :
    Res.mapM f (a :: as) = (do let b ← f a; let bs ← Res.mapM f as; Res.val (b :: bs)) := by
  simp only [Res.mapM]
  rcases f a with (b | _ | _)
  · rcases Res.mapM f as with (bs | _ | _) <;> rfl
  · rfl
  · rfl

/-- `["BDS" + tbl[i] for i in idx]` for any table of strings and any comprehension body that behaves as the source's -/
theorem comp_lookup (tbl : List String) (g : Val → Res (Option Val))
    (hg : ∀ i : Nat, g (Val.ofNat i) = (idxR tbl i >>= fun s => .val (some (Val.str ("BDS" ++ s).toList))))
    (idx : List Nat) :
    compList g (idx.map Val.ofNat) =
      (Res.mapM (fun i => do let s ← idxR tbl i; pure ("BDS" ++ s)) idx >>= fun l =>
        .val (l.map fun s => Val.str s.toList)) := by
  induction idx with
  | nil => rfl
  | cons i idx ih =>
    rw [List.map_cons, mapM_cons']
    simp only [compList, hg, ih]
    rcases idxR tbl i with (s | _ | _)
    · simp only [bind_val', Res.pure_eq]
      rcases Res.mapM (fun i => do let s ← idxR tbl i; pure ("BDS" ++ s)) idx with (l | _ | _) <;> rfl
    · rfl
    · rfl

theorem pyEnumerate_ofBits (b : Bits) :
    pyEnumerate (Val.ofBits b) = .val (.tuple (enumFrom 0 (b.map fun x => Val.str [x.toDigit]))) := by
  simp only [pyEnumerate, pyIter, Val.ofBits, List.map_map, bind_val', Res.pure_eq, Function.comp_def]

theorem pyComp_tuple (l : List Val) (f : Val → Res (Option Val)) :
    pyComp (.tuple l) f = (compList f l >>= fun r => .val (.tuple r)) := by
  simp only [pyComp, pyIter, bind_val', Res.pure_eq]

/-- the tuple literal of the source is the table of the hand model -/
private theorem allbds_lit :
    (Val.tuple [(Val.str ['0', '5']), (Val.str ['0', '6']), (Val.str ['0', '7']), (Val.str ['0', '8']), (Val.str ['0', '9']), (Val.str ['0', 'A']), (Val.str ['2', '0']), (Val.str ['2', '1']), (Val.str ['4', '0']), (Val.str ['4', '1']), (Val.str ['4', '2']), (Val.str ['4', '3']), (Val.str ['4', '4']), (Val.str ['4', '5']), (Val.str ['4', '8']), (Val.str ['5', '0']), (Val.str ['5', '1']), (Val.str ['5', '2']), (Val.str ['5', '3']), (Val.str ['5', '4']), (Val.str ['5', '5']), (Val.str ['5', '6']), (Val.str ['5', 'F']), (Val.str ['6', '0'])]) =
      Val.tuple (Tables.cap17All.map fun s => Val.str s.toList) := rfl

/-- `bds17.cap17(msg)`: the list of `"BDSxy"` strings -/
theorem cap17_tie (m : Msg) (h : IsHex m) (hl : m.length = 28) :
    Gen.bds17.cap17 (.str m) = (PyModeS.cap17 (hex2binM m) >>= fun l => .val (Val.ofStrs l)) := by
  unfold Gen.bds17.cap17 PyModeS.cap17
  rw [allbds_lit]
  generalize Tables.cap17All = tbl
  simp only [data_str, bind_val', hex2bin_data m h hl, dataR_hex m hl]
  generalize slice 32 88 (hex2binM m) = d
  simp only [pySliceTo_ofBits, bind_val', pyEnumerate_ofBits, pyComp_tuple, Res.pure_eq]
  have e1 := comp_enum (fun x__1 => do
        pyUnpackCheck x__1 2
        let i ← pyIdxN x__1 0
        let v ← pyIdxN x__1 1
        if !(pyTruth (← pyEq v (Val.str ['1']))) then return none
        return some i) (by intro i x; cases x <;> rfl) (d.take 24) 0
  simp only [Res.pure_eq] at e1
  rw [e1]
  simp only [bind_val']
  have e2 := comp_lookup tbl (fun x__2 => do
        return some (← pyAdd (Val.str ['B', 'D', 'S']) (← Py.pyIdx (Val.tuple (tbl.map fun s => Val.str s.toList)) x__2)))
    (by
      intro i
      simp only [pyIdx_tuple_nat, idxR, List.getElem?_map]
      cases tbl[i]? with
      | none => rfl
      | some s =>
        simp only [Option.map_some, bind_val', Res.pure_eq, String.toList_append]
        rfl)
    (onesFrom 0 (d.take 24))
  simp only [Res.pure_eq] at e2
  rw [pyComp_tuple, e2, onesFrom_zero]
  generalize Res.mapM (fun i => do let s ← idxR tbl i; pure ("BDS" ++ s))
    (List.filter (fun i => (List.take 24 d).getD i false) (List.range (List.take 24 d).length)) = r
  rcases r with (l | _ | _) <;> rfl

private theorem str_beq_toList (s t : String) : (Val.str s.toList).beq (Val.str t.toList) = (s == t) := by
  simp only [Val.beq]
  by_cases hst : s = t
  · subst hst; simp
  · have : ¬ (s.toList = t.toList) := fun e => hst (String.toList_inj.mp e)
    simp [hst, this]

/-- `x not in caps` for a list of strings -/
theorem pyNotIn_ofStrs (x : String) (l : List String) :
    pyNotIn (.str x.toList) (Val.ofStrs l) = .val (.bool (!l.contains x)) := by
  simp only [pyNotIn, pyIn, Val.ofStrs, bind_val', pyNot, Val.truth]
  congr 3
  induction l with
  | nil => rfl
  | cons s l ih =>
    rw [List.map_cons, List.any_cons, ih, str_beq_toList, List.contains_cons]

private theorem bds20_lit : ['B', 'D', 'S', '2', '0'] = "BDS20".toList := rfl

/-- `bds17.is17(msg)` -/
theorem is17_tie (m : Msg) (h : IsHex m) (hl : m.length = 28) :
    Gen.bds17.is17 (.str m) = (PyModeS.is17 (hex2binM m) >>= fun b => .val (.bool b)) := by
  unfold Gen.bds17.is17 PyModeS.is17
  refine pred_open m h hl _ _ fun d _ => ?_
  refine guardInt_step d 24 56 pyNe_ofNat_zero _ _ ?_
  rw [cap17_tie m h hl]
  rcases PyModeS.cap17 (hex2binM m) with (l | _ | _)
  · simp only [Res.bind_val, bds20_lit, pyNotIn_ofStrs, pyTruth_bool, Res.pure_eq]
    cases l.contains "BDS20" <;> rfl
  · rfl
  · rfl

end PyModeS.Tie
