/-
  Tie: generated `bds20.py` = hand model (`Model/Commb.lean`) on every 28-digit hex frame.
-/
import PyModeS.Tie.Commb
import PyModeS.Generated.Src.bds20

namespace PyModeS.Tie
open PyModeS PyModeS.Py PyModeS.CRC

private theorem slice_slice' {α} (a b c e : Nat) (l : List α) (h : c + b ≤ e) :
    slice a b (slice c e l) = slice (c + a) (c + b) l :=
  slice_slice a b c e l h

private theorem pyAdd_str (x y : List Char) : pyAdd (.str x) (.str y) = .val (.str (x ++ y)) := rfl

/-- the literal in the source is the table the hand model uses -/
private theorem chars_lit :
    "#ABCDEFGHIJKLMNOPQRSTUVWXYZ#####_###############0123456789######".toList = Tables.cs20Chars := rfl

private theorem step_last (tbl : List Char) (d : Bits) (acc : List Char) (a b : Nat) :
    (do let x ← pySliceNN (Val.ofBits d) a b
        let n ← Gen.py_common.bin2int x
        let c ← Py.pyIdx (Val.str tbl) n
        pyAdd (Val.str acc) c) =
    (do let n ← bin2intR (slice a b d)
        let c ← idxR tbl n
        pure (Val.str (acc ++ [c]))) := by
  simpa only [bind_pure] using table_step tbl d acc a b pure

private theorem mapM_cons {α β} (f : α → Res β) (a : α) (as : List α) :
    Res.mapM f (a :: as) = (do let b ← f a; let bs ← Res.mapM f as; Res.val (b :: bs)) := by
  simp only [Res.mapM]
  rcases f a with (b | _ | _)
  · rcases Res.mapM f as with (bs | _ | _) <;> rfl
  · rfl
  · rfl

/-- the eight table look-ups of `cs20`, for any table -/
private theorem cs_core (tbl : List Char) (d : Bits) :
    (do let cs ← pyAdd (Val.str []) (← Py.pyIdx (Val.str tbl) (← Gen.py_common.bin2int (← pySliceNN (Val.ofBits d) 8 14)))
        let cs ← pyAdd cs (← Py.pyIdx (Val.str tbl) (← Gen.py_common.bin2int (← pySliceNN (Val.ofBits d) 14 20)))
        let cs ← pyAdd cs (← Py.pyIdx (Val.str tbl) (← Gen.py_common.bin2int (← pySliceNN (Val.ofBits d) 20 26)))
        let cs ← pyAdd cs (← Py.pyIdx (Val.str tbl) (← Gen.py_common.bin2int (← pySliceNN (Val.ofBits d) 26 32)))
        let cs ← pyAdd cs (← Py.pyIdx (Val.str tbl) (← Gen.py_common.bin2int (← pySliceNN (Val.ofBits d) 32 38)))
        let cs ← pyAdd cs (← Py.pyIdx (Val.str tbl) (← Gen.py_common.bin2int (← pySliceNN (Val.ofBits d) 38 44)))
        let cs ← pyAdd cs (← Py.pyIdx (Val.str tbl) (← Gen.py_common.bin2int (← pySliceNN (Val.ofBits d) 44 50)))
        let cs ← pyAdd cs (← Py.pyIdx (Val.str tbl) (← Gen.py_common.bin2int (← pySliceNN (Val.ofBits d) 50 56)))
        (pure cs : Res Val)) =
    (chars8 tbl (slice 8 56 d) >>= fun cs => .val (.str cs)) := by
  unfold chars8
  have hr : List.range 8 = [0, 1, 2, 3, 4, 5, 6, 7] := by decide
  have hn : ∀ f : Nat → Res Char, Res.mapM f [] = .val [] := fun _ => rfl
  simp only [table_step, step_last, hr, mapM_cons, hn, bind_assoc, Res.bind_val]
  rw [slice_slice' _ _ 8 56 d (by decide), slice_slice' _ _ 8 56 d (by decide), slice_slice' _ _ 8 56 d (by decide),
    slice_slice' _ _ 8 56 d (by decide), slice_slice' _ _ 8 56 d (by decide), slice_slice' _ _ 8 56 d (by decide),
    slice_slice' _ _ 8 56 d (by decide), slice_slice' _ _ 8 56 d (by decide)]
  rfl

theorem cs20_tie (m : Msg) (h : IsHex m) (hl : m.length = 28) :
    Gen.bds20.cs20 (.str m) = (PyModeS.cs20 (hex2binM m) >>= fun cs => .val (.str cs)) := by
  unfold Gen.bds20.cs20 PyModeS.cs20
  rw [← chars_lit]
  generalize "#ABCDEFGHIJKLMNOPQRSTUVWXYZ#####_###############0123456789######".toList = tbl
  dsimp only
  -- (`simp only [Res.bind_val, …]` is extremely slow on this 32-step block; plain rewriting is instant)
  rw [data_str, Res.bind_val, hex2bin_data m h hl, Res.bind_val, dataR_hex m hl, Res.bind_val]
  exact cs_core tbl _

private theorem lit20 : Val.str ['0', '0', '1', '0', '0', '0', '0', '0'] = Val.ofBits (natToBits 8 0x20) := rfl

/-- `"#" in s` -/
private theorem isInfix_single (c : Char) (s : List Char) : isInfix [c] s = s.contains c := by
  induction s with
  | nil => rfl
  | cons x xs ih =>
    simp only [isInfix, ih, List.isPrefixOf, List.contains_cons]
    cases xs <;> simp

private theorem pyIn_hash (s : List Char) : pyIn (.str ['#']) (.str s) = .val (.bool (s.contains '#')) := by
  simp only [pyIn, isInfix_single]

theorem is20_tie (m : Msg) (h : IsHex m) (hl : m.length = 28) :
    Gen.bds20.is20 (.str m) = (PyModeS.is20 (hex2binM m) >>= fun b => .val (.bool b)) := by
  unfold Gen.bds20.is20 PyModeS.is20
  refine pred_open m h hl _ _ fun d hd => ?_
  refine guardCode_step d lit20 _ _ ?_
  rw [cs20_tie m h hl]
  simp only [pySliceNN_ofBits, Res.bind_val, bin2int_ofBits, bind_assoc]
  rcases bin2intR (slice 8 56 d) with (r | _ | _)
  · simp only [Res.bind_val, pyEq_ofNat_zero, pyTruth_bool, decide_eq_true_eq]
    split
    · rfl
    rcases PyModeS.cs20 (hex2binM m) with (cs | _ | _)
    · simp only [Res.bind_val, pyIn_hash, pyTruth_bool]
      cases cs.contains '#' <;> rfl
    · rfl
    · rfl
  · rfl
  · rfl

end PyModeS.Tie
