/-
  `common.icao` with the generated `crc` underneath (no external): Tie/Common.lean's DF dispatch and formatting lemma
  composed with `crc_tie`.
-/
import PyModeS.Tie.Common
import PyModeS.Tie.Crc

namespace PyModeS.Tie
open PyModeS PyModeS.Py PyModeS.CRC

/-- `common.icao(msg)` on a hex string of at least six digits: `None` or the 6-character address -/
theorem icao_tie (m : Msg) (h : IsHex m) (hl : 6 ≤ m.length) :
    Gen.py_common.icao (.str m) = .val (Val.ofOptStr (PyModeS.icao m)) :=
  icao_tie_of_crc m h hl (crc_tie m h hl true)

/-- `common.crc(msg)` (decode mode) in the vocabulary of the interrogator-code model -/
theorem crc_false_bits (m : Msg) (h : IsHex m) (hl : 6 ≤ m.length) :
    Gen.py_common.crc (.str m) (.bool false) = .val (Val.ofNat (crcBitsPy (hex2binM m))) := by
  rw [crc_tie m h hl false]; rfl

end PyModeS.Tie
