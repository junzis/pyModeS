/-
  Tie for the stateful code of streamer/source.py (property C16): `NetSource.reset_local_buffer` and
  `NetSource.handle_messages` of the generated model against `nsHandle` of Model/Stream.lean.
-/
import PyModeS.Tie.BeastReader
import PyModeS.Generated.Src.source
import PyModeS.Model.Stream
import PyModeS.Proofs.Stream.Net

open PyModeS PyModeS.Py PyModeS.CRC
namespace PyModeS.Tie.Source
open PyModeS.Tie.Beast

/-! ### attribute dictionaries -/

/-- the receiver of the `NetSource` methods: the four `local_buffer_*` attributes followed by the others -/
def reprD (am at_ cm ct : Val) (rest : List (Val × Val)) : Val :=
  .dict ((attrKey "local_buffer_adsb_msg", am) :: (attrKey "local_buffer_adsb_ts", at_) ::
    (attrKey "local_buffer_commb_msg", cm) :: (attrKey "local_buffer_commb_ts", ct) :: rest)

theorem get_am (am at_ cm ct rest) : pyGetAttr (reprD am at_ cm ct rest) "local_buffer_adsb_msg" = .val am := by
  rw [reprD, pyGetAttr]
  simp only [dictFind_cons, attrKey_beq, decide_true, if_true]
theorem get_at (am at_ cm ct rest) : pyGetAttr (reprD am at_ cm ct rest) "local_buffer_adsb_ts" = .val at_ := by
  rw [reprD, pyGetAttr]
  simp only [dictFind_cons, attrKey_beq, String.reduceEq, decide_false, decide_true, if_true, if_false, Bool.false_eq_true]
theorem get_cm (am at_ cm ct rest) : pyGetAttr (reprD am at_ cm ct rest) "local_buffer_commb_msg" = .val cm := by
  rw [reprD, pyGetAttr]
  simp only [dictFind_cons, attrKey_beq, String.reduceEq, decide_false, decide_true, if_true, if_false, Bool.false_eq_true]
theorem get_ct (am at_ cm ct rest) : pyGetAttr (reprD am at_ cm ct rest) "local_buffer_commb_ts" = .val ct := by
  rw [reprD, pyGetAttr]
  simp only [dictFind_cons, attrKey_beq, String.reduceEq, decide_false, decide_true, if_true, if_false, Bool.false_eq_true]

theorem set_am (am at_ cm ct rest v) :
    pySetAttr (reprD am at_ cm ct rest) "local_buffer_adsb_msg" v = .val (reprD v at_ cm ct rest) := by
  rw [reprD, pySetAttr]
  simp only [setPair_cons, attrKey_beq, decide_true, if_true, reprD]
theorem set_at (am at_ cm ct rest v) :
    pySetAttr (reprD am at_ cm ct rest) "local_buffer_adsb_ts" v = .val (reprD am v cm ct rest) := by
  rw [reprD, pySetAttr]
  simp only [setPair_cons, attrKey_beq, String.reduceEq, decide_false, decide_true, if_true, if_false, Bool.false_eq_true,
    reprD]
theorem set_cm (am at_ cm ct rest v) :
    pySetAttr (reprD am at_ cm ct rest) "local_buffer_commb_msg" v = .val (reprD am at_ v ct rest) := by
  rw [reprD, pySetAttr]
  simp only [setPair_cons, attrKey_beq, String.reduceEq, decide_false, decide_true, if_true, if_false, Bool.false_eq_true,
    reprD]
theorem set_ct (am at_ cm ct rest v) :
    pySetAttr (reprD am at_ cm ct rest) "local_buffer_commb_ts" v = .val (reprD am at_ cm v rest) := by
  rw [reprD, pySetAttr]
  simp only [setPair_cons, attrKey_beq, String.reduceEq, decide_false, decide_true, if_true, if_false, Bool.false_eq_true,
    reprD]

theorem get_stop (am at_ cm ct rest) :
    pyGetAttr (reprD am at_ cm ct rest) "stop_flag" = pyGetAttr (.dict rest) "stop_flag" := by
  rw [reprD, pyGetAttr, pyGetAttr]
  simp only [dictFind_cons, attrKey_beq, String.reduceEq, decide_false, if_false, Bool.false_eq_true]

/-- the events already recorded on an attribute list -/
def outOf (rest : List (Val × Val)) : List Val :=
  match dictFind rest (attrKey "__out__") with
  | some (.tuple es) => es
  | _ => []

/-- `rest` after one more recorded call `label(args)` -/
def emitTo (rest : List (Val × Val)) (label : String) (args : Val) : List (Val × Val) :=
  setPair (attrKey "__out__") (.tuple (outOf rest ++ [.tuple [attrKey label, args]])) rest

theorem emit_reprD (am at_ cm ct rest) (label : String) (args : Val) :
    pyEmit (reprD am at_ cm ct rest) label args = .val (reprD am at_ cm ct (emitTo rest label args)) := by
  rw [reprD, pyEmit]
  simp only [dictFind_cons, setPair_cons, attrKey_beq, String.reduceEq, decide_false, if_false, Bool.false_eq_true]
  rfl


/-! ### the abstraction -/

def encMsgs (l : List Msg) : Val := .tuple (l.map Val.str)

/-- The receiver whose local buffers hold `s`; `tsA`, `tsC` are the time stamps kept beside the two message lists
    (any values: the hand model does not have them), `rest` the other attributes (`stop_flag`, `__out__`, …). -/
def reprNs (s : NetSrc) (tsA tsC : List Val) (rest : List (Val × Val)) : Val :=
  reprD (encMsgs s.adsb) (.tuple tsA) (encMsgs s.commb) (.tuple tsC) rest

/-! ### `reset_local_buffer` (the code of `RtlSdrSource` repeats that of `NetSource`) -/

theorem reset_rtl_eq : Gen.source.RtlSdrSource_reset_local_buffer = Gen.source.NetSource_reset_local_buffer := rfl

theorem reset_reprD (am at_ cm ct rest) :
    Gen.source.NetSource_reset_local_buffer (reprD am at_ cm ct rest) =
      .val (.tuple [reprD (.tuple []) (.tuple []) (.tuple []) (.tuple []) rest, .none]) := by
  unfold Gen.source.NetSource_reset_local_buffer
  simp only [set_am, bind_val', set_at, set_cm, set_ct]
  rfl

end PyModeS.Tie.Source
namespace PyModeS.Tie
open PyModeS.Tie.Source

/-- on any receiver with the four attributes in any position (or absent): four functional attribute updates -/
theorem NetSource_reset_local_buffer_dict (l : List (Val × Val)) :
    Gen.source.NetSource_reset_local_buffer (.dict l) =
      .val (.tuple [.dict (setPair (attrKey "local_buffer_commb_ts") (.tuple [])
        (setPair (attrKey "local_buffer_commb_msg") (.tuple [])
        (setPair (attrKey "local_buffer_adsb_ts") (.tuple [])
        (setPair (attrKey "local_buffer_adsb_msg") (.tuple []) l)))), .none]) := rfl

/-- `reset_local_buffer()` empties the local buffers (`⟨[], []⟩` of the hand model), keeps every other attribute
    and returns `None` -/
theorem NetSource_reset_local_buffer_tie (s : NetSrc) (tsA tsC : List Val) (rest : List (Val × Val)) :
    Gen.source.NetSource_reset_local_buffer (reprNs s tsA tsC rest) =
      .val (.tuple [reprNs ⟨[], []⟩ [] [] rest, .none]) :=
  reset_reprD _ _ _ _ _

theorem RtlSdrSource_reset_local_buffer_tie (s : NetSrc) (tsA tsC : List Val) (rest : List (Val × Val)) :
    Gen.source.RtlSdrSource_reset_local_buffer (reprNs s tsA tsC rest) =
      .val (.tuple [reprNs ⟨[], []⟩ [] [] rest, .none]) := by
  rw [reset_rtl_eq]; exact reset_reprD _ _ _ _ _

end PyModeS.Tie
namespace PyModeS.Tie.Source
open PyModeS.Tie.Beast

/-! ### `handle_messages` -/

/-- the guard `if self.stop_flag.value is True:` once its outcome `b` is known -/
theorem stop_guard {β} (self : Val) (b : Bool) (k : Val → Res β)
    (h : (pyGetAttr self "stop_flag" >>= fun f => pyGetAttr f "value" >>= fun v => pyIs v (.bool true)) =
      .val (.bool b)) :
    (pyGetAttr self "stop_flag" >>= fun f => pyGetAttr f "value" >>= fun v => pyIs v (.bool true) >>= k) =
      k (.bool b) := by
  have := congrArg (· >>= k) h
  simpa only [bind_assoc, bind_val'] using this

/-- with the stop flag clear the two `handle_messages` are the same program -/
theorem handle_rtl_eq (self messages : Val)
    (h : (pyGetAttr self "stop_flag" >>= fun f => pyGetAttr f "value" >>= fun v => pyIs v (.bool true)) =
      .val (.bool false)) :
    Gen.source.RtlSdrSource_handle_messages self messages = Gen.source.NetSource_handle_messages self messages := by
  unfold Gen.source.RtlSdrSource_handle_messages Gen.source.NetSource_handle_messages
  simp only []
  rw [stop_guard self false _ h, stop_guard self false _ h]
  rfl

/-- one `[msg, t]` item of the `messages` argument -/
def encPair (p : Msg × Val) : Val := .tuple [.str p.1, p.2]

/-- the loop body of `nsHandle`, with the time stamps carried along -/
def nsStep (st : NetSrc × List Val × List Val) (p : Msg × Val) : NetSrc × List Val × List Val :=
  if p.1.length < 28 then st else
  if PyModeS.df p.1 = 17 ∨ PyModeS.df p.1 = 18 then
    ({ st.1 with adsb := st.1.adsb ++ [p.1] }, st.2.1 ++ [p.2], st.2.2)
  else if PyModeS.df p.1 = 20 ∨ PyModeS.df p.1 = 21 then
    ({ st.1 with commb := st.1.commb ++ [p.1] }, st.2.1, st.2.2 ++ [p.2])
  else st

/-- without the time stamps, `nsStep` is the loop body of the hand model -/
theorem nsStep_fst (st : NetSrc × List Val × List Val) (p : Msg × Val) :
    (nsStep st p).1 = PyModeS.Stream.nsStep st.1 p.1 := by
  unfold nsStep PyModeS.Stream.nsStep
  dsimp only
  split_ifs <;> rfl

theorem foldl_nsStep_fst (msgs : List (Msg × Val)) (st : NetSrc × List Val × List Val) :
    (msgs.foldl nsStep st).1 = (msgs.map Prod.fst).foldl PyModeS.Stream.nsStep st.1 := by
  induction msgs generalizing st with
  | nil => rfl
  | cons p msgs ih => rw [List.foldl_cons, ih, nsStep_fst, List.map_cons, List.foldl_cons]

theorem pyAppend_encMsgs (l : List Msg) (m : Msg) : pyAppend (encMsgs l) (.str m) = .val (encMsgs (l ++ [m])) := by
  simp [pyAppend, encMsgs]

theorem pyLen_encMsgs (l : List Msg) : pyLen (encMsgs l) = .val (Val.ofNat l.length) := by
  simp [pyLen, encMsgs]

/-- the argument of `raw_pipe_in.send` -/
def sendArgs (a : List Msg) (ta : List Val) (c : List Msg) (tc : List Val) : Val :=
  .tuple [.dict [(.str "adsb_ts".toList, .tuple ta), (.str "adsb_msg".toList, encMsgs a),
    (.str "commb_ts".toList, .tuple tc), (.str "commb_msg".toList, encMsgs c)]]

/-- the time stamps kept beside the buffers after the loop over `msgs` -/
def nsTs (s : NetSrc) (tsA tsC : List Val) (msgs : List (Msg × Val)) : List Val × List Val :=
  (msgs.foldl nsStep (s, tsA, tsC)).2

end PyModeS.Tie.Source
namespace PyModeS.Tie
open PyModeS.Tie.Source

/-- `handle_messages(messages)` with the stop flag clear (`hstop`: the guard `self.stop_flag.value is True` evaluates
    to `False`), on the receiver holding the local buffers `s` and a list of `[msg, t]` items (`t` any value; `msg` a hex
    string whenever it has 28 characters or more -- shorter ones are skipped before `pms.df` is called):
    the result is the receiver holding `(nsHandle s msgs).1`; when `nsHandle` sends `(adsb, commb)` the attribute
    `__out__` gains exactly the event `raw_pipe_in.send({adsb_ts, adsb_msg, commb_ts, commb_msg})`
    (`emitTo`, see `outOf_emitTo`) and the buffers are emptied, otherwise no attribute outside the four buffers changes.
    The time stamp lists (absent from the hand model) are `nsTs`. -/
theorem NetSource_handle_messages_tie (s : NetSrc) (tsA tsC : List Val) (rest : List (Val × Val))
    (msgs : List (Msg × Val))
    (hstop : (pyGetAttr (.dict rest) "stop_flag" >>= fun f => pyGetAttr f "value" >>= fun v =>
      pyIs v (.bool true)) = .val (.bool false))
    (hhex : ∀ p ∈ msgs, 28 ≤ p.1.length → IsHex p.1) :
    Gen.source.NetSource_handle_messages (reprNs s tsA tsC rest) (.tuple (msgs.map encPair)) =
      .val (.tuple [
        (match (nsHandle s (msgs.map Prod.fst)).2 with
          | none => reprNs (nsHandle s (msgs.map Prod.fst)).1 (nsTs s tsA tsC msgs).1 (nsTs s tsA tsC msgs).2 rest
          | some (a, c) => reprNs ⟨[], []⟩ [] []
              (emitTo rest "raw_pipe_in.send" (sendArgs a (nsTs s tsA tsC msgs).1 c (nsTs s tsA tsC msgs).2))),
        .none]) := by
  unfold Gen.source.NetSource_handle_messages
  simp only [reprNs]
  rw [get_stop, stop_guard _ false _ hstop]
  have hit : pyIter (Val.tuple (msgs.map encPair)) = .val (msgs.map encPair) := rfl
  simp only [pyTruth_bool, Bool.false_eq_true, if_false]
  rw [hit, bind_val']
  -- the loop: the fourth mutable variable is `self`; `msg`, `t`, `df` are scratch
  refine Beast.forIn_fold encPair
    (fun (st : NetSrc × List Val × List Val) (v : Val × Val × Val × Val) => v.2.2.2 = reprNs st.1 st.2.1 st.2.2 rest)
    nsStep _ _ _ msgs ?step (s, tsA, tsC) _ rfl ?fin
  case step =>
    rintro ⟨m, t⟩ hp st ⟨m0, t0, d0, self0⟩ hR
    have hhex := hhex _ hp
    simp only at hR hhex
    subst hR
    have hu : pyUnpackCheck (encPair (m, t)) 2 = .val () := rfl
    have h0 : pyIdxN (encPair (m, t)) 0 = .val (.str m) := rfl
    have h1 : pyIdxN (encPair (m, t)) 1 = .val t := rfl
    have hl : pyLen (.str m) = .val (Val.ofNat m.length) := rfl
    have hap : ∀ (l : List Val), pyAppend (Val.tuple l) t = .val (.tuple (l ++ [t])) := fun _ => rfl
    simp only [hu, h0, h1, hl, bind_val', pyLt_ofNat_lit, pyTruth_bool, decide_eq_true_eq, nsStep]
    by_cases hlen : m.length < 28
    · rw [if_pos hlen, if_pos hlen]; exact ⟨_, rfl, rfl⟩
    rw [if_neg hlen, if_neg hlen]
    simp only [df_str m (hhex (by omega)) (by omega), bind_val', pyEq_ofNat_lit, pyTruth_bool, Res.pure_eq,
      or_block, decide_eq_true_eq]
    by_cases hA : PyModeS.df m = 17 ∨ PyModeS.df m = 18
    · rw [if_pos hA, if_pos hA]
      simp only [reprNs, get_am, get_at, set_am, set_at, pyAppend_encMsgs, hap, bind_val']
      exact ⟨_, rfl, rfl⟩
    rw [if_neg hA, if_neg hA]
    by_cases hC : PyModeS.df m = 20 ∨ PyModeS.df m = 21
    · rw [if_pos hC, if_pos hC]
      simp only [reprNs, get_cm, get_ct, set_cm, set_ct, pyAppend_encMsgs, hap, bind_val']
      exact ⟨_, rfl, rfl⟩
    rw [if_neg hC, if_neg hC]; exact ⟨_, rfl, rfl⟩
  rintro ⟨m1, t1, d1, self1⟩ hself
  simp only at hself
  subst hself
  have hs' : (msgs.foldl nsStep (s, tsA, tsC)).1 = (msgs.map Prod.fst).foldl PyModeS.Stream.nsStep s :=
    foldl_nsStep_fst msgs (s, tsA, tsC)
  rw [PyModeS.Stream.nsHandle_fold, ← hs', nsTs]
  generalize msgs.foldl nsStep (s, tsA, tsC) = r
  simp only [reprNs, get_am, get_at, get_cm, get_ct, bind_val', pyLen_encMsgs, num_one_ofNat, pyGt_ofNat, pyTruth_bool,
    decide_eq_true_eq, emit_reprD, reset_reprD]
  by_cases hgt : 1 < r.1.adsb.length
  · rw [if_pos hgt, if_pos hgt]; rfl
  · rw [if_neg hgt, if_neg hgt]; rfl

/-- the same with the stop flag written out: `self.stop_flag = {value: False}` -/
theorem NetSource_handle_messages_tie' (s : NetSrc) (tsA tsC : List Val) (rest : List (Val × Val))
    (msgs : List (Msg × Val))
    (hstop : dictFind rest (attrKey "stop_flag") = some (.dict [(attrKey "value", .bool false)]))
    (hhex : ∀ p ∈ msgs, 28 ≤ p.1.length → IsHex p.1) :
    Gen.source.NetSource_handle_messages (reprNs s tsA tsC rest) (.tuple (msgs.map encPair)) =
      .val (.tuple [
        (match (nsHandle s (msgs.map Prod.fst)).2 with
          | none => reprNs (nsHandle s (msgs.map Prod.fst)).1 (nsTs s tsA tsC msgs).1 (nsTs s tsA tsC msgs).2 rest
          | some (a, c) => reprNs ⟨[], []⟩ [] []
              (emitTo rest "raw_pipe_in.send" (sendArgs a (nsTs s tsA tsC msgs).1 c (nsTs s tsA tsC msgs).2))),
        .none]) := by
  apply NetSource_handle_messages_tie _ _ _ _ _ _ hhex
  rw [pyGetAttr, hstop]
  rfl

/-- `handle_messages(messages)` with the stop flag set: `self.stop()` (the socket is closed), nothing else changes
    (this branch is outside `nsHandle`, which models the call with the flag clear) -/
theorem NetSource_handle_messages_stop (s : NetSrc) (tsA tsC : List Val) (rest : List (Val × Val)) (messages : Val)
    (hstop : (pyGetAttr (.dict rest) "stop_flag" >>= fun f => pyGetAttr f "value" >>= fun v =>
      pyIs v (.bool true)) = .val (.bool true)) :
    Gen.source.NetSource_handle_messages (reprNs s tsA tsC rest) messages =
      .val (.tuple [reprNs s tsA tsC (emitTo rest "socket.close" (.tuple [])), .none]) := by
  unfold Gen.source.NetSource_handle_messages
  simp only [reprNs]
  rw [get_stop, stop_guard _ true _ hstop]
  simp only [pyTruth_bool, if_true, Gen.tcpclient.TcpClient_stop, emit_reprD, bind_val', Res.pure_eq]
  rfl

/-- `RtlSdrSource.handle_messages` is the same code (stop flag clear). -/
theorem RtlSdrSource_handle_messages_tie (s : NetSrc) (tsA tsC : List Val) (rest : List (Val × Val))
    (msgs : List (Msg × Val))
    (hstop : (pyGetAttr (.dict rest) "stop_flag" >>= fun f => pyGetAttr f "value" >>= fun v =>
      pyIs v (.bool true)) = .val (.bool false))
    (hhex : ∀ p ∈ msgs, 28 ≤ p.1.length → IsHex p.1) :
    Gen.source.RtlSdrSource_handle_messages (reprNs s tsA tsC rest) (.tuple (msgs.map encPair)) =
      .val (.tuple [
        (match (nsHandle s (msgs.map Prod.fst)).2 with
          | none => reprNs (nsHandle s (msgs.map Prod.fst)).1 (nsTs s tsA tsC msgs).1 (nsTs s tsA tsC msgs).2 rest
          | some (a, c) => reprNs ⟨[], []⟩ [] []
              (emitTo rest "raw_pipe_in.send" (sendArgs a (nsTs s tsA tsC msgs).1 c (nsTs s tsA tsC msgs).2))),
        .none]) := by
  rw [handle_rtl_eq _ _ (by rw [reprNs, get_stop]; exact hstop)]
  exact NetSource_handle_messages_tie s tsA tsC rest msgs hstop hhex

end PyModeS.Tie
namespace PyModeS.Tie.Source
open PyModeS.Tie.Beast

/-- the event list after a recorded call: exactly one more entry -/
theorem outOf_emitTo (rest : List (Val × Val)) (label : String) (args : Val) :
    outOf (emitTo rest label args) = outOf rest ++ [.tuple [attrKey label, args]] := by
  have key : ∀ (l : List (Val × Val)) (v : Val), dictFind (setPair (attrKey "__out__") v l) (attrKey "__out__") = some v :=
    fun l v => dictFind_setPair_same _ v l
  unfold emitTo
  generalize outOf rest ++ [Val.tuple [attrKey label, args]] = es
  unfold outOf
  rw [key]

end PyModeS.Tie.Source
