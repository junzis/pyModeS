/-
  C18 transported to the source-generated definitions of uplink.py: the address round trip of `uplink_icao` (the
  bit-serial division loop, translated from the current Python text) for every data field and every 24-bit address.
-/
import PyModeS.Properties.C18
import PyModeS.Tie.Uplink

namespace PyModeS.C18Gen
open PyModeS PyModeS.Py PyModeS.CRC

/-- For any data field of a multiple of 4 bits ≥ 32 and any address `A < 2^24`: the *generated* `uplink_icao`, applied to
    the interrogation whose AP field was formed per Annex 10 for `A`, returns the six upper-case hex digits of `A`. -/
theorem uplink_icao_roundtrip_tie (d : Bits) (A : Nat) (hA : A < 2 ^ 24) (h4 : d.length % 4 = 0) (hd : 32 ≤ d.length) :
    Gen.uplink.uplink_icao (.str (Uplink.uplinkFrame d A)) = .val (.str (hex6 A)) := by
  have hhex : IsHex (Uplink.uplinkFrame d A) := CRC.hexOfBits_isHex _
  have hlen : 14 ≤ (Uplink.uplinkFrame d A).length := by
    unfold Uplink.uplinkFrame
    rw [CRC.hexOfBits_length]
    simp only [List.length_append, natToBits_length]
    omega
  rw [Tie.uplink_icao_tie _ hhex hlen, C18.uplink_icao_roundtrip d A hA h4 hd]

end PyModeS.C18Gen
