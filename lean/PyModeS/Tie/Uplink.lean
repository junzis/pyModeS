/-
  Tie: generated `decoder/uplink.py` = hand model (`Model/Misc.lean`: `ufB`, `byteAt`, `uplinkPr`, `uplinkLockout`,
  `uplinkIc`, `uplinkBds`, `uplinkFields`, `uplinkIcao`).

  The field decoders read `mbytes = list(map(common.bin2int, wrap(hex2bin(msg), 8)))`; for a hex message of `2 * n`
  digits this is the list of the `n` bytes `byteAt (hex2binM m) i` (`mbytes_tie`, `mbytes_bind`).  The ties are stated for every
  hex message of an even number `2 * n` of digits with `n` large enough for the bytes the function indexes
  (`mbytes[3]` needs `4 ≤ n`; on a shorter message Python raises `IndexError` while the total hand model reads 0),
  and `…_frame` corollaries give them for the two Mode S frame lengths (14 and 28 digits).
  Results: `Optional[int]` as `Val.ofOptNat`, `Optional[bool]` as `Val.ofOptBool`, `Optional[str]` as
  `Val.ofOptString`, the dictionary of `uplink_fields` as `Val.ofUplinkFields` (same keys in the same order; a field
  the hand model has as `none` is Python's `""`).
  `uplink_icao` is tied for every hex message of at least 14 digits (below that `(len(msg) - 14) * 4` is a negative
  shift count: `ValueError` in Python, truncated subtraction in the hand model).
-/
import PyModeS.Tie.Common
import PyModeS.Tie.Attr
import PyModeS.Generated.Src.uplink
import PyModeS.Model.Misc

namespace PyModeS.Tie
open PyModeS PyModeS.Py PyModeS.CRC

/- helper lemmas and the result encoders live in `PyModeS.Tie.UplinkAux` (other tie files define lemmas of the same
   names); the tie theorems themselves are `PyModeS.Tie.<function>_tie` -/
namespace UplinkAux

/-! ### uplink.uf -/

/-- `uplink.uf(msg)` on a hex string of at least two digits -/
theorem _root_.PyModeS.Tie.uf_tie (m : Msg) (h : IsHex m) (hl : 2 ≤ m.length) :
    Gen.uplink.uf (.str m) = .val (Val.ofNat (ufB (hex2binM m))) := by
  unfold Gen.uplink.uf ufB
  have hne : m.take 2 ≠ [] := by
    intro e; have := congrArg List.length e
    rw [List.length_take, Nat.min_eq_left hl] at this; simp at this
  have h8 : (hex2binM (m.take 2)).length = 8 := by
    rw [hex2binM_length, List.length_take, Nat.min_eq_left hl]
  have hs : 0 < (slice 0 5 (hex2binM (m.take 2))).length := by simp [slice, h8]
  have e : slice 0 5 (hex2binM (m.take 2)) = slice 0 5 (hex2binM m) := by
    rw [hex2binM_take]; exact slice_slice_zero 5 (4 * 2) _ (by decide)
  rw [e] at hs
  simp only [pySlice_N, bind_val', hex2bin_str _ (isHex_take' h 2) hne, pySliceNN_ofBits, bin2int_ofBits,
    bin2intR_of_length hs, pyMin2_ofNat_24, e]

/-! ### the byte list `mbytes = list(map(common.bin2int, wrap(hex2bin(msg), 8)))` -/

/-- the byte list of a bit string of `8 * n` bits -/
def mbytesV (d : Bits) (n : Nat) : Val := .tuple ((List.range n).map fun i => Val.ofNat (byteAt d i))

theorem chunks_nil (n fuel : Nat) : chunks n fuel [] = [] := by
  cases fuel <;> rfl

theorem chunks_cons (n fuel : Nat) (c : Char) (s : List Char) :
    chunks n (fuel + 1) (c :: s) = (c :: s).take n :: chunks n fuel ((c :: s).drop n) := rfl

theorem byteAt_zero (d : Bits) : byteAt d 0 = PyModeS.bin2int (d.take 8) := by
  simp [byteAt, slice]

theorem byteAt_succ (d : Bits) (i : Nat) : byteAt d (i + 1) = byteAt (d.drop 8) i := by
  simp only [byteAt, slice, List.drop_drop]
  have e1 : 8 * (i + 1) = 8 + 8 * i := by omega
  have e2 : 8 + 8 * i + 8 - (8 + 8 * i) = 8 * i + 8 - 8 * i := by omega
  rw [e1, e2]

theorem compList_chunks (n : Nat) : ∀ (d : Bits) (fuel : Nat), d.length = 8 * n → n ≤ fuel →
    compList (fun x => Gen.py_common.bin2int x >>= fun y => Res.val (some y))
      ((chunks 8 fuel (d.map Bool.toDigit)).map Val.str) =
      .val ((List.range n).map fun i => Val.ofNat (byteAt d i)) := by
  induction n with
  | zero =>
    intro d fuel hd _
    have : d = [] := List.eq_nil_of_length_eq_zero (by omega)
    subst this
    simp [chunks_nil, compList]
  | succ n ih =>
    intro d fuel hd hf
    obtain ⟨f, rfl⟩ : ∃ f, fuel = f + 1 := ⟨fuel - 1, by omega⟩
    obtain ⟨b, t, rfl⟩ : ∃ b t, d = b :: t := by
      cases d with
      | nil => simp at hd
      | cons b t => exact ⟨b, t, rfl⟩
    have hdrop : ((b :: t).drop 8).length = 8 * n := by rw [List.length_drop, hd]; omega
    have htake : 0 < ((b :: t).take 8).length := by rw [List.length_take, hd]; omega
    have ih' := ih ((b :: t).drop 8) f hdrop (by omega)
    rw [List.map_cons, chunks_cons, ← List.map_cons, ← List.map_take, ← List.map_drop, List.map_cons, compList, ih']
    have e : Gen.py_common.bin2int (Val.str (((b :: t).take 8).map Bool.toDigit)) =
        .val (Val.ofNat (PyModeS.bin2int ((b :: t).take 8))) := by
      have := bin2int_ofBits ((b :: t).take 8)
      rw [bin2intR_of_length htake, bind_val'] at this
      exact this
    simp only [e, bind_val']
    rw [List.range_succ_eq_map, List.map_cons, List.map_map, byteAt_zero]
    congr 2
    apply List.map_congr_left
    intro i _
    simp only [Function.comp, byteAt_succ]

/-- `wrap(msgbin, 8)`: the pieces of 8 characters -/
def chunksV (d : Bits) : Val :=
  .tuple ((chunks 8 (d.map Bool.toDigit).length (d.map Bool.toDigit)).map .str)

theorem pyWrap8_ofBits (d : Bits) : pyWrap (Val.ofBits d) (Val.ofNat 8) = .val (chunksV d) := by
  show pyWrap (Val.ofBits d) (Val.num 8) = .val (chunksV d)
  have h8 : (Val.num 8).int? = some (Int.ofNat (7 + 1)) := by
    have := int?_natLit 8
    simpa using this
  simp only [pyWrap, Val.ofBits, h8, chunksV]

theorem pyComp_chunksV (d : Bits) (n : Nat) (hd : d.length = 8 * n) :
    pyComp (chunksV d) (fun x => Gen.py_common.bin2int x >>= fun y => Res.val (some y)) = .val (mbytesV d n) := by
  simp only [pyComp, pyIter, bind_val', chunksV]
  rw [compList_chunks n d _ hd (by rw [List.length_map, hd]; omega)]
  simp only [bind_val', Res.pure_eq, mbytesV]

theorem pyList_mbytesV (d : Bits) (n : Nat) : pyList (mbytesV d n) = .val (mbytesV d n) := by
  simp only [pyList, pyIter, mbytesV, bind_val', Res.pure_eq]

theorem bits_of_bytes {m : Msg} {n : Nat} (hl : m.length = 2 * n) : (hex2binM m).length = 8 * n := by
  rw [hex2binM_length, hl]; omega

theorem ne_nil_of_bytes {m : Msg} {n : Nat} (hl : m.length = 2 * n) (hn : 1 ≤ n) : m ≠ [] := by
  intro e; rw [e, List.length_nil] at hl; omega

/-- `mbytes`: for a hex message of `2 * n` digits it is the list of the `n` bytes `byteAt`
    (the ties use it in the form `mbytes_bind`, with the rest of the function as a continuation) -/
theorem _root_.PyModeS.Tie.mbytes_tie (m : Msg) (n : Nat) (hl : m.length = 2 * n) :
    (do let msgbin_split ← pyWrap (Val.ofBits (hex2binM m)) (Val.num 8)
        pyList (← pyComp msgbin_split (fun x => Gen.py_common.bin2int x >>= fun y => Res.val (some y)))) =
      .val (mbytesV (hex2binM m) n) := by
  rw [show Val.num 8 = Val.ofNat 8 from rfl]
  simp only [pyWrap8_ofBits, bind_val', pyComp_chunksV _ n (bits_of_bytes hl), pyList_mbytesV]

/-- the first three statements of every field decoder (`msgbin`, `msgbin_split`, `mbytes`), followed by the rest `k`
    of the function -/
theorem mbytes_bind {β} (m : Msg) (h : IsHex m) (n : Nat) (hl : m.length = 2 * n) (hn : 1 ≤ n) (k : Val → Res β) :
    (do let msgbin ← Gen.py_common.hex2bin (.str m)
        let msgbin_split ← pyWrap msgbin (Val.num 8)
        let mbytes ← pyList (← pyComp msgbin_split (fun x__1 => do
          return some (← Gen.py_common.bin2int x__1)))
        k mbytes) = k (mbytesV (hex2binM m) n) := by
  rw [show Val.num 8 = Val.ofNat 8 from rfl]
  simp only [hex2bin_str m h (ne_nil_of_bytes hl hn), bind_val', pyWrap8_ofBits, Res.pure_eq,
    pyComp_chunksV _ n (bits_of_bytes hl), pyList_mbytesV]

theorem pyIdxN_mbytes (d : Bits) (n i : Nat) (hi : i < n) :
    pyIdxN (mbytesV d n) i = .val (Val.ofNat (byteAt d i)) := by
  simp [pyIdxN, mbytesV, hi]

/-! ### primitives on `Val.ofNat` (all numeric literals are first turned into `Val.ofNat k`) -/

theorem lit2 : Val.num 2 = Val.ofNat 2 := num_lit 2
theorem lit3 : Val.num 3 = Val.ofNat 3 := num_lit 3
theorem lit4 : Val.num 4 = Val.ofNat 4 := num_lit 4
theorem lit5 : Val.num 5 = Val.ofNat 5 := num_lit 5
theorem lit6 : Val.num 6 = Val.ofNat 6 := num_lit 6
theorem lit7 : Val.num 7 = Val.ofNat 7 := num_lit 7
theorem lit8 : Val.num 8 = Val.ofNat 8 := num_lit 8
theorem lit11 : Val.num 11 = Val.ofNat 11 := num_lit 11
theorem lit14 : Val.num 14 = Val.ofNat 14 := num_lit 14
theorem lit15 : Val.num 15 = Val.ofNat 15 := num_lit 15
theorem lit16 : Val.num 16 = Val.ofNat 16 := num_lit 16
theorem lit20 : Val.num 20 = Val.ofNat 20 := num_lit 20
theorem lit21 : Val.num 21 = Val.ofNat 21 := num_lit 21
theorem lit23 : Val.num 23 = Val.ofNat 23 := num_lit 23
theorem lit25 : Val.num 25 = Val.ofNat 25 := num_lit 25
theorem lit26 : Val.num 26 = Val.ofNat 26 := num_lit 26
theorem lit31 : Val.num 31 = Val.ofNat 31 := num_lit 31
theorem lit32 : Val.num 32 = Val.ofNat 32 := num_lit 32
theorem lit48 : Val.num 48 = Val.ofNat 48 := num_lit 48
theorem lit63 : Val.num 63 = Val.ofNat 63 := num_lit 63
theorem lit64 : Val.num 64 = Val.ofNat 64 := num_lit 64
theorem lit128 : Val.num 128 = Val.ofNat 128 := num_lit 128
theorem lit224 : Val.num 224 = Val.ofNat 224 := num_lit 224

theorem ofNat_beq2 (a b : Nat) : (Val.ofNat a).beq (Val.ofNat b) = decide (a = b) := ofNat_beq a b

/-- `UF in {4, 5, 20, 21}` -/
theorem pyIn_rollCall (u : Nat) :
    pyIn (Val.ofNat u) (.tuple [Val.ofNat 4, Val.ofNat 5, Val.ofNat 20, Val.ofNat 21]) =
      .val (.bool (isRollCall u)) := by
  have := pyIn_ofNat u [4, 5, 20, 21]
  simp only [List.map_cons, List.map_nil] at this
  rw [show (Val.tuple [Val.ofNat 4, Val.ofNat 5, Val.ofNat 20, Val.ofNat 21]) =
    Val.tuple [Val.num ((4 : Nat) : Rat), Val.num ((5 : Nat) : Rat), Val.num ((20 : Nat) : Rat),
      Val.num ((21 : Nat) : Rat)] from rfl, this]
  simp only [isRollCall, List.mem_cons, List.not_mem_nil, or_false]

/-- `None` or a number -/
theorem ofOptNat_some (n : Nat) : Val.ofOptNat (some n) = Val.ofNat n := rfl

/-! ### branching

  Where the generated function branches exactly as the hand model does (`pr`, `lockout`) the tie brings both sides
  to one shape (`Res.val` and the result encoder pushed into the branches by `apply_ite`, a short-circuit `or` and an
  `if c: flag = True` folded by `or_block` and `bool_ite`), after which they coincide.  `ic` and `bds` first split
  on the one condition where the two sides differ in shape; `uplink_fields` follows its join points case by case. -/

theorem append_ite {α} (l a b : List α) (c : Prop) [Decidable c] :
    l ++ (if c then a else b) = if c then l ++ a else l ++ b := apply_ite (l ++ ·) c a b

/-! ### uplink.pr -/

/-- `uplink.pr(msg)` on a hex message of an even number (at least 4) of digits -/
theorem _root_.PyModeS.Tie.pr_tie (m : Msg) (h : IsHex m) (n : Nat) (hl : m.length = 2 * n) (hn : 2 ≤ n) :
    Gen.uplink.pr (.str m) = .val (Val.ofOptNat (uplinkPr (hex2binM m))) := by
  unfold Gen.uplink.pr uplinkPr
  rw [mbytes_bind m h n hl (by omega)]
  simp only [bind_val', uf_tie m h (by omega), num_lit, pyEq_ofNat2, pyTruth_bool,
    pyIdxN_mbytes _ n 0 (by omega), pyIdxN_mbytes _ n 1 (by omega), pyBitAnd_ofNat, pyBitOr_ofNat, pyShl_ofNat,
    pyShr_ofNat, Res.pure_eq, decide_eq_true_eq, apply_ite Val.ofOptNat, apply_ite (Res.val (α := Val))]
  rfl

/-! ### uplink.lockout -/

/-- Python `None` / `True` / `False` -/
def Val.ofOptBool : Option Bool → Val
  | none => .none
  | some b => .bool b

/-- `uplink.lockout(msg)` on a hex message of an even number (at least 8) of digits -/
theorem _root_.PyModeS.Tie.lockout_tie (m : Msg) (h : IsHex m) (n : Nat) (hl : m.length = 2 * n) (hn : 4 ≤ n) :
    Gen.uplink.lockout (.str m) = .val (Val.ofOptBool (uplinkLockout (hex2binM m))) := by
  unfold Gen.uplink.lockout uplinkLockout
  rw [mbytes_bind m h n hl (by omega)]
  simp only [bind_val', uf_tie m h (by omega), num_lit,
    pyEq_ofNat2, pyIn_rollCall, pyTruth_bool,
    pyIdxN_mbytes _ n 1 (by omega), pyIdxN_mbytes _ n 2 (by omega), pyIdxN_mbytes _ n 3 (by omega),
    pyBitAnd_ofNat, pyShr_ofNat, Res.pure_eq, decide_eq_true_eq]
  simp only [or_block, bool_ite, bind_val', pyTruth_bool, decide_eq_true_eq, apply_ite Val.ofOptBool,
    apply_ite (Res.val (α := Val)), Val.ofOptBool.eq_1, Val.ofOptBool.eq_2]

/-! ### uplink.ic -/

/-- Python `None` or a string -/
def Val.ofOptString : Option String → Val
  | none => .none
  | some s => .str s.toList

theorem pyStr_str (s : List Char) : pyStr (.str s) = .val (.str s) := rfl

theorem pySub_ofNat_num (a b : Nat) : pySub (Val.ofNat a) (Val.ofNat b) = .val (.num ((a : Rat) - (b : Rat))) := rfl

theorem str_II (x : Nat) : ("II" ++ toString x).toList = ['I', 'I'] ++ (toString x).toList := by
  rw [String.toList_append]; rfl
theorem str_SI (x : Nat) : ("SI" ++ toString x).toList = ['S', 'I'] ++ (toString x).toList := by
  rw [String.toList_append]; rfl

/-- the dictionary `ic_switcher` and its `.get(codeLabel, "")` -/
theorem ic_switcher_get (c f : Nat) :
    pyDictGet (Val.dict
      [(Val.ofNat 0, Val.str (['I', 'I'] ++ (toString f).toList)),
       (Val.ofNat 1, Val.str (['S', 'I'] ++ (toString f).toList)),
       (Val.ofNat 2, Val.str (['S', 'I'] ++ (toString (f + 16)).toList)),
       (Val.ofNat 3, Val.str (['S', 'I'] ++ (toString (f + 32)).toList)),
       (Val.ofNat 4, Val.str (['S', 'I'] ++ (toString (f + 48)).toList))])
      (Val.ofNat c) (Val.str []) = .val (.str (icSwitcher c f).toList) := by
  simp only [pyDictGet, dictFind, List.find?_cons, ofNat_beq2, List.find?_nil]
  match c with
  | 0 => simp only [icSwitcher, str_II]; rfl
  | 1 => simp only [icSwitcher, str_SI]; rfl
  | 2 => simp only [icSwitcher, str_SI]; rfl
  | 3 => simp only [icSwitcher, str_SI]; rfl
  | 4 => simp only [icSwitcher, str_SI]; rfl
  | k + 5 => simp only [Nat.reduceEqDiff, decide_false, icSwitcher]; rfl

/-- `uplink.ic(msg)` on a hex message of an even number (at least 8) of digits -/
theorem _root_.PyModeS.Tie.ic_tie (m : Msg) (h : IsHex m) (n : Nat) (hl : m.length = 2 * n) (hn : 4 ≤ n) :
    Gen.uplink.ic (.str m) = .val (Val.ofOptString (uplinkIc (hex2binM m))) := by
  unfold Gen.uplink.ic uplinkIc
  dsimp only
  rw [uf_tie m h (by omega), bind_val', mbytes_bind m h n hl (by omega)]
  simp only [bind_val', num_lit, pyEq_ofNat2, pyIn_rollCall, pyTruth_bool,
    pyIdxN_mbytes _ n 1 (by omega), pyIdxN_mbytes _ n 2 (by omega),
    pyBitAnd_ofNat, pyShr_ofNat, Res.pure_eq, decide_eq_true_eq,
    pyStr_ofNat, pyAdd_str, pyAdd_ofNat, pyGt_ofNat, ic_switcher_get, pySub_ofNat_num]
  -- UF 11 is tested first in the code and last in the model
  by_cases hu : ufB (hex2binM m) = 11
  · simp only [hu, show isRollCall 11 = false from rfl, ↓reduceIte, Bool.false_eq_true, Val.ofOptString.eq_2]
  · simp only [hu, ↓reduceIte, ite_self, or_block, bind_val', pyTruth_bool, decide_eq_true_eq,
      apply_ite Val.ofOptString, apply_ite (Res.val (α := Val)), Val.ofOptString.eq_1, Val.ofOptString.eq_2,
      str_II, str_SI]

/-! ### uplink.bds -/

/-- `format(n, "X")` -/
theorem pyFmtHexU0_ofNat (x : Nat) : pyFmtHexU 0 (Val.ofNat x) = .val (.str (hexDigitStr x).toList) := by
  simp only [pyFmtHexU, int?_ofNat, hexDigitStr, String.toList_ofList, Nat.zero_sub, List.replicate_zero,
    List.nil_append]

theorem pySub16 (rr : Nat) (h : 15 < rr) : pySub (Val.ofNat rr) (Val.ofNat 16) = .val (Val.ofNat (rr - 16)) :=
  pySub_ofNat rr 16 (by omega)

/-- `uplink.bds(msg)` on a hex message of an even number (at least 8) of digits -/
theorem _root_.PyModeS.Tie.bds_tie (m : Msg) (h : IsHex m) (n : Nat) (hl : m.length = 2 * n) (hn : 4 ≤ n) :
    Gen.uplink.bds (.str m) = .val (Val.ofOptString (uplinkBds (hex2binM m))) := by
  unfold Gen.uplink.bds uplinkBds
  dsimp only
  rw [uf_tie m h (by omega), bind_val', mbytes_bind m h n hl (by omega)]
  simp only [bind_val', num_lit, pyEq_ofNat2, pyIn_rollCall, pyTruth_bool,
    pyIdxN_mbytes _ n 1 (by omega), pyIdxN_mbytes _ n 2 (by omega), pyIdxN_mbytes _ n 3 (by omega),
    pyBitAnd_ofNat, pyBitOr_ofNat, pyShl_ofNat, pyShr_ofNat, Res.pure_eq, decide_eq_true_eq, pyGt_ofNat]
  -- `RR - 16` is a natural number only under the guard
  by_cases hrr : 15 < (byteAt (hex2binM m) 1 >>> 3) &&& 31
  · simp only [hrr, ↓reduceIte, pySub16 _ hrr, bind_val', pyFmtHexU0_ofNat, pyStr_str, pyAdd_str,
      apply_ite Val.ofOptString, Val.ofOptString.eq_1, Val.ofOptString.eq_2, String.toList_append,
      apply_ite hexDigitStr, apply_ite String.toList, append_ite, apply_ite Val.str, apply_ite (Res.val (α := Val))]
  · simp only [hrr, ↓reduceIte, ite_self, Val.ofOptString.eq_1]

/-! ### uplink.uplink_fields -/

/-- a field that is `""` when absent and a number otherwise (`DI`, `PR`, `RR`, `RRS`) -/
def Val.ofOptNatE : Option Nat → Val
  | none => .str []
  | some n => Val.ofNat n

/-- the dictionary `uplink_fields` returns, from the hand model's structure (same keys, same order) -/
def Val.ofUplinkFields (f : UplinkFields) : Val :=
  .dict [(.str ['D', 'I'], Val.ofOptNatE f.di), (.str ['I', 'C'], .str f.ic.toList),
    (.str ['L', 'O', 'S'], .bool f.los), (.str ['P', 'R'], Val.ofOptNatE f.pr),
    (.str ['R', 'R'], Val.ofOptNatE f.rr), (.str ['R', 'R', 'S'], Val.ofOptNatE f.rrs),
    (.str ['B', 'D', 'S'], .str f.bds.toList)]

theorem toList_II : "II".toList = ['I', 'I'] := rfl
theorem toList_SI : "SI".toList = ['S', 'I'] := rfl

set_option hygiene false in
/-- second phase of `uplink_fields_tie`: the conditions are decided by the hypotheses in the context, the join
    points are unfolded along the one path that is taken (`hygiene false` only because the call then elaborates
    faster: no macro scopes on the lemma names) -/
macro "uf_close" : tactic => `(tactic|
  (simp only [↓reduceIte, *, bind_val', pyFmtHexU0_ofNat, pyStr_str, pyAdd_str, ic_switcher_get, pySub16,
     Val.ofUplinkFields, Val.ofOptNatE, str_II, str_SI, String.toList_append, gt_iff_lt, decide_true, decide_false,
     String.toList_empty, Bool.false_eq_true, eq_self, toList_II, toList_SI, Nat.reduceEqDiff]))

/-- `uplink.uplink_fields(msg)` on a hex message of an even number (at least 8) of digits -/
theorem _root_.PyModeS.Tie.uplink_fields_tie (m : Msg) (h : IsHex m) (n : Nat) (hl : m.length = 2 * n) (hn : 4 ≤ n) :
    Gen.uplink.uplink_fields (.str m) = .val (Val.ofUplinkFields (uplinkFields (hex2binM m))) := by
  unfold Gen.uplink.uplink_fields uplinkFields
  -- first phase: evaluate the primitives, keeping the join points of the `do` block (`zeta := false`)
  rw [mbytes_bind m h n hl (by omega)]
  simp (config := {zeta := false}) only [bind_val', uf_tie m h (by omega), num_lit, pyEq_ofNat2, pyIn_rollCall, pyTruth_bool,
    pyIdxN_mbytes _ n 0 (by omega), pyIdxN_mbytes _ n 1 (by omega), pyIdxN_mbytes _ n 2 (by omega),
    pyIdxN_mbytes _ n 3 (by omega),
    pyBitAnd_ofNat, pyBitOr_ofNat, pyShl_ofNat, pyShr_ofNat, Res.pure_eq, decide_eq_true_eq, pyGt_ofNat,
    pyStr_ofNat, pyAdd_str, pyAdd_ofNat]
  generalize byteAt (hex2binM m) 0 = b0
  generalize byteAt (hex2binM m) 1 = b1
  generalize byteAt (hex2binM m) 2 = b2
  generalize byteAt (hex2binM m) 3 = b3
  generalize ufB (hex2binM m) = u
  clear hl hn h
  by_cases hu : u = 11
  · subst hu
    have hr : isRollCall 11 = false := rfl
    uf_close
  by_cases hr : isRollCall u = true
  swap
  · uf_close
  -- roll-call formats: DI selects the sub-fields of SD; in each class both values of the lockout bit it reads
  -- (if any) and both outcomes of `RR > 15`
  have hdi : b1 &&& 7 = 0 ∨ b1 &&& 7 = 1 ∨ b1 &&& 7 = 7 ∨ b1 &&& 7 = 3 ∨
      (b1 &&& 7 ≠ 0 ∧ b1 &&& 7 ≠ 1 ∧ b1 &&& 7 ≠ 7 ∧ b1 &&& 7 ≠ 3) := by omega
  rcases hdi with hd | hd | hd | hd | ⟨h0, h1, h7, h3⟩
  · by_cases hrr : 15 < b1 >>> 3 &&& 31 <;> uf_close
  · by_cases hl : (b3 &&& 64) >>> 6 = 1 <;> by_cases hrr : 15 < b1 >>> 3 &&& 31 <;> uf_close
  · by_cases hl : (b3 &&& 64) >>> 6 = 1 <;> by_cases hrr : 15 < b1 >>> 3 &&& 31 <;> uf_close
  · by_cases hl : (b2 &&& 2) >>> 1 = 1 <;> by_cases hrr : 15 < b1 >>> 3 &&& 31 <;> uf_close
  · by_cases hrr : 15 < b1 >>> 3 &&& 31 <;> uf_close

/-! ### uplink.uplink_icao -/

/-- one iteration of the loop of `uplink_icao` (the body of the hand model's `uplinkLoop`) -/
def icaoStep (n pgen j : Nat) (s : Nat × Nat × Nat) : Nat × Nat × Nat :=
  let (data, pa, ad) := s
  let topbit := 1 <<< (n - 25)
  let data := if data &&& topbit ≠ 0 then data ^^^ pgen else data
  let data := (data <<< 1) + ((pa >>> 23) &&& 1)
  let pa := pa <<< 1
  let ad := if j + 26 > n then (ad + ((data >>> (n - 25)) &&& 1)) <<< 1 else ad
  (data, pa, ad)

theorem uplinkLoop_succ (n pgen k : Nat) (s : Nat × Nat × Nat) :
    uplinkLoop n pgen (k + 1) s = icaoStep n pgen k (uplinkLoop n pgen k s) := rfl

theorem uplinkLoop_eq_foldl (n pgen k : Nat) (s : Nat × Nat × Nat) :
    uplinkLoop n pgen k s = (List.range k).foldl (fun s j => icaoStep n pgen j s) s := by
  induction k with
  | zero => rfl
  | succ k ih => rw [uplinkLoop_succ, ih, List.range_succ, List.foldl_append]; rfl

/-- the loop state `(data, PA, ad)` as Python values -/
def encS (s : Nat × Nat × Nat) : Val × Val × Val := (Val.ofNat s.1, Val.ofNat s.2.1, Val.ofNat s.2.2)

theorem pyRange3_01 (N : Nat) :
    pyRange3 (Val.ofNat 0) (Val.ofNat N) (Val.ofNat 1) = .val (.tuple ((List.range N).map Val.ofNat)) := by
  simp only [pyRange3, int?_ofNat]
  have e : ((if ((1 : Nat) : Int) > 0 then (((N : Int) - ((0 : Nat) : Int) + ((1 : Nat) : Int) - 1) / ((1 : Nat) : Int)).toNat
      else ((((0 : Nat) : Int) - (N : Int) + -((1 : Nat) : Int) - 1) / -((1 : Nat) : Int)).toNat)) = N := by
    simp
  simp only [e]
  simp [Val.ofNat]

theorem pyLen_str (m : Msg) : pyLen (.str m) = .val (Val.ofNat m.length) := pyLen_chars m
theorem pyIter_tuple (l : List Val) : pyIter (.tuple l) = .val l := rfl

theorem litG : Val.num 4294575232 = Val.ofNat 4294575232 := num_lit 4294575232

theorem isHex_dropLast {m : Msg} (h : IsHex m) (k : Nat) : IsHex (dropLast k m) :=
  fun c hc => h c (List.mem_of_mem_take hc)

/-- `uplink.uplink_icao(msg)` on a hex message of at least 14 digits -/
theorem _root_.PyModeS.Tie.uplink_icao_tie (m : Msg) (h : IsHex m) (hl : 14 ≤ m.length) :
    Gen.uplink.uplink_icao (.str m) = .val (.str (uplinkIcao m)) := by
  unfold Gen.uplink.uplink_icao uplinkIcao
  have hne1 : dropLast 6 m ≠ [] := by
    intro e; have := congrArg List.length e; simp [dropLast] at this; omega
  have hne2 : takeLast 6 m ≠ [] := by
    intro e; have := congrArg List.length e; simp [takeLast] at this; omega
  have s14 := pySub_ofNat m.length 14 hl
  have s25 := pySub_ofNat (m.length * 4) 25 (by omega)
  have s26 := pySub_ofNat (m.length * 4) 26 (by omega)
  simp only [pyLen_str, bind_val', lit2, lit4, lit14, lit23, lit25, lit26, litG, num_one_ofNat, num_zero_ofNat,
    s14, s25, s26, pyMul_ofNat, pyShl_ofNat, pySlice_dropLast6, pySlice_last6,
    pyInt2_hex _ (isHex_dropLast h 6) hne1, pyInt2_hex _ (isHex_takeLast h 6) hne2, pyRange3_01, pyIter_tuple]
  rw [uplinkLoop_eq_foldl]
  generalize hN : m.length * 4 = N at *
  generalize hG : 4294575232 <<< ((m.length - 14) * 4) = pgen
  generalize hexToNatM (dropLast 6 m) = data0
  generalize hexToNatM (takeLast 6 m) = pa0
  have hN26 : 26 ≤ N := by omega
  -- the loop keeps `(data, PA, ad)` equal to the model state (the first component is the loop variable `j`)
  refine Beast.forIn_fold Val.ofNat (fun t (s : Val × Val × Val × Val) => s.2 = encS t)
    (fun s j => icaoStep N pgen j s) _ _ _ _ ?step (data0, pa0, 0) _ rfl ?fin
  case step =>
    rintro j - ⟨data, pa, ad⟩ ⟨jv, s⟩ rfl
    refine ⟨(Val.ofNat j, encS (icaoStep N pgen j (data, pa, ad))), ?_, rfl⟩
    simp only [encS, icaoStep, pyBitAnd_ofNat, pyBitXor_ofNat, pyShl_ofNat, pyShr_ofNat, pyAdd_ofNat, pyGt_ofNat,
      bind_val', pyTruth_ofNat, pyTruth_bool, Res.pure_eq, decide_eq_true_eq, gt_iff_lt]
    have e : (N - 26 < j) = (N < j + 26) := by
      apply propext; omega
    simp only [e]
    split_ifs <;> rfl
  case fin =>
    rintro ⟨jv', s'⟩ rfl
    simp only [bind_val', encS, pyShr_ofNat, pyFmtHexU6_ofNat]

/-! ### the two frame lengths of Mode S (56 and 112 bits) -/

theorem frame_bytes {m : Msg} (hl : m.length = 14 ∨ m.length = 28) : ∃ n, m.length = 2 * n ∧ 4 ≤ n := by
  rcases hl with hl | hl
  · exact ⟨7, hl, by decide⟩
  · exact ⟨14, hl, by decide⟩

theorem _root_.PyModeS.Tie.pr_tie_frame (m : Msg) (h : IsHex m) (hl : m.length = 14 ∨ m.length = 28) :
    Gen.uplink.pr (.str m) = .val (Val.ofOptNat (uplinkPr (hex2binM m))) := by
  obtain ⟨n, h2, h4⟩ := frame_bytes hl
  exact pr_tie m h n h2 (by omega)

theorem _root_.PyModeS.Tie.lockout_tie_frame (m : Msg) (h : IsHex m) (hl : m.length = 14 ∨ m.length = 28) :
    Gen.uplink.lockout (.str m) = .val (Val.ofOptBool (uplinkLockout (hex2binM m))) := by
  obtain ⟨n, h2, h4⟩ := frame_bytes hl
  exact lockout_tie m h n h2 h4

theorem _root_.PyModeS.Tie.ic_tie_frame (m : Msg) (h : IsHex m) (hl : m.length = 14 ∨ m.length = 28) :
    Gen.uplink.ic (.str m) = .val (Val.ofOptString (uplinkIc (hex2binM m))) := by
  obtain ⟨n, h2, h4⟩ := frame_bytes hl
  exact ic_tie m h n h2 h4

theorem _root_.PyModeS.Tie.bds_tie_frame (m : Msg) (h : IsHex m) (hl : m.length = 14 ∨ m.length = 28) :
    Gen.uplink.bds (.str m) = .val (Val.ofOptString (uplinkBds (hex2binM m))) := by
  obtain ⟨n, h2, h4⟩ := frame_bytes hl
  exact bds_tie m h n h2 h4

theorem _root_.PyModeS.Tie.uplink_fields_tie_frame (m : Msg) (h : IsHex m) (hl : m.length = 14 ∨ m.length = 28) :
    Gen.uplink.uplink_fields (.str m) = .val (Val.ofUplinkFields (uplinkFields (hex2binM m))) := by
  obtain ⟨n, h2, h4⟩ := frame_bytes hl
  exact uplink_fields_tie m h n h2 h4

end UplinkAux
end PyModeS.Tie
