/-
  C01 transported to the source-generated definition of `py_common.crc` (the Lean text py2lean.py produced from the
  current Python source, loops included): it computes the polynomial remainder modulo the Mode S generator, ignores
  the parity field when encoding, and never accepts a corrupted frame with a burst ≤ 24 bits or 1–5 flipped bits.
  Each statement composes `Tie.crc_tie` (generated = hand model) with a theorem of `Properties/C01.lean`.
-/
import PyModeS.Properties.C01
import PyModeS.Tie.Crc

namespace PyModeS.C01Gen
open PyModeS PyModeS.Py PyModeS.CRC

/-- the generated `crc(msg)` is the remainder of the frame polynomial modulo 0x1FFF409 (any even length ≥ 6 hex digits) -/
theorem crc_eq_remainder_tie (m : Msg) (h : IsHex m) (h6 : 6 ≤ m.length) (h2 : m.length % 2 = 0) :
    Gen.py_common.crc (.str m) (.bool false) = .val (Val.ofNat (Spec.remH (hex2binM m))) := by
  rw [Tie.crc_tie m h h6 false, C01.crc_eq_remainder_msg m h6 h2]

/-- the generated `crc(msg, encode=True)` depends on the data bits only: it is the remainder of data ++ 24 zeros -/
theorem crc_encode_ignores_parity_tie (m : Msg) (h : IsHex m) (h6 : 6 ≤ m.length) (h2 : m.length % 2 = 0) :
    Gen.py_common.crc (.str m) (.bool true) =
      .val (Val.ofNat (Spec.remH (hex2binM (dropLast 6 m) ++ List.replicate 24 false))) := by
  rw [Tie.crc_tie m h h6 true, C01.crc_encode_ignores_parity m h6 h2]

/-- the generated checksum of a frame is 0 exactly when the remainder of its bits is -/
theorem crc_zero_iff (m : Msg) (h : IsHex m) (h6 : 6 ≤ m.length) (h2 : m.length % 2 = 0) :
    Gen.py_common.crc (.str m) (.bool false) = .val (Val.ofNat 0) ↔ Spec.remH (hex2binM m) = 0 := by
  rw [crc_eq_remainder_tie m h h6 h2]
  constructor
  · intro hv; simpa [Val.ofNat] using Res.val.inj hv
  · intro hv; rw [hv]

/-- a frame whose generated checksum is 0, corrupted by an error burst of at most 24 bits, has a non-zero generated checksum -/
theorem burst_detected_tie (m m' : Msg) (h : IsHex m) (h' : IsHex m') (h6 : 6 ≤ m.length) (h2 : m.length % 2 = 0)
    (hlen : m'.length = m.length)
    (hv : Gen.py_common.crc (.str m) (.bool false) = .val (Val.ofNat 0))
    (b : Bits) (k n : Nat) (hb : b.length ≤ 24) (ht : true ∈ b)
    (he : hex2binM m' = xorBits (hex2binM m) (List.replicate k false ++ b ++ List.replicate n false))
    (hl : (List.replicate k false ++ b ++ List.replicate n false).length = (hex2binM m).length) :
    Gen.py_common.crc (.str m') (.bool false) ≠ .val (Val.ofNat 0) := by
  rw [crc_zero_iff m h h6 h2] at hv
  rw [Ne, crc_zero_iff m' h' (hlen ▸ h6) (hlen ▸ h2), he]
  exact C01.burst_detected (hex2binM m) _ b k n hv rfl hl hb ht

/-- … and so has one with 1 to 5 flipped bits (frames of at most 112 bits) -/
theorem weight_le5_detected_tie (m m' : Msg) (h : IsHex m) (h' : IsHex m') (h6 : 6 ≤ m.length) (h2 : m.length % 2 = 0)
    (h28 : m.length ≤ 28) (hlen : m'.length = m.length)
    (hv : Gen.py_common.crc (.str m) (.bool false) = .val (Val.ofNat 0))
    (e : Bits) (he : hex2binM m' = xorBits (hex2binM m) e) (hl : e.length = (hex2binM m).length)
    (h1 : 1 ≤ Spec.weight e) (h5 : Spec.weight e ≤ 5) :
    Gen.py_common.crc (.str m') (.bool false) ≠ .val (Val.ofNat 0) := by
  rw [crc_zero_iff m h h6 h2] at hv
  rw [Ne, crc_zero_iff m' h' (hlen ▸ h6) (hlen ▸ h2), he]
  have hlen112 : (hex2binM m).length ≤ 112 := by rw [hex2binM_length]; omega
  exact C01.weight_le5_detected (hex2binM m) e hv hlen112 hl h1 h5

end PyModeS.C01Gen
