/-
  Tie: generated `bds60.py` field decoders = hand model (`Model/Commb.lean`) on every 28-digit hex frame.
  (`is60` is tied in `Tie/Is60.lean`: it calls the floating-point `aero.mach2cas`.)
-/
import PyModeS.Tie.Commb
import PyModeS.Generated.Src.bds60

namespace PyModeS.Tie
open PyModeS PyModeS.Py PyModeS.CRC

theorem hdg60_tie (m : Msg) (h : IsHex m) (hl : m.length = 28) :
    Gen.bds60.hdg60 (.str m) = (PyModeS.hdg60 (hex2binM m) >>= fun o => .val (Val.ofOptRat o)) := by
  unfold Gen.bds60.hdg60 PyModeS.hdg60
  exact field_open m h hl _ _ _ fun d _ => heading_step d 0 1 2 12 rfl

theorem ias60_tie (m : Msg) (h : IsHex m) (hl : m.length = 28) :
    Gen.bds60.ias60 (.str m) = (PyModeS.ias60 (hex2binM m) >>= fun o => .val (Val.ofOptRat o)) := by
  unfold Gen.bds60.ias60 PyModeS.ias60
  exact field_open m h hl _ _ _ fun d _ => ufield_int_step d 12 13 23

theorem mach60_tie (m : Msg) (h : IsHex m) (hl : m.length = 28) :
    Gen.bds60.mach60 (.str m) = (PyModeS.mach60 (hex2binM m) >>= fun o => .val (Val.ofOptRat o)) := by
  unfold Gen.bds60.mach60 PyModeS.mach60
  refine field_open m h hl _ _ _ fun d _ => ufield_step d 23 24 34 (2048 / 1000 / 512) 0 _ fun v => ?_
  rw [Val.ofNat, pyMul_num, Res.bind_val, pyDiv_num _ _ (by norm_num), add_zero, mul_div_assoc]
  norm_num

theorem vr60baro_tie (m : Msg) (h : IsHex m) (hl : m.length = 28) :
    Gen.bds60.vr60baro (.str m) = (PyModeS.vr60baro (hex2binM m) >>= fun o => .val (Val.ofOptRat o)) := by
  unfold Gen.bds60.vr60baro PyModeS.vr60baro
  exact field_open m h hl _ _ _ fun d _ => sfield_step d 34 35 36 45 512 rfl 32 _ fun x => pyMul_num _ _

theorem vr60ins_tie (m : Msg) (h : IsHex m) (hl : m.length = 28) :
    Gen.bds60.vr60ins (.str m) = (PyModeS.vr60ins (hex2binM m) >>= fun o => .val (Val.ofOptRat o)) := by
  unfold Gen.bds60.vr60ins PyModeS.vr60ins
  exact field_open m h hl _ _ _ fun d _ => sfield_step d 45 46 47 56 512 rfl 32 _ fun x => pyMul_num _ _

end PyModeS.Tie
