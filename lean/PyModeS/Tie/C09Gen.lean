/-
  C09 stated about the source-generated definitions of bds06.py / bds09.py / adsb.py: the surface velocity of
  `Gen.bds06.surface_velocity` is the DO-260B movement table and the 7-bit track on every TC 5-8 frame,
  `bds09.altitude_diff` is `±(N−1)·25 ft`, and `adsb.velocity` routes by type code.  Each statement composes a tie
  theorem (`Tie/Bds05b.lean`, `Tie/Bds08.lean`, `Tie/Adsb.lean`) with a theorem of `Properties/C09.lean`; of the hand
  model only the bit-level readers (`hex2binM`, `tcB`, `slice`) occur in the statements.
  (`bds09.airborne_velocity` is tied in `Tie/Bds09.lean`; `C09.airborne_velocity_spec` is not transported here.)
-/
import PyModeS.Properties.C09
import PyModeS.Tie.Bds05b
import PyModeS.Tie.Bds08
import PyModeS.Tie.Adsb

namespace PyModeS.C09Gen
open PyModeS PyModeS.Py PyModeS.CRC PyModeS.C09 PyModeS.Spec PyModeS.Fields

/-- the constant tail of the tuple `surface_velocity` returns: `0, "GS"` and, with `source=True`, `"TRUE_NORTH", None` -/
def surfTail (src : Bool) : List Val :=
  [.num 0, .str ['G', 'S']] ++ if src then [.str ['T', 'R', 'U', 'E', '_', 'N', 'O', 'R', 'T', 'H'], .none] else []

/-- **Surface velocity.** On every 28-digit TC 5-8 frame the generated `surface_velocity(msg, source)` returns the
    DO-260B movement-table speed of ME bits 6-12 (all 128 codes; `None` for "no information" / reserved) and the track
    `N·360/128` of ME bits 14-20 when the status bit (ME bit 13) is set, `None` otherwise. -/
theorem surface_velocity_spec_tie (m : Msg) (h : IsHex m) (hl : m.length = 28) (src : Bool) (tc : Nat)
    (htc : tcB (hex2binM m) = some tc) (h58 : 5 ≤ tc ∧ tc ≤ 8) :
    Gen.bds06.surface_velocity (.str m) (.bool src) =
      .val (.tuple ([Val.ofOptRat (movementSpeed (bin2int (slice 37 44 (hex2binM m)))),
        Val.ofOptRat (if (hex2binM m).getD 44 false then
          some ((bin2int (slice 45 52 (hex2binM m)) : Rat) * 360 / 128) else none)] ++ surfTail src)) := by
  have hb := Tie.frame_bits m hl
  rw [Tie.surface_velocity_tie m h (by omega) src, surface_velocity_spec _ hb tc htc h58]
  simp only [getD_eq (show 44 < (hex2binM m).length by omega)]
  rfl

/-- every one of the 128 movement codes: the generated decoder returns the DO-260B quantisation table entry
    (the track status bit clear), whatever the other bits of the frame are -/
theorem surface_speed_table_tie (m : Msg) (h : IsHex m) (hl : m.length = 28) (tc : Nat)
    (htc : tcB (hex2binM m) = some tc) (h58 : 5 ≤ tc ∧ tc ≤ 8) (mov : Nat)
    (hmov : bin2int (slice 37 44 (hex2binM m)) = mov) (hst : (hex2binM m).getD 44 false = false) :
    Gen.bds06.surface_velocity (.str m) (.bool false) =
      .val (.tuple [Val.ofOptRat (movementSpeed mov), .none, .num 0, .str ['G', 'S']]) := by
  rw [surface_velocity_spec_tie m h hl false tc htc h58, hmov, hst]
  rfl

/-- outside TC 5-8 (or outside DF 17/18) the generated `surface_velocity` raises RuntimeError -/
theorem surface_velocity_guard_tie (m : Msg) (h : IsHex m) (hl : 10 ≤ m.length) (src : Bool)
    (hg : ∀ tc, tcB (hex2binM m) = some tc → tc < 5 ∨ tc > 8) :
    Gen.bds06.surface_velocity (.str m) (.bool src) = .rte := by
  rw [Tie.surface_velocity_tie m h hl src, surface_velocity_guard _ hg]
  rfl

/-- **GNSS–baro difference** of the generated `bds09.altitude_diff`: `±(N−1)·25 ft`, `None` for N = 0 (and, as coded,
    for the saturated code 127) on every 28-digit TC 19 frame. -/
theorem altitude_diff_spec_tie (m : Msg) (h : IsHex m) (hl : m.length = 28) (htc : tcB (hex2binM m) = some 19) :
    Gen.bds09.altitude_diff (.str m) =
      .val (Val.ofOptInt
        (let v := bin2int (slice 81 88 (hex2binM m))
         let sign : Int := if (hex2binM m).getD 80 false then -1 else 1
         if v = 0 ∨ v = 127 then none else some (sign * ((v : Int) - 1) * 25))) := by
  have hb := Tie.frame_bits m hl
  rw [Tie.altitude_diff_tie m h (by omega), altitude_diff_partial _ hb htc]
  simp only [getD_eq (show 80 < (hex2binM m).length by omega)]
  rfl

/-- the generated `altitude_diff` raises RuntimeError unless the type code is 19 -/
theorem altitude_diff_guard_tie (m : Msg) (h : IsHex m) (hl : 10 ≤ m.length) (htc : tcB (hex2binM m) ≠ some 19) :
    Gen.bds09.altitude_diff (.str m) = .rte := by
  rw [Tie.altitude_diff_tie m h hl, altitude_diff_guard _ htc]
  rfl

/-- **Encoder round trip** for the altitude difference: the DO-260B airborne-velocity frame built from any field
    values within their widths (arbitrary CA, address, reserved bits, parity), written as 28 hex digits, is decoded by
    the generated `altitude_diff` to `±(N−1)·25 ft` of exactly the encoded sign and value. -/
theorem altitude_diff_roundtrip_tie (df ca icao st x1 : Nat) (s_ew : Bool) (v_ew : Nat) (s_ns : Bool)
    (v_ns : Nat) (vrsrc s_vr : Bool) (vr x2 : Nat) (dsign : Bool) (diff parity : Nat)
    (hdf : df = 17 ∨ df = 18) (hst : st < 8) (hew : v_ew < 1024) (hns : v_ns < 1024) (hvr : vr < 512)
    (hd : diff < 128) :
    Gen.bds09.altitude_diff (.str (hexOfBits
        (build (velFrame df ca icao st x1 s_ew v_ew s_ns v_ns vrsrc s_vr vr x2 dsign diff parity)))) =
      .val (Val.ofOptInt (if diff = 0 ∨ diff = 127 then none
        else some ((if dsign then -1 else 1) * ((diff : Int) - 1) * 25))) := by
  obtain ⟨hlen, _, _, hdiff⟩ := airborne_velocity_roundtrip df ca icao st x1 s_ew v_ew s_ns v_ns vrsrc s_vr vr x2
    dsign diff parity hdf hst hew hns hvr hd
  have hhex := hexOfBits_isHex
    (build (velFrame df ca icao st x1 s_ew v_ew s_ns v_ns vrsrc s_vr vr x2 dsign diff parity))
  have hl : (hexOfBits
      (build (velFrame df ca icao st x1 s_ew v_ew s_ns v_ns vrsrc s_vr vr x2 dsign diff parity))).length = 28 := by
    rw [hexOfBits_length, hlen]
  rw [Tie.altitude_diff_tie _ hhex (by omega), hex2binM_hexOfBits _ (by rw [hlen]), hdiff]
  rfl

/-- **Routing.** The generated `adsb.velocity` calls the generated `surface_velocity` exactly for TC 5-8, the generated
    `airborne_velocity` exactly for TC 19, and raises RuntimeError for every other type code and for frames without a
    type code (DF other than 17/18); `source` is handed on unchanged. -/
theorem velocity_routing_tie (m : Msg) (h : IsHex m) (hl : 10 ≤ m.length) (source : Val) :
    (∀ tc, tcB (hex2binM m) = some tc → 5 ≤ tc ∧ tc ≤ 8 →
      Gen.adsb.velocity (.str m) source = Gen.bds06.surface_velocity (.str m) source) ∧
    (tcB (hex2binM m) = some 19 →
      Gen.adsb.velocity (.str m) source = Gen.bds09.airborne_velocity (.str m) source) ∧
    (∀ tc, tcB (hex2binM m) = some tc → ¬ (5 ≤ tc ∧ tc ≤ 8) → tc ≠ 19 → Gen.adsb.velocity (.str m) source = .rte) ∧
    (tcB (hex2binM m) = none → Gen.adsb.velocity (.str m) source = .rte) := by
  obtain ⟨r1, r2, r3, r4⟩ := velocity_routing (hex2binM m)
  rw [Tie.velocity_tie m h hl source]
  refine ⟨?_, ?_, ?_, ?_⟩
  · intro tc htc h58; rw [r1 tc htc h58]; rfl
  · intro htc; rw [r2 htc]; rfl
  · intro tc htc h1 h2; rw [r3 tc htc h1 h2]; rfl
  · intro htc; rw [r4 htc]; rfl

/-- `adsb.velocity` on a surface frame: the movement table and the track, as for `surface_velocity` -/
theorem velocity_surface_spec_tie (m : Msg) (h : IsHex m) (hl : m.length = 28) (src : Bool) (tc : Nat)
    (htc : tcB (hex2binM m) = some tc) (h58 : 5 ≤ tc ∧ tc ≤ 8) :
    Gen.adsb.velocity (.str m) (.bool src) =
      .val (.tuple ([Val.ofOptRat (movementSpeed (bin2int (slice 37 44 (hex2binM m)))),
        Val.ofOptRat (if (hex2binM m).getD 44 false then
          some ((bin2int (slice 45 52 (hex2binM m)) : Rat) * 360 / 128) else none)] ++ surfTail src)) := by
  rw [(velocity_routing_tie m h (by omega) (.bool src)).1 tc htc h58]
  exact surface_velocity_spec_tie m h hl src tc htc h58

end PyModeS.C09Gen
