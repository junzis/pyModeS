/-
  C14, the `tell()` clause, transported to the source-generated definition `Gen.decoder.tell`
  (`Generated/Src/decoder.lean`, from `src/pyModeS/decoder/__init__.py`; the `_print` helper is inlined: a printed value
  is just evaluated, a `%s` format is `pyFormatS`): on every 28-digit hex frame, whatever its bits, `tell` returns
  normally (the value `None`) — neither RuntimeError (`.rte`) nor any other exception (`.exc`).

  `tell` is a sequence of blocks `if <condition on DF / type code / BDS label>: <decode and print>`, which the translator
  turns into nested join points.  `tell_none` walks them once, from the last block to the first: each join point returns
  `None` whatever it is given, because the block in front of it only evaluates decoders on frames on which they are
  values (`Tie/C14Gen.lean`: `no_exc_adsb_tie`, `guard_iff_tie`, `commb_total_tie`, `val_iff_examples_tie`) and looks
  up dictionaries at keys they have.  The only decoder result whose shape matters and is not exact is that of
  `adsb.velocity` on a TC 19 frame (hypothesis `VelShape`); the per-branch lemmas `tell_commb_tie`, `tell_other_df_tie`,
  `tell_tc_*_tie`, `tell_df17_not19_tie` are the instances of `tell_none` off TC 19.

  Statements (end of the file, `namespace PyModeS.Tie`):
  * `tell_total_112_not_tc19_tie`: unconditional, every frame that is not DF 17 / TC 19.
  * `tell_total_112_nofloat_tie`: unconditional, every frame except the DF 17 / TC 19 ground-speed frames with both
    velocity fields non-zero (the only frames on which `tell` reaches `math.sqrt` / `math.atan2`).
  * `tell_total_112_velshape_tie_partial`: every frame, given that on a TC 19 frame the generated
    `bds09.airborne_velocity` returns `None` or a 4-tuple ending in `"GS"` / `"TAS"` / `"IAS"`.
  * `tell_velocity_shape_tie` / `tell_velocity_shape_nofloat_tie`: that shape, from the tie of `airborne_velocity`
    (`Tie/Bds09.lean`) — under `FloatOK` / without any hypothesis outside the ground-speed case.
  * `tell_total_112_tie_partial`: every frame, under `FloatOK` only.  `FloatOK` cannot be discharged inside Lean:
    `Ext.math_sqrt` / `Ext.math_degrees` are `Float.sqrt` / a `Float` multiplication guarded by `isNaN || isInf`
    (→ `.exc`), and `Float` operations are opaque to the kernel; evaluated (`#eval`) it holds on every sampled point.
-/
import PyModeS.Tie.C14Gen
import PyModeS.Tie.Bds09
import PyModeS.Generated.Src.decoder
set_option linter.unusedVariables false
namespace PyModeS.Tie.TellGen
open PyModeS PyModeS.Py PyModeS.CRC PyModeS.C14 PyModeS.Tie PyModeS.Tie.Adsb

/-! ### Python primitives on the values `tell` meets -/

theorem one_le_lit (n : Nat) : pyLe (.num 1) (.num (n : Rat)) = .val (.bool (decide (1 ≤ n))) := by
  simp [pyLe_num]
theorem pyEq_any_str (a : Val) (l : List Char) : pyEq a (.str l) = .val (.bool (Val.beq a (.str l))) := rfl
theorem pyIsNot_def (a b : Val) : pyIsNot a b = .val (.bool (!Val.beq a b)) := rfl
theorem pyEq_str (a b : List Char) : pyEq (.str a) (.str b) = .val (.bool (a == b)) := rfl
theorem pyEq_none_str (b : List Char) : pyEq .none (.str b) = .val (.bool false) := rfl
theorem pyIsNot_str_none (a : List Char) : pyIsNot (.str a) .none = .val (.bool true) := rfl
theorem pyIsNot_tuple_none (l : List Val) : pyIsNot (.tuple l) .none = .val (.bool true) := rfl
theorem pyKeys_dict (l : List (Val × Val)) : pyKeys (.dict l) = .val (.tuple (l.map (·.1))) := rfl
theorem pyIn_tuple (x : Val) (ks : List Val) : pyIn x (.tuple ks) = .val (.bool (ks.any (fun y => Val.beq x y))) := by
  cases x <;> rfl
theorem pyIdx_dict_of_mem (l : List (Val × Val)) (x : Val)
    (h : (l.map (·.1)).any (fun y => Val.beq x y) = true) :
    Py.pyIdx (.dict l) x = .val ((dictFind l x).getD .none) := by
  have : ∃ v, dictFind l x = some v := by
    unfold dictFind
    rw [List.any_map] at h
    obtain ⟨kv, hkv, hb⟩ := List.any_eq_true.mp h
    cases hf : l.find? (fun kv => Val.beq x kv.1) with
    | some kv => exact ⟨_, rfl⟩
    | none =>
      rw [List.find?_eq_none] at hf
      exact absurd hb (by simpa using hf kv hkv)
  obtain ⟨v, hv⟩ := this
  cases x <;> simp [Py.pyIdx, hv]
theorem fmt_skip {β} (ps as : List Val) (k : Res β) : (pyFormatS (.tuple ps) (.tuple as) >>= fun _ => k) = k := rfl
theorem pyIdxN_tuple0 (a : Val) (l : List Val) : pyIdxN (.tuple (a :: l)) 0 = .val a := rfl
theorem pyIdxN_tuple1 (a b : Val) (l : List Val) : pyIdxN (.tuple (a :: b :: l)) 1 = .val b := rfl
theorem pyIdxN_tuple2 (a b c : Val) (l : List Val) : pyIdxN (.tuple (a :: b :: c :: l)) 2 = .val c := rfl
theorem pyIdxN_tuple3 (a b c d : Val) (l : List Val) : pyIdxN (.tuple (a :: b :: c :: d :: l)) 3 = .val d := rfl
theorem pyUnpackCheck_4 (a b c d : Val) : pyUnpackCheck (.tuple [a, b, c, d]) 4 = .val PUnit.unit := rfl
theorem pyUnpackCheck_3 (a b c : Val) : pyUnpackCheck (.tuple [a, b, c]) 3 = .val PUnit.unit := rfl
theorem pyUnpackCheck_2 (a b : Val) : pyUnpackCheck (.tuple [a, b]) 2 = .val PUnit.unit := rfl
theorem pyDiv_131072 (a : Rat) : pyDiv (.num a) (.num 131072) = .val (.num (a / 131072)) := pyDiv_lit a 131072
theorem bin2int_digit (x : Bool) : Gen.py_common.bin2int (.str [x.toDigit]) = .val (Val.ofNat x.toNat) := by
  have := bin2int_ofBits [x]
  rw [bin2intR_of_length (by simp)] at this
  simpa [Val.ofBits, PyModeS.bin2int] using this

/-- `x in d.keys()` -/
theorem in_keys (x : Val) (l : List (Val × Val)) :
    (pyKeys (.dict l) >>= fun ks => pyIn x ks) = .val (.bool ((l.map (·.1)).any fun y => Val.beq x y)) := by
  rw [pyKeys_dict, bind_val', pyIn_tuple]

theorem ite_val_skip {α β} {c : Prop} {inst : Decidable c} (a b : α) (K : Res β) :
    ((@ite _ c inst (Res.val a) (Res.val b)) >>= fun _ => K) = K := by
  by_cases hc : c
  · rw [if_pos hc, bind_val']
  · rw [if_neg hc, bind_val']

theorem and_dec {p q : Prop} [Decidable p] [Decidable q] (h : pyTruth (.bool (decide p && decide q)) = true) :
    p ∧ q := by
  have := Bool.and_eq_true_iff.mp h
  exact ⟨of_decide_eq_true this.1, of_decide_eq_true this.2⟩

/-! ### The decoders `tell` calls, on the frames on which it calls them -/

theorem shape_of_tie {α} {g : Res Val} {x : Res α} {f : α → Val} (ht : g = (x >>= fun a => .val (f a)))
    (hv : ∃ v, g = .val v) : ∃ a, x = .val a ∧ g = .val (f a) := by
  obtain ⟨v, hv⟩ := hv
  rw [ht] at hv ⊢
  rcases x with (a | _ | _)
  · exact ⟨a, rfl, rfl⟩
  · cases hv
  · cases hv

theorem val_of {x : Res Val} {P : Prop} (hne : x ≠ .exc) (hr : x = .rte ↔ P) (hp : ¬ P) : ∃ v, x = .val v := by
  rcases x with (v | _ | _)
  · exact ⟨v, rfl⟩
  · exact absurd (hr.mp rfl) hp
  · exact absurd rfl hne

/-- a read whose tie is `ht`, on a frame on which it is a value -/
theorem bind_read {α β} {g : Res Val} {x : Res α} {f : α → Val} {K : Val → Res β} {r : Res β}
    (ht : g = (x >>= fun a => .val (f a))) (hv : ∃ v, g = .val v) (hK : ∀ a, x = .val a → K (f a) = r) :
    (g >>= K) = r := by
  obtain ⟨a, ha, hg⟩ := shape_of_tie ht hv
  exact bind_eq hg (hK a ha)

/-- a read that is a value, whatever the value -/
theorem bind_any {α β} {x : Res α} {K : α → Res β} {r : Res β} (hv : ∃ v, x = .val v) (hK : ∀ v, K v = r) :
    (x >>= K) = r := by
  obtain ⟨v, hv⟩ := hv
  exact bind_eq hv (hK v)

theorem val_prop {α} {x : Res α} {a : α} {P : α → Prop} (hx : x = .val a) (hk : ∃ r, x = .val r ∧ P r) : P a := by
  obtain ⟨r, hr, hp⟩ := hk
  rw [hx] at hr
  cases hr
  exact hp

theorem pair_of_wind (o : Option (Nat × Rat)) : ∃ a b, encWind44 o = .tuple [a, b] := by
  rcases o with _ | ⟨s, d⟩ <;> exact ⟨_, _, rfl⟩

theorem wind44_val (m : Msg) (h : IsHex m) (hl : m.length = 28) :
    ∃ a b, Gen.bds44.wind44 (.str m) = .val (.tuple [a, b]) := by
  obtain ⟨o, -, ho⟩ := shape_of_tie (wind44_tie m h hl) (C14Gen.commb_total_tie m h hl).2.2.2.2.2.2.2.2.2.2.2.2.1
  obtain ⟨a, b, e⟩ := pair_of_wind o
  exact ⟨a, b, e ▸ ho⟩

theorem temp44_val (m : Msg) (h : IsHex m) (hl : m.length = 28) :
    ∃ a b, Gen.bds44.temp44 (.str m) = .val (.tuple [a, b]) := by
  obtain ⟨t, -, ht⟩ := shape_of_tie (temp44_tie m h hl) (C14Gen.commb_total_tie m h hl).2.2.2.2.2.2.2.2.2.2.2.2.2.1
  exact ⟨_, _, ht⟩

theorem altcode_val (m : Msg) (h : IsHex m) (hl : m.length = 28) (hd : PyModeS.df m = 20) :
    ∃ a, Gen.py_common.altcode (.str m) = .val a := by
  rw [altcode_tie m h (by omega), altcode_eq]
  rw [df_eq] at hd
  exact C14Gen.enc_isVal (Tot.altcodeB_isVal_df20 _ (frame_bits m hl) hd) _

theorem idcode_val (m : Msg) (h : IsHex m) (hl : m.length = 28) (hd : PyModeS.df m = 21) :
    ∃ a, Gen.py_common.idcode (.str m) = .val a := by
  rw [idcode_tie m h (by omega), idcode_eq]
  rw [df_eq] at hd
  exact C14Gen.enc_isVal (Tot.idcodeB_isVal_df21 _ (frame_bits m hl) hd) _

theorem callsign_val (m : Msg) (h : IsHex m) (hl : m.length = 28) (n : Nat) (htc : tcB (hex2binM m) = some n)
    (hr : 1 ≤ n ∧ n ≤ 4) : ∃ v, Gen.bds08.callsign (.str m) = .val v :=
  (val_iff_of (C14Gen.no_exc_adsb_tie m h hl).2.2.2.2.1 (C14Gen.guard_iff_tie m h hl).2.2.2.2.2.2.2.1).mpr ⟨n, htc, hr⟩

theorem surface_velocity_val (m : Msg) (h : IsHex m) (hl : m.length = 28) (n : Nat)
    (htc : tcB (hex2binM m) = some n) (hr : 5 ≤ n ∧ n ≤ 8) :
    ∃ a b l, Gen.bds06.surface_velocity (.str m) (.bool false) = .val (.tuple (a :: b :: l)) := by
  obtain ⟨p, -, hp⟩ := shape_of_tie (surface_velocity_tie m h (by omega) false)
    ((val_iff_of ((C14Gen.no_exc_adsb_tie m h hl).2.2.1 false) ((C14Gen.guard_iff_tie m h hl).2.2.1 false)).mpr
      ⟨n, htc, hr⟩)
  exact ⟨_, _, _, hp⟩

/-- what the position branches of `tell` read besides the decoders: the odd/even flag and the two 17-bit CPR fields -/
theorem cpr_block (m : Msg) (h : IsHex m) (hl : m.length = 28) :
    ∃ oe mb lat lon : Val, ∀ {β} (K : Val → Val → Val → Val → Res β),
      (do let oe ← Gen.adsb.oe_flag (.str m)
          let msgbin ← Gen.py_common.hex2bin (.str m)
          let a ← pySliceNN msgbin 54 71
          let a ← Gen.py_common.bin2int a
          let lat ← pyDiv a (Val.num 131072)
          let b ← pySliceNN msgbin 71 88
          let b ← Gen.py_common.bin2int b
          let lon ← pyDiv b (Val.num 131072)
          K oe msgbin lat lon) = K oe mb lat lon := by
  have hne : m ≠ [] := by intro e; rw [e] at hl; simp at hl
  have hb := frame_bits m hl
  obtain ⟨oe, hoe⟩ : ∃ oe, Gen.adsb.oe_flag (.str m) = .val oe := by
    rw [oe_flag_tie m h hne]
    exact C14Gen.enc_isVal (Tot.oeFlag_isVal _ hb) _
  refine ⟨oe, Val.ofBits (hex2binM m), .num ((PyModeS.bin2int (slice 54 71 (hex2binM m)) : Rat) / 131072),
    .num ((PyModeS.bin2int (slice 71 88 (hex2binM m)) : Rat) / 131072), fun {β} K => ?_⟩
  simp only [hoe, hex2bin_str m h hne, bin2intR_slice_of_lt (hex2binM m) 54 71 (by omega) (by omega),
    bin2intR_slice_of_lt (hex2binM m) 71 88 (by omega) (by omega), bind_val', pySliceNN_ofBits, bin2int_ofBits,
    Val.ofNat, pyDiv_131072]

/-! ### Dictionary look-ups at keys that are present -/

/-- `None`, `True` or `False` -/
def IsOptBool (v : Val) : Prop := v = .none ∨ v = .bool true ∨ v = .bool false
/-- `None`, 1, 2 or 3 (a vertical / horizontal mode of BDS 6,2) -/
def IsMode (v : Val) : Prop := v = .none ∨ v = .num 1 ∨ v = .num 2 ∨ v = .num 3

theorem optbool_lookup {v : Val} (hv : IsOptBool v) (a b : Val) {inst : Decidable (pyTruth v = true)} :
    (@ite _ (pyTruth v = true) inst (Py.pyIdx (.dict [(.num 0, a), (.num 1, b)]) v) (Res.val .none)) =
      .val (if pyTruth v = true then b else .none) := by
  rcases hv with e | e | e <;> subst e
  · have : ¬ pyTruth Val.none = true := by simp [pyTruth, Val.truth]
    rw [if_neg this, if_neg this]
  · have : pyTruth (Val.bool true) = true := rfl
    rw [if_pos this, if_pos this]; rfl
  · have : ¬ pyTruth (Val.bool false) = true := by simp [pyTruth, Val.truth]
    rw [if_neg this, if_neg this]

theorem bool_lookup (t : Bool) (a b : Val) :
    Py.pyIdx (.dict [(.num 0, a), (.num 1, b)]) (.bool t) = .val (if t then b else a) := by
  cases t <;> rfl

theorem mode_skip {v : Val} (hv : IsMode v) (a b c : Val) {β} (K : Res β)
    {inst : Decidable ((!Val.beq v .none) = true)} :
    (@ite _ ((!Val.beq v .none) = true) inst
      (Py.pyIdx (.dict [(.num 1, a), (.num 2, b), (.num 3, c)]) v >>= fun _ => K) K) = K := by
  by_cases hc : (!Val.beq v .none) = true
  · rw [if_pos hc]
    rcases hv with e | e | e | e <;> subst e
    · exact absurd hc (by simp [Val.beq])
    · rfl
    · rfl
    · rfl
  · rw [if_neg hc]

theorem emergency_lookup (e : Nat) (he : e < 8) (a0 a1 a2 a3 a4 a5 a6 a7 : Val) :
    Py.pyIdx (.dict [(.num 0, a0), (.num 1, a1), (.num 2, a2), (.num 3, a3), (.num 4, a4), (.num 5, a5),
      (.num 6, a6), (.num 7, a7)]) (.num (e : Rat)) =
      .val ((dictFind [(.num 0, a0), (.num 1, a1), (.num 2, a2), (.num 3, a3), (.num 4, a4), (.num 5, a5),
        (.num 6, a6), (.num 7, a7)] (.num (e : Rat))).getD .none) :=
  pyIdx_dict_of_mem _ _ (by interval_cases e <;> rfl)

theorem types_lookup (tag : List Char) (ht : tag = ['G', 'S'] ∨ tag = ['T', 'A', 'S'] ∨ tag = ['I', 'A', 'S'])
    (a b c : Val) :
    Py.pyIdx (.dict [(.str ['G', 'S'], a), (.str ['T', 'A', 'S'], b), (.str ['I', 'A', 'S'], c)]) (.str tag) =
      .val ((dictFind [(.str ['G', 'S'], a), (.str ['T', 'A', 'S'], b), (.str ['I', 'A', 'S'], c)]
        (.str tag)).getD .none) :=
  pyIdx_dict_of_mem _ _ (by rcases ht with e | e | e <;> subst e <;> rfl)

theorem isMode_ofOptNat (r : Option Nat) (hr : ∀ v, r = some v → v = 1 ∨ v = 2 ∨ v = 3) : IsMode (Val.ofOptNat r) := by
  rcases r with _ | v
  · exact Or.inl rfl
  · rcases hr v rfl with e | e | e <;> subst e
    · exact Or.inr (Or.inl (by simp [Val.ofOptNat]))
    · exact Or.inr (Or.inr (Or.inl (by simp [Val.ofOptNat])))
    · exact Or.inr (Or.inr (Or.inr (by simp [Val.ofOptNat])))

theorem isOptBool_ofOptBool (r : Option Bool) : IsOptBool (ofOptBool r) := by
  rcases r with _ | b
  · exact Or.inl rfl
  · cases b
    · exact Or.inr (Or.inr rfl)
    · exact Or.inr (Or.inl rfl)

theorem isOptBool_bool (b : Bool) : IsOptBool (.bool b) := isOptBool_ofOptBool (some b)

/-- the shape of what `velocity(msg)` returns that `tell` relies on: `None`, or a 4-tuple whose last member is one of
    the three keys of the `types` dictionary -/
def VelShape (r : Res Val) : Prop :=
  r = .val .none ∨ ∃ s t v tag, r = .val (.tuple [s, t, v, .str tag]) ∧
    (tag = ['G', 'S'] ∨ tag = ['T', 'A', 'S'] ∨ tag = ['I', 'A', 'S'])


/-! ### Branch bookkeeping for a symbolic run of `tell` on a DF 17 frame -/

set_option hygiene false in
/-- the facts shared by the DF 17 branches: `df`, `icao`, `typecode` evaluated, the Comm-B part skipped -/
macro "tell17_open" m:ident h:ident hd:ident : tactic => `(tactic| (
  unfold Gen.decoder.tell
  rw [df_str $m $h (by omega), icao_tie $m $h (by omega), typecode_str' $m $h (by omega)]
  generalize PyModeS.df $m = d at *
  have d17 : decide (d = 17) = true := by simp [$hd:ident]
  have d20 : decide (d = 20) = false := by simp [$hd:ident]
  have d21 : decide (d = 21) = false := by simp [$hd:ident]))

set_option hygiene false in
macro "tc_fact" n:ident ":" p:term : tactic =>
  `(tactic| first
    | have $n : ($p) = True := eq_true (by omega)
    | have $n : ($p) = False := eq_false (by omega))

set_option hygiene false in
/-- the truth value of every type-code comparison of `tell`, from the range hypotheses in the context -/
macro "tc_facts" n:ident : tactic => `(tactic| (
  tc_fact f1 : 1 ≤ $n
  tc_fact f2 : $n ≤ 4
  tc_fact f3 : 5 ≤ $n
  tc_fact f4 : $n ≤ 8
  tc_fact f5 : 9 ≤ $n
  tc_fact f6 : $n ≤ 18
  tc_fact f7 : $n = 19
  tc_fact f8 : 20 ≤ $n
  tc_fact f9 : $n ≤ 22
  tc_fact f10 : $n = 29))


macro "av_close" x:ident y:ident : tactic => `(tactic| (
  cases $x:ident <;> cases $y:ident <;>
    simp only [Bool.not_true, Bool.not_false, ↓reduceIte, Bool.false_eq_true, bind_val', pyMul_num] <;>
    first
    | exact Or.inl rfl
    | exact Or.inr ⟨_, _, _, _, rfl, Or.inl rfl⟩
    | exact Or.inr ⟨_, _, _, _, rfl, Or.inr (Or.inl rfl)⟩
    | exact Or.inr ⟨_, _, _, _, rfl, Or.inr (Or.inr rfl)⟩))

/-! ### `tell` returns `None` -/

/-- Every join point of `tell` returns `None` whatever it is given; `J` is the Comm-B part (everything after the
    DF 17 block), which the three exits of the DF 17 block call with the variables they have set. -/
theorem tell_none (m : Msg) (h : IsHex m) (hl : m.length = 28)
    (hv : PyModeS.df m = 17 → tcB (hex2binM m) = some 19 → VelShape (Gen.adsb.velocity (.str m) (.bool false))) :
    Gen.decoder.tell (.str m) = .val .none := by
  obtain ⟨-, -, -, -, c20, -, -, -, c401, c402, c403, -, -, -, c443, c444, c445, -, c451, c452, c453, c454, c455, c456,
    c457, c458, -, c501, c502, c503, c504, c505, -, -, -, -, -, -, -, c601, c602, c603, c604, c605, cinf⟩ :=
    C14Gen.commb_total_tie m h hl
  obtain ⟨B, hB⟩ := cinf true
  obtain ⟨wa, wb, cw44⟩ := wind44_val m h hl
  obtain ⟨ta, tb, ct44⟩ := temp44_val m h hl
  obtain ⟨oe, mb, lat, lon, hcpr⟩ := cpr_block m h hl
  have hb := frame_bits m hl
  have hhb := hex2bin_str m h (by intro e; rw [e] at hl; simp at hl)
  have hsub : Gen.py_common.bin2int (Val.ofBits (slice 5 7 ((hex2binM m).drop 32))) =
      .val (Val.ofNat (PyModeS.bin2int (slice 37 39 (hex2binM m)))) := by
    rw [bin2int_ofBits, Tot.slice_drop32, bin2intR_slice_of_lt _ _ _ (by omega) (by omega), bind_val']
  obtain ⟨x46, hbit⟩ : ∃ x : Bool, pyIdxN (Val.ofBits ((hex2binM m).drop 32)) 46 = .val (.str [x.toDigit]) :=
    ⟨_, by rw [pyIdxN_ofBits, idxR_of_lt _ _ (by simp [hb]), bind_val']⟩
  obtain ⟨-, -, -, -, -, -, -, -, -, n10, n11, n12, n13, n14, n15, n16, n17, n18, n19, n20, n21, n22, n23, n24, -⟩ :=
    C14Gen.no_exc_adsb_tie m h hl
  obtain ⟨-, -, -, -, -, -, -, -, -, -, -, -, -, -, -, -, -, -, -, -, g21, g22, g23, g24, g25, g26, g27, g28, g29, g30,
    g31, g32, g33, g34, g35, -⟩ := C14Gen.guard_iff_tie m h hl
  unfold Gen.decoder.tell
  refine bind_eq (df_str m h (by omega)) ?_
  refine bind_eq (icao_tie m h (by omega)) ?_
  refine bind_eq (eq_lit _ _) ?_
  extract_lets -underBinder +onlyGivenNames J
  have hJ : ∀ (r : Unit) (tc cs a3 a4 a5 a6 a7 a8 a9 a10 a11 a12 a13 a14 a15 a16 a17 a18 a19 a20 a21 a22 a23 a24 a25 a26
      a27 a28 a29 a30 a31 a32 a33 a34 a35 a36 a37 : Val),
      J r tc cs a3 a4 a5 a6 a7 a8 a9 a10 a11 a12 a13 a14 a15 a16 a17 a18 a19 a20 a21 a22 a23 a24 a25 a26 a27 a28 a29
        a30 a31 a32 a33 a34 a35 a36 a37 = .val .none := by
    intro r tc cs
    intros
    unfold J
    -- `if df == 20: altcode`, `if df == 21: idcode`
    refine bind_eq (eq_lit _ _) ?_
    extract_lets -underBinder +onlyGivenNames j1
    suffices h1 : ∀ r, j1 r = .val .none from
      if_ret (h1 ()) fun hc => (skip _ (altcode_val m h hl (of_decide_eq_true hc))).trans (h1 ())
    intro r
    unfold j1
    refine bind_eq (eq_lit _ _) ?_
    extract_lets -underBinder +onlyGivenNames j2
    suffices h2 : ∀ r, j2 r = .val .none from
      if_ret (h2 ()) fun hc => (skip _ (idcode_val m h hl (of_decide_eq_true hc))).trans (h2 ())
    intro r
    unfold j2
    -- `if df == 20 or df == 21`: the inferred BDS label, looked up only when it is a key of `labels`
    refine bind_eq (or_val (eq_lit _ _) (eq_lit _ _)) ?_
    refine if_ret rfl fun _ => ?_
    refine bind_eq hB ?_
    refine bind_eq (and_val (pyIsNot_def _ _) (in_keys _ _)) ?_
    extract_lets -underBinder +onlyGivenNames j3
    suffices h3 : ∀ r, j3 r = .val .none from
      if_ret (h3 ()) fun hc => by
        rw [pyIdx_dict_of_mem _ _ (Bool.and_eq_true_iff.mp hc).2, bind_val', fmt_skip]
        exact h3 ()
    intro r
    unfold j3
    -- one block per label: BDS 2,0 / 4,0 / 5,0 / 6,0 / 4,4 / 4,5
    refine bind_eq (pyEq_any_str _ _) ?_
    extract_lets -underBinder +onlyGivenNames j4
    suffices h4 : ∀ r cs, j4 r cs = .val .none from
      if_ret (h4 () cs) fun _ => by
        obtain ⟨v, hcs⟩ := c20
        exact bind_eq hcs (h4 () v)
    intro r cs'
    unfold j4
    refine bind_eq (pyEq_any_str _ _) ?_
    extract_lets -underBinder +onlyGivenNames j5
    suffices h5 : ∀ r, j5 r = .val .none from
      if_ret (h5 ()) fun _ => by
        rw [skip _ c401, skip _ c402, skip _ c403]
        exact h5 ()
    intro r
    unfold j5
    refine bind_eq (pyEq_any_str _ _) ?_
    extract_lets -underBinder +onlyGivenNames j6
    suffices h6 : ∀ r, j6 r = .val .none from
      if_ret (h6 ()) fun _ => by
        rw [skip _ c501, skip _ c502, skip _ c504, skip _ c503, skip _ c505]
        exact h6 ()
    intro r
    unfold j6
    refine bind_eq (pyEq_any_str _ _) ?_
    extract_lets -underBinder +onlyGivenNames j7
    suffices h7 : ∀ r, j7 r = .val .none from
      if_ret (h7 ()) fun _ => by
        rw [skip _ c601, skip _ c602, skip _ c603, skip _ c604, skip _ c605]
        exact h7 ()
    intro r
    unfold j7
    refine bind_eq (pyEq_any_str _ _) ?_
    extract_lets -underBinder +onlyGivenNames j8
    suffices h8 : ∀ r, j8 r = .val .none from
      if_ret (h8 ()) fun _ => by
        simp only [cw44, ct44, bind_val', pyIdxN_tuple0, pyIdxN_tuple1]
        rw [skip _ c443, skip _ c444, skip _ c445]
        exact h8 ()
    intro r
    unfold j8
    refine bind_eq (pyEq_any_str _ _) ?_
    refine if_ret rfl fun _ => ?_
    rw [skip _ c451, skip _ c452, skip _ c453, skip _ c454, skip _ c455, skip _ c456, skip _ c457, skip _ c458]
    rfl
  -- from here on `J` is used through `hJ` only; unification must not unfold it (its body ignores most arguments)
  clear_value J
  refine if_ret (hJ ..) fun hd => ?_
  have hd : PyModeS.df m = 17 := of_decide_eq_true hd
  refine bind_eq (typecode_str' m h (by omega)) ?_
  rcases htc : tcB (hex2binM m) with _ | n
  · exact bind_eq pyIs_none_none rfl
  have halt : (9 ≤ n ∧ n ≤ 18) ∨ (20 ≤ n ∧ n ≤ 22) → ∃ v, Gen.adsb.altitude (.str m) = .val v := fun hr =>
    (C14Gen.val_iff_examples_tie m h hl).1.mpr ⟨n, htc, by unfold PosTC; omega⟩
  refine bind_eq (pyIs_none_num _) ?_
  refine else_ret Bool.false_ne_true ?_
  -- DF 17, one block per type-code class: 1–4, 5–8, 9–18, 19, 20–22, 29
  refine bind_eq (and_val (one_le_lit n) (le_lit n 4)) ?_
  extract_lets -underBinder +onlyGivenNames k1
  suffices h1 : ∀ r cs, k1 r cs = .val .none from
    if_ret (h1 () .none) fun hc => by
      obtain ⟨v, hcs⟩ := callsign_val m h hl n htc (and_dec hc)
      exact bind_eq hcs (h1 () v)
  intro r cs
  unfold k1
  refine bind_eq (and_val (lit_le n 5) (le_lit n 8)) ?_
  extract_lets -underBinder +onlyGivenNames k2
  suffices h2 : ∀ r a b c d e, k2 r a b c d e = .val .none by
    refine if_ret (h2 () .none .none .none .none .none) fun hc => ?_
    obtain ⟨sa, sb, sl, hsv⟩ := surface_velocity_val m h hl n htc (and_dec hc)
    refine (hcpr _).trans (bind_eq hsv ((ite_val_skip _ _ _).trans ?_))
    exact bind_eq (pyIdxN_tuple0 _ _) (bind_eq (pyIdxN_tuple1 _ _ _) (h2 () ..))
  intro r a b c d e
  unfold k2
  refine bind_eq (and_val (lit_le n 9) (le_lit n 18)) ?_
  extract_lets -underBinder +onlyGivenNames k3
  suffices h3 : ∀ r a b c d e, k3 r a b c d e = .val .none by
    refine if_ret (h3 () a b c d .none) fun hc => ?_
    obtain ⟨alt, halt⟩ := halt (Or.inl (and_dec hc))
    exact bind_eq halt ((hcpr _).trans ((ite_val_skip _ _ _).trans (h3 () ..)))
  intro r a b c d e
  unfold k3
  refine bind_eq (eq_lit _ _) ?_
  extract_lets -underBinder +onlyGivenNames k4
  suffices h4 : ∀ r a b c d e f, k4 r a b c d e f = .val .none by
    refine if_ret (h4 () .none .none .none .none .none .none) fun hc => ?_
    rcases hv hd (htc.trans (congrArg some (of_decide_eq_true hc))) with hv | ⟨s, t, v, tag, hv, htag⟩
    · refine bind_eq hv (bind_eq pyIsNot_none_none ?_)
      exact else_ret Bool.false_ne_true (h4 () ..)
    · refine bind_eq hv (bind_eq (pyIsNot_tuple_none _) ?_)
      refine then_ret rfl ?_
      refine bind_eq (pyUnpackCheck_4 _ _ _ _) ?_
      refine bind_eq (pyIdxN_tuple0 _ _) (bind_eq (pyIdxN_tuple1 _ _ _) ?_)
      refine bind_eq (pyIdxN_tuple2 _ _ _ _) (bind_eq (pyIdxN_tuple3 _ _ _ _ _) ?_)
      refine bind_eq (types_lookup tag htag _ _ _) ?_
      exact h4 () ..
  intro r a' b' c' d' e' f'
  unfold k4
  refine bind_eq (and_val (lit_le n 20) (le_lit n 22)) ?_
  extract_lets -underBinder +onlyGivenNames k5
  suffices h5 : ∀ r a b c d e, k5 r a b c d e = .val .none by
    refine if_ret (h5 () a b c d e) fun hc => ?_
    obtain ⟨alt, halt⟩ := halt (Or.inr (and_dec hc))
    exact bind_eq halt ((hcpr _).trans ((ite_val_skip _ _ _).trans (h5 () ..)))
  intro r a b c d e
  unfold k5
  refine bind_eq (eq_lit _ _) ?_
  refine if_ret (hJ ..) fun hc => ?_
  have htc : tcB (hex2binM m) = some 29 := htc.trans (congrArg some (of_decide_eq_true hc))
  -- TC 29: `subtype`, `tcas_operational`, then `if subtype == 0: ... else: ...`
  refine bind_eq hhb ?_
  refine bind_eq (pySliceFrom_ofBits _ _) ?_
  refine bind_eq (pySliceNN_ofBits _ _ _) ?_
  refine bind_eq hsub ?_
  refine bind_read (tcas_operational_tie m h hl) (val_of n22 g35 (by rw [htc]; simp)) fun top _ => ?_
  refine bind_eq (pyEq_ofNat_zero _) ?_
  by_cases hst : PyModeS.bin2int (slice 37 39 (hex2binM m)) = 0
  · refine then_ret (decide_eq_true hst) ?_
    have np : ¬ (tcB (hex2binM m) ≠ some 29 ∨ PyModeS.bin2int (slice 37 39 (hex2binM m)) = 1) := by
      rw [htc, hst]; simp
    have hk := (tell_lookup_keys (hex2binM m) hb).2 htc (by rw [hst]; omega)
    refine bind_read (target_altitude_tie m h hl) (val_of n11 g29 np) fun ta _ => ?_
    refine bind_eq (pyUnpackCheck_3 _ _ _) ?_
    refine bind_eq (pyIdxN_tuple0 _ _) (bind_eq (pyIdxN_tuple1 _ _ _) (bind_eq (pyIdxN_tuple2 _ _ _ _) ?_))
    refine bind_read (target_angle_tie m h hl) (val_of n15 g32 np) fun tg _ => ?_
    refine bind_eq (pyUnpackCheck_3 _ _ _) ?_
    refine bind_eq (pyIdxN_tuple0 _ _) (bind_eq (pyIdxN_tuple1 _ _ _) (bind_eq (pyIdxN_tuple2 _ _ _ _) ?_))
    refine bind_read (vertical_mode_tie m h hl) (val_of n12 g30 np) fun vm hvm => ?_
    refine bind_read (horizontal_mode_tie m h hl) (val_of n13 g31 np) fun hm hhm => ?_
    refine bind_read (tcas_ra_tie m h hl) (val_of n23 g33 np) fun ra _ => ?_
    refine bind_read (emergency_status_tie m h hl) (val_of n24 g34 np) fun es hes => ?_
    -- the look-ups: each key is in its dictionary
    refine bind_eq (pyIsNot_def _ _) ?_
    refine (mode_skip (isMode_ofOptNat vm (val_prop hvm hk.1)) _ _ _ _).trans ?_
    refine bind_eq (pyIsNot_def _ _) ?_
    refine (mode_skip (isMode_ofOptNat hm (val_prop hhm hk.2.1)) _ _ _ _).trans ?_
    refine bind_eq (optbool_lookup (isOptBool_bool top) _ _) ?_
    refine bind_eq (bool_lookup ra _ _) ?_
    refine bind_eq (emergency_lookup es (val_prop (P := (· < 8)) hes hk.2.2) _ _ _ _ _ _ _ _) ?_
    exact hJ ..
  · refine else_ret (fun hc => hst (of_decide_eq_true hc)) ?_
    have np : ¬ (tcB (hex2binM m) ≠ some 29 ∨ PyModeS.bin2int (slice 37 39 (hex2binM m)) = 0) := by
      rw [htc]; simp [hst]
    refine bind_read (selected_altitude_tie m h hl) (val_of n10 g21 np) fun sa _ => ?_
    refine bind_eq (pyUnpackCheck_2 _ _) ?_
    refine bind_eq (pyIdxN_tuple0 _ _) (bind_eq (pyIdxN_tuple1 _ _ _) ?_)
    refine bind_any (val_of n16 g22 np) fun baro => ?_
    refine bind_any (val_of n14 g23 np) fun hdg => ?_
    refine bind_read (autopilot_tie m h hl) (val_of n17 g24 np) fun ap _ => ?_
    refine bind_read (vnav_mode_tie m h hl) (val_of n18 g25 np) fun vn _ => ?_
    refine bind_read (altitude_hold_mode_tie m h hl) (val_of n19 g26 np) fun ah _ => ?_
    refine bind_read (approach_mode_tie m h hl) (val_of n20 g27 np) fun apr _ => ?_
    refine bind_read (lnav_mode_tie m h hl) (val_of n21 g28 np) fun ln _ => ?_
    -- `"" if baro is None else "millibars"`, then `if not (bin2int((hex2bin(msg)[32:])[46]) == 0):` and the look-ups
    refine (skip _ ⟨_, bind_eq (pyIs_none _) (Res.ite_val _ _ _)⟩).trans ?_
    refine bind_eq hhb ?_
    refine bind_eq (pySliceFrom_ofBits _ _) ?_
    refine bind_eq hbit ?_
    refine bind_eq (bin2int_digit _) ?_
    refine bind_eq (pyEq_ofNat_zero _) ?_
    refine bind_eq (pyNot_bool _) ?_
    refine if_ret (hJ ..) fun _ => ?_
    refine bind_eq (optbool_lookup (isOptBool_ofOptBool ap) _ _) ?_
    refine bind_eq (optbool_lookup (isOptBool_ofOptBool vn) _ _) ?_
    refine bind_eq (optbool_lookup (isOptBool_ofOptBool ah) _ _) ?_
    refine bind_eq (optbool_lookup (isOptBool_ofOptBool apr) _ _) ?_
    refine bind_eq (optbool_lookup (isOptBool_bool top) _ _) ?_
    refine bind_eq (optbool_lookup (isOptBool_ofOptBool ln) _ _) ?_
    exact hJ ..

/-! ### the branches, one by one -/

theorem tell_commb_tie (m : Msg) (h : IsHex m) (hl : m.length = 28)
    (hd : PyModeS.df m = 20 ∨ PyModeS.df m = 21) :
    Gen.decoder.tell (.str m) = .val .none :=
  tell_none m h hl fun h17 _ => by omega

theorem tell_other_df_tie (m : Msg) (h : IsHex m) (hl : m.length = 28)
    (h17 : PyModeS.df m ≠ 17) (h20 : PyModeS.df m ≠ 20) (h21 : PyModeS.df m ≠ 21) :
    Gen.decoder.tell (.str m) = .val .none :=
  tell_none m h hl fun e _ => absurd e h17

theorem tell_tc_none_tie (m : Msg) (h : IsHex m) (hl : m.length = 28) (hd : PyModeS.df m = 17)
    (htc : tcB (hex2binM m) = none) :
    Gen.decoder.tell (.str m) = .val .none :=
  tell_none m h hl fun _ e => by rw [htc] at e; cases e

theorem tell_tc_1_4_tie (m : Msg) (h : IsHex m) (hl : m.length = 28) (hd : PyModeS.df m = 17)
    (n : Nat) (htc : tcB (hex2binM m) = some n) (hr : 1 ≤ n ∧ n ≤ 4) :
    Gen.decoder.tell (.str m) = .val .none :=
  tell_none m h hl fun _ e => by rw [htc] at e; cases e; omega

theorem tell_tc_other_tie (m : Msg) (h : IsHex m) (hl : m.length = 28) (hd : PyModeS.df m = 17)
    (n : Nat) (htc : tcB (hex2binM m) = some n) (hr : n = 0 ∨ (23 ≤ n ∧ n ≠ 29)) :
    Gen.decoder.tell (.str m) = .val .none :=
  tell_none m h hl fun _ e => by rw [htc] at e; cases e; omega

theorem tell_tc_5_8_tie (m : Msg) (h : IsHex m) (hl : m.length = 28) (hd : PyModeS.df m = 17)
    (n : Nat) (htc : tcB (hex2binM m) = some n) (hr : 5 ≤ n ∧ n ≤ 8) :
    Gen.decoder.tell (.str m) = .val .none :=
  tell_none m h hl fun _ e => by rw [htc] at e; cases e; omega

theorem tell_tc_pos_tie (m : Msg) (h : IsHex m) (hl : m.length = 28) (hd : PyModeS.df m = 17)
    (n : Nat) (htc : tcB (hex2binM m) = some n) (hr : (9 ≤ n ∧ n ≤ 18) ∨ (20 ≤ n ∧ n ≤ 22)) :
    Gen.decoder.tell (.str m) = .val .none :=
  tell_none m h hl fun _ e => by rw [htc] at e; cases e; omega

theorem tell_tc_19_tie_partial (m : Msg) (h : IsHex m) (hl : m.length = 28) (hd : PyModeS.df m = 17)
    (htc : tcB (hex2binM m) = some 19) (hv : VelShape (Gen.adsb.velocity (.str m) (.bool false))) :
    Gen.decoder.tell (.str m) = .val .none :=
  tell_none m h hl fun _ _ => hv

/-- TC 29 with subtype field (ME bits 6–7) = 0: the "version 0" decoders -/
theorem tell_tc_29_v0_tie (m : Msg) (h : IsHex m) (hl : m.length = 28) (hd : PyModeS.df m = 17)
    (htc : tcB (hex2binM m) = some 29) (hst : PyModeS.bin2int (slice 37 39 (hex2binM m)) = 0) :
    Gen.decoder.tell (.str m) = .val .none :=
  tell_none m h hl fun _ e => by rw [htc] at e; cases e

/-- TC 29 with subtype field (ME bits 6–7) ≠ 0: the "version 1" decoders -/
theorem tell_tc_29_v1_tie (m : Msg) (h : IsHex m) (hl : m.length = 28) (hd : PyModeS.df m = 17)
    (htc : tcB (hex2binM m) = some 29) (hst : PyModeS.bin2int (slice 37 39 (hex2binM m)) ≠ 0) :
    Gen.decoder.tell (.str m) = .val .none :=
  tell_none m h hl fun _ e => by rw [htc] at e; cases e

theorem tell_df17_not19_tie (m : Msg) (h : IsHex m) (hl : m.length = 28) (hd : PyModeS.df m = 17)
    (h19 : tcB (hex2binM m) ≠ some 19) :
    Gen.decoder.tell (.str m) = .val .none :=
  tell_none m h hl fun _ e => absurd e h19

/-- **C14, the `tell()` clause, generated definition, every frame that is not an airborne-velocity message**
    (DF ≠ 17 or type code ≠ 19): `tell` returns normally (`None`), unconditionally -/
theorem tell_total_112_not_tc19_tie (m : Msg) (h : IsHex m) (hl : m.length = 28)
    (h19 : ¬ (PyModeS.df m = 17 ∧ tcB (hex2binM m) = some 19)) :
    Gen.decoder.tell (.str m) = .val .none :=
  tell_none m h hl fun hd e => absurd ⟨hd, e⟩ h19

/-- on a TC 19 frame `adsb.velocity` is `bds09.airborne_velocity` -/
theorem velocity_tc19 (m : Msg) (h : IsHex m) (hl : m.length = 28) (htc : tcB (hex2binM m) = some 19) (src : Val) :
    Gen.adsb.velocity (.str m) src = Gen.bds09.airborne_velocity (.str m) src := by
  rw [velocity_tie m h (by omega), ((velocityRoute_table (hex2binM m)).2.1).mpr htc]
  rfl

/-! ### `bds09.airborne_velocity`: the shape `tell` relies on -/

/-- **residual floating-point hypothesis**: the two libm calls of `bds09.airborne_velocity` — `math.sqrt` of the squared
    ground speed, `math.degrees(math.atan2(v_we, v_sn))` — do not raise (in the model: do not produce NaN / Inf, `Float`
    operations being opaque) on velocity components in the range a frame can carry (10-bit fields, minus one, times 4 for
    the supersonic subtype: at most 4088 in absolute value) -/
def FloatOK : Prop := ∀ a b : Rat, -4088 ≤ a → a ≤ 4088 → -4088 ≤ b → b ≤ 4088 →
  (∃ r : Rat, Gen.Ext.math_sqrt (.num (b * b + a * a)) = .val (.num r)) ∧
  (∃ r : Rat, (Gen.Ext.math_atan2 (.num a) (.num b) >>= Gen.Ext.math_degrees) = .val (.num r))

/-- a TC 19 frame whose `airborne_velocity` reaches the floating-point calls: ground-speed subtype (1 or 2) with both
    velocity fields non-zero (`mb` = the 80 bits after the first 32) -/
def GsMoving (m : Msg) : Prop :=
  (PyModeS.bin2int (slice 5 8 ((hex2binM m).drop 32)) = 1 ∨ PyModeS.bin2int (slice 5 8 ((hex2binM m).drop 32)) = 2) ∧
    PyModeS.bin2int (slice 14 24 ((hex2binM m).drop 32)) ≠ 0 ∧ PyModeS.bin2int (slice 25 35 ((hex2binM m).drop 32)) ≠ 0

/-- the generated `bds09.airborne_velocity` on a TC 19 frame: `None`, or a 4-tuple ending in one of the three speed-type
    tags; the floating-point hypothesis is needed only on a `GsMoving` frame, the only kind on which the model yields a
    ground track and the generated function calls `math.sqrt` / `math.atan2` (on the model's components) -/
theorem airborne_velocity_shape (m : Msg) (h : IsHex m) (hl : m.length = 28) (htc : tcB (hex2binM m) = some 19)
    (hF : GsMoving m → FloatOK) :
    VelShape (Gen.bds09.airborne_velocity (.str m) (.bool false)) := by
  rcases airborne_velocity_shape4_exc m h hl htc with h0 | h1 | ⟨v, vwe, vsn, hm, hdir, hx⟩
  · exact Or.inl h0
  · exact Or.inr h1
  · obtain ⟨⟨h12, h1, h2⟩, ⟨a1, a2⟩, ⟨b1, b2⟩, -⟩ := Bds09.track_bounds m hl v vwe vsn hm hdir
    have hg : GsMoving m := by
      unfold GsMoving
      simp only [Tot.slice_drop32, Nat.reduceAdd]
      exact ⟨h12, h1, h2⟩
    obtain ⟨⟨r, hr⟩, ⟨t, ht⟩⟩ := hF hg vwe vsn (by exact_mod_cast a1) (by exact_mod_cast a2) (by exact_mod_cast b1)
      (by exact_mod_cast b2)
    rcases hx with hx | hx
    · exact absurd hx (Bds09.gsSpeed_ne_exc_of (by rw [hr]; exact fun e => nomatch e))
    · exact absurd hx (Bds09.gsTrack_ne_exc_of (by rw [ht]; exact fun e => nomatch e))

/-! ### all frames -/

/-- **C14, the `tell()` clause, generated definition, every 28-digit frame**, under the hypothesis `hv` on the one
    decoder whose tie goes through floating point: on a TC 19 frame the generated `bds09.airborne_velocity` returns
    `None` or a 4-tuple whose last member is `"GS"`, `"TAS"` or `"IAS"` (`VelShape`; `airborne_velocity_shape` gives it
    from `FloatOK`) -/
theorem tell_velshape (m : Msg) (h : IsHex m) (hl : m.length = 28)
    (hv : PyModeS.df m = 17 → tcB (hex2binM m) = some 19 →
      VelShape (Gen.bds09.airborne_velocity (.str m) (.bool false))) :
    Gen.decoder.tell (.str m) = .val .none :=
  tell_none m h hl fun hd htc => by
    rw [velocity_tc19 m h hl htc]
    exact hv hd htc

end PyModeS.Tie.TellGen

/-! ## The statements -/
namespace PyModeS.Tie
open PyModeS PyModeS.Py PyModeS.CRC PyModeS.C14 PyModeS.Tie.TellGen

/-- **`bds09.airborne_velocity` (generated), value shape on a TC 19 frame**: under `FloatOK` it returns
    `None` or a 4-tuple `(speed, track / heading, vertical rate, tag)` with `tag` one of `"GS"`, `"TAS"`, `"IAS"` —
    in particular neither RuntimeError nor any other exception -/
theorem tell_velocity_shape_tie (hF : FloatOK) (m : Msg) (h : IsHex m) (hl : m.length = 28)
    (htc : tcB (hex2binM m) = some 19) :
    Gen.bds09.airborne_velocity (.str m) (.bool false) = .val .none ∨
      ∃ spd trk vr tag, Gen.bds09.airborne_velocity (.str m) (.bool false) = .val (.tuple [spd, trk, vr, .str tag]) ∧
        (tag = ['G', 'S'] ∨ tag = ['T', 'A', 'S'] ∨ tag = ['I', 'A', 'S']) :=
  airborne_velocity_shape m h hl htc (fun _ => hF)

/-- the same **without any hypothesis** on every TC 19 frame that does not reach the floating-point calls: airspeed
    subtypes (3, 4, and the reserved ones), or a ground-speed subtype with a zero velocity field -/
theorem tell_velocity_shape_nofloat_tie (m : Msg) (h : IsHex m) (hl : m.length = 28)
    (htc : tcB (hex2binM m) = some 19) (hs : ¬ GsMoving m) :
    Gen.bds09.airborne_velocity (.str m) (.bool false) = .val .none ∨
      ∃ spd trk vr tag, Gen.bds09.airborne_velocity (.str m) (.bool false) = .val (.tuple [spd, trk, vr, .str tag]) ∧
        (tag = ['G', 'S'] ∨ tag = ['T', 'A', 'S'] ∨ tag = ['I', 'A', 'S']) :=
  airborne_velocity_shape m h hl htc (fun g => absurd g hs)

/-- **C14 (`tell`), generated definition, unconditional**: every 28-digit hex frame that is not an airborne
    velocity message (DF ≠ 17, or type code ≠ 19) -/
theorem tell_total_112_not_tc19_tie (m : Msg) (h : IsHex m) (hl : m.length = 28)
    (h19 : ¬ (PyModeS.df m = 17 ∧ tcB (hex2binM m) = some 19)) :
    ∃ v, Gen.decoder.tell (.str m) = .val v :=
  ⟨_, TellGen.tell_total_112_not_tc19_tie m h hl h19⟩

/-- **C14 (`tell`), generated definition, unconditional**: every 28-digit hex frame except the DF 17 / TC 19
    frames of a ground-speed subtype with both velocity fields non-zero (the only ones on which `tell` reaches
    `math.sqrt` / `math.atan2`) -/
theorem tell_total_112_nofloat_tie (m : Msg) (h : IsHex m) (hl : m.length = 28)
    (hs : ¬ (PyModeS.df m = 17 ∧ tcB (hex2binM m) = some 19 ∧ GsMoving m)) :
    ∃ v, Gen.decoder.tell (.str m) = .val v :=
  ⟨_, tell_velshape m h hl (fun hd htc => airborne_velocity_shape m h hl htc (fun g => absurd ⟨hd, htc, g⟩ hs))⟩

/-- **C14 (`tell`), generated definition, every 28-digit hex frame**, given the shape of what the generated
    `bds09.airborne_velocity` returns on a TC 19 frame (hypothesis `hv`, stated for the frame at hand) -/
theorem tell_total_112_velshape_tie_partial (m : Msg) (h : IsHex m) (hl : m.length = 28)
    (hv : PyModeS.df m = 17 → tcB (hex2binM m) = some 19 →
      (Gen.bds09.airborne_velocity (.str m) (.bool false) = .val .none ∨
        ∃ spd trk vr tag, Gen.bds09.airborne_velocity (.str m) (.bool false) = .val (.tuple [spd, trk, vr, .str tag]) ∧
          (tag = ['G', 'S'] ∨ tag = ['T', 'A', 'S'] ∨ tag = ['I', 'A', 'S']))) :
    ∃ v, Gen.decoder.tell (.str m) = .val v :=
  ⟨_, tell_velshape m h hl hv⟩

/-- **C14, the `tell()` clause, for the source-generated `tell`**: on every 28-digit hex frame, whatever its bits,
    `tell` returns normally.  PARTIAL: the only assumption is `FloatOK` — the floating-point externals `Ext.math_sqrt`
    and `Ext.math_atan2` / `Ext.math_degrees` (opaque `Float` operations, which the model turns into an exception when
    the result is NaN or infinite) return a number on velocity components of absolute value at most 4088; it is used
    on the DF 17 / TC 19 ground-speed frames only (`tell_total_112_nofloat_tie` covers all the others without it). -/
theorem tell_total_112_tie_partial (hF : FloatOK) (m : Msg) (h : IsHex m) (hl : m.length = 28) :
    ∃ v, Gen.decoder.tell (.str m) = .val v :=
  ⟨_, tell_velshape m h hl (fun _ htc => airborne_velocity_shape m h hl htc (fun _ => hF))⟩

/-- the value is `None`, and in particular neither RuntimeError nor any other exception escapes -/
theorem tell_none_112_tie_partial (hF : FloatOK) (m : Msg) (h : IsHex m) (hl : m.length = 28) :
    Gen.decoder.tell (.str m) = .val .none ∧ Gen.decoder.tell (.str m) ≠ .rte ∧ Gen.decoder.tell (.str m) ≠ .exc := by
  have e := tell_velshape m h hl (fun _ htc => airborne_velocity_shape m h hl htc (fun _ => hF))
  rw [e]
  exact ⟨rfl, by simp, by simp⟩

end PyModeS.Tie
