/-
  C13 transported to the source-generated definitions, second part: the frame-level specifications of
  `Properties/C13.lean` stated about `Gen.bds61.*` (TC 28), `Gen.bds62.*` (TC 29) and the quality-indicator functions of
  `Gen.adsb.*` (version, NIC supplements, NUCp / NUCv / NACp / NACv / SIL / NIC), by composing the tie theorems
  (`Tie/Bds61.lean`, `Tie/Bds62.lean`, `Tie/Adsb.lean`) with C13.  The right-hand sides are explicit functions of the
  bits of the frame `hex2binM m`, encoded as the Python value the function returns.
  (The TC 28 / TC 29 guards and `selected_heading` are in `Tie/C13Gen.lean`.)
-/
import PyModeS.Properties.C13
import PyModeS.Tie.Bds61
import PyModeS.Tie.Bds62
import PyModeS.Tie.Adsb

namespace PyModeS.C13GenB
open PyModeS PyModeS.Py PyModeS.CRC PyModeS.C13 PyModeS.Tie.Adsb

/-- bit `i` of a frame, read totally (the statements below use `getD`; within the frame it is `bits[i]`) -/
theorem getD_bits (bits : Bits) (i : Nat) (h : i < bits.length) : bits.getD i false = bits[i] :=
  Fields.getD_eq h false

/-! ### TC 28 (aircraft status) -/

/-- `bds61.emergency_state` (generated): ME bits 9-11; subtype 2 (ACAS RA broadcast) is refused -/
theorem emergency_state_spec_tie (m : Msg) (h : IsHex m) (hl : m.length = 28) (htc : tcB (hex2binM m) = some 28) :
    Gen.bds61.emergency_state (.str m) =
      if PyModeS.bin2int (slice 37 40 (hex2binM m)) = 2 then .rte
      else .val (Val.ofNat (PyModeS.bin2int (slice 40 43 (hex2binM m)))) := by
  rw [Tie.emergency_state_tie m h hl, emergency_state_spec _ (Tie.frame_bits m hl) htc]
  exact Tie.Res.ite_bind _ _ _ _

/-- `bds61.is_emergency` (generated) is true exactly when subtype 1 reports an emergency state other than 0 -/
theorem is_emergency_spec_tie (m : Msg) (h : IsHex m) (hl : m.length = 28) (htc : tcB (hex2binM m) = some 28) :
    Gen.bds61.is_emergency (.str m) =
      if PyModeS.bin2int (slice 37 40 (hex2binM m)) = 2 then .rte
      else .val (.bool (decide (PyModeS.bin2int (slice 37 40 (hex2binM m)) = 1 ∧
        PyModeS.bin2int (slice 40 43 (hex2binM m)) ≠ 0))) := by
  rw [Tie.is_emergency_tie m h hl, is_emergency_spec _ (Tie.frame_bits m hl) htc]
  exact Tie.Res.ite_bind _ _ _ _

/-- the two generated functions agree: `is_emergency()` is true exactly when `emergency_state()` reports a state other
    than 0 in a subtype-1 message; both refuse subtype 2 with RuntimeError -/
theorem is_emergency_iff_tie (m : Msg) (h : IsHex m) (hl : m.length = 28) (htc : tcB (hex2binM m) = some 28) :
    (PyModeS.bin2int (slice 37 40 (hex2binM m)) = 2 →
      Gen.bds61.emergency_state (.str m) = .rte ∧ Gen.bds61.is_emergency (.str m) = .rte) ∧
    (PyModeS.bin2int (slice 37 40 (hex2binM m)) ≠ 2 → ∃ s : Nat,
      Gen.bds61.emergency_state (.str m) = .val (Val.ofNat s) ∧
      Gen.bds61.is_emergency (.str m) =
        .val (.bool (decide (PyModeS.bin2int (slice 37 40 (hex2binM m)) = 1 ∧ s ≠ 0)))) := by
  rw [emergency_state_spec_tie m h hl htc, is_emergency_spec_tie m h hl htc]
  refine ⟨fun hst => by simp [hst], fun hst => ⟨_, by rw [if_neg hst], by rw [if_neg hst]⟩⟩

/-! ### TC 29 (target state and status) -/

/-- Python value of `(altitude, source)` -/
def encSelAlt (r : Option Nat × String) : Val := .tuple [Val.ofOptNat r.1, .str r.2.toList]
/-- Python value of `(altitude, source, reference)` -/
def encTgtAlt (r : Option Int × String × String) : Val :=
  .tuple [Val.ofOptInt r.1, .str r.2.1.toList, .str r.2.2.toList]
/-- Python value of `(angle, type, source)` -/
def encTgtAng (r : Option Nat × String × String) : Val :=
  .tuple [Val.ofOptNat r.1, .str r.2.1.toList, .str r.2.2.toList]

/-- selected altitude (subtype 1): `(N − 1)·32 ft` of ME bits 10-20, `(None, "N/A")` for N = 0, source by ME bit 9 -/
theorem selected_altitude_spec_tie (m : Msg) (h : IsHex m) (hl : m.length = 28) (htc : tcB (hex2binM m) = some 29) :
    Gen.bds62.selected_altitude (.str m) =
      if PyModeS.bin2int (slice 37 39 (hex2binM m)) = 0 then .rte
      else .val (encSelAlt (if PyModeS.bin2int (slice 41 52 (hex2binM m)) = 0 then (none, "N/A")
        else (some ((PyModeS.bin2int (slice 41 52 (hex2binM m)) - 1) * 32),
          if (hex2binM m).getD 40 false then "FMS" else "MCP/FCU"))) := by
  have hb := Tie.frame_bits m hl
  rw [Tie.selected_altitude_tie m h hl, selected_altitude_spec _ hb htc,
    getD_bits _ 40 (by omega)]
  exact Tie.Res.ite_bind _ _ _ _

/-- target altitude (subtype 0): `−1000 + N·100 ft` of ME bits 16-25; availability/source by ME bits 8-9 (`None` for
    0), reference FL/MSL by ME bit 10 -/
theorem target_altitude_spec_tie (m : Msg) (h : IsHex m) (hl : m.length = 28) (htc : tcB (hex2binM m) = some 29) :
    Gen.bds62.target_altitude (.str m) =
      if PyModeS.bin2int (slice 37 39 (hex2binM m)) = 1 then .rte
      else .val (encTgtAlt (if PyModeS.bin2int (slice 39 41 (hex2binM m)) = 0 then (none, "N/A", "")
        else (some (-1000 + (PyModeS.bin2int (slice 47 57 (hex2binM m)) : Int) * 100),
          if PyModeS.bin2int (slice 39 41 (hex2binM m)) = 1 then "MCP/FCU"
          else if PyModeS.bin2int (slice 39 41 (hex2binM m)) = 2 then "Holding mode" else "FMS/RNAV",
          if (hex2binM m).getD 41 false then "MSL" else "FL"))) := by
  have hb := Tie.frame_bits m hl
  rw [Tie.target_altitude_tie m h hl, target_altitude_spec _ hb htc, getD_bits _ 41 (by omega)]
  exact Tie.Res.ite_bind _ _ _ _

/-- vertical mode (subtype 0): ME bits 14-15, `None` for 0 -/
theorem vertical_mode_spec_tie (m : Msg) (h : IsHex m) (hl : m.length = 28) (htc : tcB (hex2binM m) = some 29) :
    Gen.bds62.vertical_mode (.str m) =
      if PyModeS.bin2int (slice 37 39 (hex2binM m)) = 1 then .rte
      else .val (Val.ofOptNat (if PyModeS.bin2int (slice 45 47 (hex2binM m)) = 0 then none
        else some (PyModeS.bin2int (slice 45 47 (hex2binM m))))) := by
  rw [Tie.vertical_mode_tie m h hl, vertical_mode_spec _ (Tie.frame_bits m hl) htc]
  exact Tie.Res.ite_bind _ _ _ _

/-- horizontal mode (subtype 0): ME bits 26-27, `None` for 0 -/
theorem horizontal_mode_spec_tie (m : Msg) (h : IsHex m) (hl : m.length = 28) (htc : tcB (hex2binM m) = some 29) :
    Gen.bds62.horizontal_mode (.str m) =
      if PyModeS.bin2int (slice 37 39 (hex2binM m)) = 1 then .rte
      else .val (Val.ofOptNat (if PyModeS.bin2int (slice 57 59 (hex2binM m)) = 0 then none
        else some (PyModeS.bin2int (slice 57 59 (hex2binM m))))) := by
  rw [Tie.horizontal_mode_tie m h hl, horizontal_mode_spec _ (Tie.frame_bits m hl) htc]
  exact Tie.Res.ite_bind _ _ _ _

/-- selected heading (subtype 1), pushed through the encoding: `None` when the status bit (ME bit 30) is 0, else
    `sign·180 + N·180/256` degrees -/
theorem selected_heading_value_tie (m : Msg) (h : IsHex m) (hl : m.length = 28) (htc : tcB (hex2binM m) = some 29) :
    Gen.bds62.selected_heading (.str m) =
      if PyModeS.bin2int (slice 37 39 (hex2binM m)) = 0 then .rte
      else .val (Val.ofOptRat (if (hex2binM m).getD 61 false then
        some (headingOf ((hex2binM m).getD 62 false) (PyModeS.bin2int (slice 63 71 (hex2binM m)))) else none)) := by
  have hb := Tie.frame_bits m hl
  rw [Tie.selected_heading_tie m h hl, selected_heading_spec _ hb htc, getD_bits _ 61 (by omega),
    getD_bits _ 62 (by omega)]
  exact Tie.Res.ite_bind _ _ _ _

/-- the selected heading covers the full circle (`C13.heading_full_range`): with the sign bit set the generated decoder
    returns a value in [180, 360), without it a value in [0, 180) -/
theorem selected_heading_range_tie (m : Msg) (h : IsHex m) (hl : m.length = 28) (htc : tcB (hex2binM m) = some 29)
    (hst : PyModeS.bin2int (slice 37 39 (hex2binM m)) ≠ 0) (hav : (hex2binM m).getD 61 false = true) :
    ∃ q : Rat, Gen.bds62.selected_heading (.str m) = .val (.num q) ∧
      (if (hex2binM m).getD 62 false then 180 ≤ q ∧ q < 360 else 0 ≤ q ∧ q < 180) := by
  have hb := Tie.frame_bits m hl
  refine ⟨headingOf ((hex2binM m).getD 62 false) (PyModeS.bin2int (slice 63 71 (hex2binM m))), ?_, ?_⟩
  · rw [selected_heading_value_tie m h hl htc, if_neg hst, hav]; rfl
  · have hlt : PyModeS.bin2int (slice 63 71 (hex2binM m)) < 256 := by
      have h1 := bin2int_lt (slice 63 71 (hex2binM m))
      have h2 : (slice 63 71 (hex2binM m)).length = 8 := by rw [slice_length_of_le (by omega)]
      rw [h2] at h1; exact h1
    have := all_range_imp heading_full_range _ hlt
    simp only [decide_eq_true_eq] at this
    obtain ⟨-, -, a, b, c, d⟩ := this
    cases (hex2binM m).getD 62 false
    · exact ⟨a, b⟩
    · exact ⟨c, d⟩

/-- target heading / track angle (subtype 0): N degrees of ME bits 28-36, availability/source by ME bits 26-27 (`None`
    for 0), heading/track by ME bit 37 -/
theorem target_angle_spec_tie (m : Msg) (h : IsHex m) (hl : m.length = 28) (htc : tcB (hex2binM m) = some 29) :
    Gen.bds62.target_angle (.str m) =
      if PyModeS.bin2int (slice 37 39 (hex2binM m)) = 1 then .rte
      else .val (encTgtAng (if PyModeS.bin2int (slice 57 59 (hex2binM m)) = 0 then (none, "", "N/A")
        else (some (PyModeS.bin2int (slice 59 68 (hex2binM m))),
          if (hex2binM m).getD 68 false then "Heading" else "Track",
          if PyModeS.bin2int (slice 57 59 (hex2binM m)) = 1 then "MCP/FCU"
          else if PyModeS.bin2int (slice 57 59 (hex2binM m)) = 2 then "Autopilot mode" else "FMS/RNAV"))) := by
  have hb := Tie.frame_bits m hl
  rw [Tie.target_angle_tie m h hl, target_angle_spec _ hb htc, getD_bits _ 68 (by omega)]
  exact Tie.Res.ite_bind _ _ _ _

/-- barometric pressure setting (subtype 1): `800 + (N − 1)·0.8 hPa` of ME bits 21-29, `None` for 0 -/
theorem baro_pressure_setting_spec_tie (m : Msg) (h : IsHex m) (hl : m.length = 28)
    (htc : tcB (hex2binM m) = some 29) :
    Gen.bds62.baro_pressure_setting (.str m) =
      if PyModeS.bin2int (slice 37 39 (hex2binM m)) = 0 then .rte
      else .val (Val.ofOptRat (if PyModeS.bin2int (slice 52 61 (hex2binM m)) = 0 then none
        else some (800 + (((PyModeS.bin2int (slice 52 61 (hex2binM m)) : Int) - 1 : Int) : Rat) * 4 / 5))) := by
  rw [Tie.baro_pressure_setting_tie m h hl, baro_pressure_setting_spec _ (Tie.frame_bits m hl) htc]
  exact Tie.Res.ite_bind _ _ _ _

/-- mode flags (subtype 1): `None` when the mode-status bit (ME bit 47) is 0, else the flag's bit
    (autopilot ME bit 48, VNAV 49, altitude hold 50, approach 52, LNAV 54) -/
theorem mode_flags_spec_tie (m : Msg) (h : IsHex m) (hl : m.length = 28) (htc : tcB (hex2binM m) = some 29) :
    (Gen.bds62.autopilot (.str m) =
      if PyModeS.bin2int (slice 37 39 (hex2binM m)) = 0 then .rte
      else .val (Tie.ofOptBool (if (hex2binM m).getD 78 false then some ((hex2binM m).getD 79 false) else none))) ∧
    (Gen.bds62.vnav_mode (.str m) =
      if PyModeS.bin2int (slice 37 39 (hex2binM m)) = 0 then .rte
      else .val (Tie.ofOptBool (if (hex2binM m).getD 78 false then some ((hex2binM m).getD 80 false) else none))) ∧
    (Gen.bds62.altitude_hold_mode (.str m) =
      if PyModeS.bin2int (slice 37 39 (hex2binM m)) = 0 then .rte
      else .val (Tie.ofOptBool (if (hex2binM m).getD 78 false then some ((hex2binM m).getD 81 false) else none))) ∧
    (Gen.bds62.approach_mode (.str m) =
      if PyModeS.bin2int (slice 37 39 (hex2binM m)) = 0 then .rte
      else .val (Tie.ofOptBool (if (hex2binM m).getD 78 false then some ((hex2binM m).getD 83 false) else none))) ∧
    (Gen.bds62.lnav_mode (.str m) =
      if PyModeS.bin2int (slice 37 39 (hex2binM m)) = 0 then .rte
      else .val (Tie.ofOptBool (if (hex2binM m).getD 78 false then some ((hex2binM m).getD 85 false) else none))) := by
  have hb := Tie.frame_bits m hl
  refine ⟨?_, ?_, ?_, ?_, ?_⟩
  · rw [Tie.autopilot_tie m h hl, autopilot_spec _ hb htc, getD_bits _ 78 (by omega), getD_bits _ 79 (by omega)]
    exact Tie.Res.ite_bind _ _ _ _
  · rw [Tie.vnav_mode_tie m h hl, vnav_mode_spec _ hb htc, getD_bits _ 78 (by omega), getD_bits _ 80 (by omega)]
    exact Tie.Res.ite_bind _ _ _ _
  · rw [Tie.altitude_hold_mode_tie m h hl, altitude_hold_mode_spec _ hb htc, getD_bits _ 78 (by omega),
      getD_bits _ 81 (by omega)]
    exact Tie.Res.ite_bind _ _ _ _
  · rw [Tie.approach_mode_tie m h hl, approach_mode_spec _ hb htc, getD_bits _ 78 (by omega),
      getD_bits _ 83 (by omega)]
    exact Tie.Res.ite_bind _ _ _ _
  · rw [Tie.lnav_mode_tie m h hl, lnav_mode_spec _ hb htc, getD_bits _ 78 (by omega), getD_bits _ 85 (by omega)]
    exact Tie.Res.ite_bind _ _ _ _

/-- TCAS/ACAS operational: subtype 0 carries "not operational" at ME bit 52 (inverted), subtype 1 "operational" at ME
    bit 53; never refused for TC 29 -/
theorem tcas_operational_spec_tie (m : Msg) (h : IsHex m) (hl : m.length = 28) (htc : tcB (hex2binM m) = some 29) :
    Gen.bds62.tcas_operational (.str m) =
      .val (.bool (if PyModeS.bin2int (slice 37 39 (hex2binM m)) = 0 then !((hex2binM m).getD 83 false)
        else (hex2binM m).getD 84 false)) := by
  have hb := Tie.frame_bits m hl
  rw [Tie.tcas_operational_tie m h hl, tcas_operational_spec _ hb htc, getD_bits _ 83 (by omega),
    getD_bits _ 84 (by omega)]
  rfl

/-- TCAS/ACAS resolution advisory active (subtype 0): ME bit 53 -/
theorem tcas_ra_spec_tie (m : Msg) (h : IsHex m) (hl : m.length = 28) (htc : tcB (hex2binM m) = some 29) :
    Gen.bds62.tcas_ra (.str m) =
      if PyModeS.bin2int (slice 37 39 (hex2binM m)) = 1 then .rte else .val (.bool ((hex2binM m).getD 84 false)) := by
  have hb := Tie.frame_bits m hl
  rw [Tie.tcas_ra_tie m h hl, tcas_ra_spec _ hb htc, getD_bits _ 84 (by omega)]
  exact Tie.Res.ite_bind _ _ _ _

/-- emergency / priority status (subtype 0): ME bits 54-56 -/
theorem emergency_status_spec_tie (m : Msg) (h : IsHex m) (hl : m.length = 28) (htc : tcB (hex2binM m) = some 29) :
    Gen.bds62.emergency_status (.str m) =
      if PyModeS.bin2int (slice 37 39 (hex2binM m)) = 1 then .rte
      else .val (Val.ofNat (PyModeS.bin2int (slice 85 88 (hex2binM m)))) := by
  rw [Tie.emergency_status_tie m h hl, emergency_status_spec _ (Tie.frame_bits m hl) htc]
  exact Tie.Res.ite_bind _ _ _ _

/-! ### adsb.py: version and NIC supplements -/

/-- ADS-B version (TC 31): ME bits 41-43; RuntimeError for any other type code -/
theorem version_spec_tie (m : Msg) (h : IsHex m) (hl : m.length = 28) :
    Gen.adsb.version (.str m) =
      if tcB (hex2binM m) = some 31 then .val (Val.ofNat (PyModeS.bin2int (slice 72 75 (hex2binM m)))) else .rte := by
  rw [Tie.version_tie m h (by omega), version_spec _ (Tie.frame_bits m hl)]
  exact Tie.Res.ite_bind _ _ _ _

/-- NIC supplement S (TC 31): ME bit 44 -/
theorem nic_s_spec_tie (m : Msg) (h : IsHex m) (hl : m.length = 28) :
    Gen.adsb.nic_s (.str m) =
      if tcB (hex2binM m) = some 31 then .val (Val.ofNat (b2n ((hex2binM m).getD 75 false))) else .rte := by
  have hb := Tie.frame_bits m hl
  rw [Tie.nic_s_tie m h (by omega), nic_s_spec _ hb, getD_bits _ 75 (by omega)]
  exact Tie.Res.ite_bind _ _ _ _

/-- NIC supplements A and C (TC 31): ME bit 44 and ME bit 20, as the pair `(NICa, NICc)` -/
theorem nic_a_c_spec_tie (m : Msg) (h : IsHex m) (hl : m.length = 28) :
    Gen.adsb.nic_a_c (.str m) =
      if tcB (hex2binM m) = some 31
      then .val (.tuple [Val.ofNat (b2n ((hex2binM m).getD 75 false)), Val.ofNat (b2n ((hex2binM m).getD 51 false))])
      else .rte := by
  have hb := Tie.frame_bits m hl
  rw [Tie.nic_a_c_tie m h (by omega), nic_a_c_spec _ hb, getD_bits _ 75 (by omega), getD_bits _ 51 (by omega)]
  exact Tie.Res.ite_bind _ _ _ _

/-- NIC supplement B (airborne position, TC 9-18): ME bit 8 -/
theorem nic_b_spec_tie (m : Msg) (h : IsHex m) (hl : m.length = 28) :
    Gen.adsb.nic_b (.str m) =
      match tcB (hex2binM m) with
      | some tc => if 9 ≤ tc ∧ tc ≤ 18 then .val (Val.ofNat (b2n ((hex2binM m).getD 39 false))) else .rte
      | none => .rte := by
  have hb := Tie.frame_bits m hl
  rw [Tie.nic_b_tie m h (by omega), nic_b_spec _ hb, getD_bits _ 39 (by omega)]
  cases tcB (hex2binM m) with
  | none => rfl
  | some tc => exact Tie.Res.ite_bind _ _ _ _

/-! ### adsb.py: NUCv / NACv / NACp / SIL (a category field with its table row) -/

/-- NUCv (TC 19, version 0): ME bits 11-13 with the HVE / VVE row of the table -/
theorem nuc_v_spec_tie (m : Msg) (h : IsHex m) (hl : m.length = 28) :
    Gen.adsb.nuc_v (.str m) =
      if tcB (hex2binM m) = some 19
      then .val (enc3 (catRow Tables.tblNUCv (PyModeS.bin2int (slice 42 45 (hex2binM m))))) else .rte := by
  rw [Tie.nuc_v_tie m h (by omega), nuc_v_spec _ (Tie.frame_bits m hl)]
  exact Tie.Res.ite_bind _ _ _ _

/-- NACv (TC 19, version 1-2): ME bits 11-13 with the HFOMr / VFOMr row of the table -/
theorem nac_v_spec_tie (m : Msg) (h : IsHex m) (hl : m.length = 28) :
    Gen.adsb.nac_v (.str m) =
      if tcB (hex2binM m) = some 19
      then .val (enc3 (catRow Tables.tblNACv (PyModeS.bin2int (slice 42 45 (hex2binM m))))) else .rte := by
  rw [Tie.nac_v_tie m h (by omega), nac_v_spec _ (Tie.frame_bits m hl)]
  exact Tie.Res.ite_bind _ _ _ _

/-- NACp: ME bits 40-43 of a TC 29 message, ME bits 45-48 of a TC 31 message, with the EPU / VEPU row; RuntimeError
    for every other type code -/
theorem nac_p_spec_tie (m : Msg) (h : IsHex m) (hl : m.length = 28) :
    (tcB (hex2binM m) = some 29 → Gen.adsb.nac_p (.str m) =
      .val (enc3 (catRow Tables.tblNACp (PyModeS.bin2int (slice 71 75 (hex2binM m)))))) ∧
    (tcB (hex2binM m) = some 31 → Gen.adsb.nac_p (.str m) =
      .val (enc3 (catRow Tables.tblNACp (PyModeS.bin2int (slice 76 80 (hex2binM m)))))) ∧
    (tcB (hex2binM m) ≠ some 29 → tcB (hex2binM m) ≠ some 31 → Gen.adsb.nac_p (.str m) = .rte) := by
  obtain ⟨a, b, c⟩ := nac_p_spec _ (Tie.frame_bits m hl)
  refine ⟨fun e => ?_, fun e => ?_, fun e1 e2 => ?_⟩
  · rw [Tie.nac_p_tie m h (by omega), a e]; rfl
  · rw [Tie.nac_p_tie m h (by omega), b e]; rfl
  · rw [Tie.nac_p_tie m h (by omega), c e1 e2]; rfl

/-- SIL: ME bits 45-46 (TC 29) or 51-52 (TC 31) with the table row; the probability base is "unknown" unless the caller
    says version 2, then the SIL supplement bit (ME bit 8 / ME bit 55); `version` is an integer or `None` -/
theorem sil_spec_tie (m : Msg) (h : IsHex m) (hl : m.length = 28) (ver : Option Nat) :
    (tcB (hex2binM m) = some 29 → Gen.adsb.sil (.str m) (Val.ofOptNat ver) =
      .val (encSil ((silRow (PyModeS.bin2int (slice 76 78 (hex2binM m)))).1,
        (silRow (PyModeS.bin2int (slice 76 78 (hex2binM m)))).2,
        if ver = some 2 then (if (hex2binM m).getD 39 false then "sample" else "hour") else "unknown"))) ∧
    (tcB (hex2binM m) = some 31 → Gen.adsb.sil (.str m) (Val.ofOptNat ver) =
      .val (encSil ((silRow (PyModeS.bin2int (slice 82 84 (hex2binM m)))).1,
        (silRow (PyModeS.bin2int (slice 82 84 (hex2binM m)))).2,
        if ver = some 2 then (if (hex2binM m).getD 86 false then "sample" else "hour") else "unknown"))) ∧
    (tcB (hex2binM m) ≠ some 29 → tcB (hex2binM m) ≠ some 31 →
      Gen.adsb.sil (.str m) (Val.ofOptNat ver) = .rte) := by
  have hb := Tie.frame_bits m hl
  obtain ⟨a, b, c⟩ := sil_spec _ hb ver
  refine ⟨fun e => ?_, fun e => ?_, fun e1 e2 => ?_⟩
  · rw [Tie.sil_tie m h (by omega), a e, getD_bits _ 39 (by omega)]; rfl
  · rw [Tie.sil_tie m h (by omega), b e, getD_bits _ 86 (by omega)]; rfl
  · rw [Tie.sil_tie m h (by omega), c e1 e2]; rfl

/-! ### adsb.py: NUCp / NIC by type code (position messages, TC 5-18 and 20-22) -/

/-- `nuc_p` (generated): NUCp from the type code (the DO-260B assignment `nucpOfTc`), HPL and RCu from its table row,
    RCv 4 m / 15 m for TC 20 / 21 -/
theorem nuc_p_spec_tie (m : Msg) (h : IsHex m) (hl : m.length = 28) (tc : Nat) (htc : tcB (hex2binM m) = some tc)
    (hr : (5 ≤ tc ∧ tc ≤ 18) ∨ (20 ≤ tc ∧ tc ≤ 22)) :
    Gen.adsb.nuc_p (.str m) = .val (enc4 (nucpOfTc tc, (catRow Tables.tblNUCp (nucpOfTc tc)).2.1,
      (catRow Tables.tblNUCp (nucpOfTc tc)).2.2,
      if tc = 20 then some 4 else if tc = 21 then some 15 else none)) := by
  rw [Tie.nuc_p_tie m h (by omega), (nuc_p_spec _ tc htc hr).2]; rfl

/-- the three type-code look-ups raise RuntimeError outside the position type codes -/
theorem position_quality_guards_tie (m : Msg) (h : IsHex m) (hl : m.length = 28)
    (hg : ∀ tc, tcB (hex2binM m) = some tc → tc < 5 ∨ tc = 19 ∨ tc > 22) (nics nica nicbc : Nat) :
    Gen.adsb.nuc_p (.str m) = .rte ∧ Gen.adsb.nic_v1 (.str m) (Val.ofNat nics) = .rte ∧
    Gen.adsb.nic_v2 (.str m) (Val.ofNat nica) (Val.ofNat nicbc) = .rte := by
  refine ⟨?_, ?_, ?_⟩
  · rw [Tie.nuc_p_tie m h (by omega), nuc_p_guard _ hg]; rfl
  · rw [Tie.nic_v1_tie m h (by omega), nic_v1_guard _ nics hg]; rfl
  · rw [Tie.nic_v2_tie m h (by omega), nic_v2_guard _ nica nicbc hg]; rfl

/-- `nic_v1` (generated) for any supplement argument: the type-code entry exists; the NIC is the entry itself or its
    member for the supplement (`KeyError`, i.e. an exception other than RuntimeError, if it has none), Rc / VPL the row
    of (NIC, supplement) -/
theorem nic_v1_spec_tie (m : Msg) (h : IsHex m) (hl : m.length = 28) (tc : Nat) (htc : tcB (hex2binM m) = some tc)
    (hr : (5 ≤ tc ∧ tc ≤ 18) ∨ (20 ≤ tc ∧ tc ≤ 22)) (nics : Nat) :
    ∃ e, lookup Tables.tcNICv1 tc = some e ∧
      Gen.adsb.nic_v1 (.str m) (Val.ofNat nics) = match nicOfEntry e nics with
        | .val nic => .val (enc3 (match nicRow Tables.tblNICv1 nic nics with
            | some row => (nic, col row 0, col row 1)
            | none => (nic, none, none)))
        | _ => .exc := by
  obtain ⟨e, he, hv⟩ := nic_v1_spec _ tc htc hr nics
  refine ⟨e, he, ?_⟩
  rw [Tie.nic_v1_tie m h (by omega), hv]
  cases hn : nicOfEntry e nics with
  | val nic => rfl
  | rte => rfl
  | exc => rfl

/-- with a 1-bit supplement the generated `nic_v1` never raises and the NIC is the DO-260B value `nicV1OfTc` -/
theorem nic_v1_value_tie (m : Msg) (h : IsHex m) (hl : m.length = 28) (tc : Nat) (htc : tcB (hex2binM m) = some tc)
    (hr : (5 ≤ tc ∧ tc ≤ 18) ∨ (20 ≤ tc ∧ tc ≤ 22)) (nics : Nat) (hn : nics < 2) :
    Gen.adsb.nic_v1 (.str m) (Val.ofNat nics) =
      .val (enc3 (match nicRow Tables.tblNICv1 (nicV1OfTc tc nics) nics with
        | some row => (nicV1OfTc tc nics, col row 0, col row 1)
        | none => (nicV1OfTc tc nics, none, none))) := by
  rw [Tie.nic_v1_tie m h (by omega), nic_v1_value _ tc htc hr nics hn]; rfl

/-- `nic_v2` (generated) for any supplement arguments never raises on a position message: the type-code entry exists,
    the supplement is 0 for TC 20-22 and `2·A + B/C` otherwise, and the result is `(NIC, Rc)` of the (NIC, supplement)
    row — `(None, None)` whenever any of the look-ups inside the `try` fails -/
theorem nic_v2_spec_tie (m : Msg) (h : IsHex m) (hl : m.length = 28) (tc : Nat) (htc : tcB (hex2binM m) = some tc)
    (hr : (5 ≤ tc ∧ tc ≤ 18) ∨ (20 ≤ tc ∧ tc ≤ 22)) (nica nicbc : Nat) :
    ∃ e, lookup Tables.tcNICv2 tc = some e ∧
      Gen.adsb.nic_v2 (.str m) (Val.ofNat nica) (Val.ofNat nicbc) = .val (encNic2 (
        let nics := if 20 ≤ tc ∧ tc ≤ 22 then 0 else nica * 2 + nicbc
        match nicOfEntry e nics with
        | .val nic => (nicRow Tables.tblNICv2 nic nics).map (fun row => (nic, col row 0))
        | _ => none)) := by
  obtain ⟨e, he, hv⟩ := nic_v2_spec _ tc htc hr nica nicbc
  refine ⟨e, he, ?_⟩
  rw [Tie.nic_v2_tie m h (by omega), hv]; rfl

/-- on every position message the generated `nic_v2` returns a pair — `(NIC, Rc)` or `(None, None)` — whatever the
    supplement arguments: it never raises -/
theorem nic_v2_never_raises_tie (m : Msg) (h : IsHex m) (hl : m.length = 28) (tc : Nat)
    (htc : tcB (hex2binM m) = some tc) (hr : (5 ≤ tc ∧ tc ≤ 18) ∨ (20 ≤ tc ∧ tc ≤ 22)) (nica nicbc : Nat) :
    ∃ a b : Val, Gen.adsb.nic_v2 (.str m) (Val.ofNat nica) (Val.ofNat nicbc) = .val (.tuple [a, b]) := by
  obtain ⟨r, hv⟩ := nic_v2_never_raises _ tc htc hr nica nicbc
  rw [Tie.nic_v2_tie m h (by omega), hv]
  cases r with
  | none => exact ⟨_, _, rfl⟩
  | some p => exact ⟨_, _, rfl⟩

end PyModeS.C13GenB
