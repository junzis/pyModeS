/-
  Tie for `RtlReader._process_buffer` (extra/rtlreader.py, property C19): the generated method on the receiver
  dictionary against `demodLoop` / `processBuffer` of Model/Demod.lean.

  Abstraction: the receiver is a dictionary `l` with `signal_buffer` = the list of samples `encRats buf.toList`,
  `noise_floor` = `Val.num nf0`, `debug` = any value; `(noiseFloor, Array Rat)` of the hand model is `(nf0, buf)`.
-/
import PyModeS.Tie.Rtl
import PyModeS.Tie.Attr
import PyModeS.Proofs.Demod.Loop

set_option linter.style.nameCheck false
open PyModeS PyModeS.Py PyModeS.CRC PyModeS.Tie PyModeS.Tie.Rtl PyModeS.Tie.CrcTie PyModeS.Demod
namespace PyModeS.Tie.RtlBuf

/-! ### encodings -/

/-- `msgbin`: a list of the integers 0 / 1 -/
def encB (bits : List Bool) : Val := .tuple (bits.map fun b => Val.num (if b then 1 else 0))

/-- the returned `[msg, ts]` list; `time.time()` is `0` in the generated model (`Ext.time_time`) -/
def encStamped (l : List Msg) : Val := .tuple (l.map fun m => .tuple [.str m, .num 0])

theorem pyAppend_encStamped (xs : List Msg) (c : Msg) :
    pyAppend (encStamped xs) (.tuple [.str c, .num 0]) = .val (encStamped (xs ++ [c])) := by
  simp [pyAppend, encStamped]

theorem pyAppend_encB (xs : List Bool) (c : Bool) :
    pyAppend (encB xs) (.num (if c then 1 else 0)) = .val (encB (xs ++ [c])) := by
  simp [pyAppend, encB]

theorem pyLen_encB (xs : List Bool) : pyLen (encB xs) = .val (Val.ofNat xs.length) := by
  simp [pyLen, encB]

/-! ### slices of the sample list -/

/-- `l[a:c]` -/
theorem pySlice_rats (b : List Rat) (a c : Nat) :
    pySlice (encRats b) (some (Val.ofNat a)) (some (Val.ofNat c)) = .val (encRats ((b.drop a).take (c - a))) := by
  simp only [pySlice, optInt_ofNat, bind_val', encRats, sliceList_nn, List.map_take, List.map_drop]

/-- `l[a:]` -/
theorem pySlice_rats_from (b : List Rat) (a : Nat) :
    pySlice (encRats b) (some (Val.ofNat a)) none = .val (encRats (b.drop a)) := by
  have i1 : optInt none = .val none := rfl
  simp only [pySlice, optInt_ofNat, i1, bind_val', encRats, sliceList, normBound_nonneg, List.length_map, slice]
  congr 2
  rw [← List.map_drop]
  rcases Nat.lt_or_ge b.length a with hlt | hge
  · rw [Nat.min_eq_right (Nat.le_of_lt hlt), List.drop_eq_nil_of_le (Nat.le_of_lt hlt)]
    simp
  · rw [Nat.min_eq_left hge, List.take_of_length_le (by simp)]

/-! ### `max(frame_pulses)` -/

theorem pyMaxList_nil : pyMaxList (encRats []) = .exc := rfl

theorem pyMaxList_cons (m : Rat) (ms : List Rat) :
    pyMaxList (encRats (m :: ms)) = .val (.num (ms.foldl max m)) := by
  refine pyBestList_rats _ max (fun b x => ?_) m ms
  by_cases h : b < x
  · rw [decide_eq_true h, if_pos rfl, max_eq_right (le_of_lt h)]
  · rw [decide_eq_false h, if_neg Bool.false_ne_true, max_eq_left (not_lt.mp h)]

/-! ### `pms.bin2hex("".join([str(i) for i in msgbin]))` -/

theorem pyStr_bit (b : Bool) : pyStr (.num (if b then 1 else 0)) = .val (.str [b.toDigit]) := by
  cases b <;> rfl

theorem compList_str (F : Val → Res (Option Val))
    (hF : ∀ b : Bool, F (Val.num (if b then 1 else 0)) = .val (some (.str [b.toDigit]))) (bits : List Bool) :
    compList F (bits.map fun b => Val.num (if b then 1 else 0)) = .val (bits.map fun b => .str [b.toDigit]) := by
  induction bits with
  | nil => rfl
  | cons b bits ih =>
    simp only [List.map_cons, compList, hF, ih]

theorem intercalate_nil_singletons (cs : List Char) : ([] : List Char).intercalate (cs.map fun c => [c]) = cs := by
  induction cs with
  | nil => rfl
  | cons c cs ih =>
    cases cs with
    | nil => rfl
    | cons d cs =>
      simp only [List.map_cons, List.intercalate, List.intersperse] at ih ⊢
      simp only [List.flatten_cons, List.nil_append, List.singleton_append] at ih ⊢
      rw [ih]

theorem mapM_strs (F : Val → Option (List Char)) (hF : ∀ t, F (.str t) = some t) (ss : List (List Char)) :
    (ss.map Val.str).mapM F = some ss := by
  induction ss with
  | nil => rfl
  | cons t ss ih => rw [List.map_cons, List.mapM_cons, hF, ih]; rfl

theorem join_bits (bits : List Bool) :
    pyJoin (Val.str []) (.tuple (bits.map fun b => .str [b.toDigit])) = .val (Val.ofBits bits) := by
  have e : (bits.map fun b => Val.str [b.toDigit]) = ((bits.map Bool.toDigit).map fun c => [c]).map Val.str := by
    simp only [List.map_map]; rfl
  unfold pyJoin
  dsimp only
  rw [e, mapM_strs _ (fun t => rfl)]
  simp only [intercalate_nil_singletons, Val.ofBits]

theorem pyComp_bits (bits : List Bool) :
    pyComp (encB bits) (fun x__5 => do
        let r ← pyStr x__5
        Res.val (some r)) = .val (.tuple (bits.map fun b => .str [b.toDigit])) := by
  simp only [pyComp, encB, CrcTie.pyIter_tuple, bind_val', Res.pure_eq]
  rw [compList_str _ (fun b => by simp only [pyStr_bit, bind_val']), bind_val']

theorem bin2hex_ofBits (bits : List Bool) (hne : bits ≠ []) :
    Gen.py_common.bin2hex (Val.ofBits bits) = .val (.str (bin2hexNoPad bits)) := by
  have hpos : 0 < bits.length := List.length_pos_of_ne_nil hne
  unfold Gen.py_common.bin2hex
  simp only [pyInt2_ofBits, bin2intR_of_length hpos, bind_val', pyFmtHexU, int?_ofNat, bin2hexNoPad]
  simp

theorem pair_idx0 (a b : Rat) : pyIdxN (encRats [a, b]) 0 = .val (.num a) := rfl
theorem pair_idx1 (a b : Rat) : pyIdxN (encRats [a, b]) 1 = .val (.num b) := rfl
theorem pair_len (a b : Rat) : decide ([a, b].length < 2) = false := rfl

theorem pyAppend_encB_one (xs : List Bool) : pyAppend (encB xs) (.num 1) = .val (encB (xs ++ [true])) :=
  pyAppend_encB xs true
theorem pyAppend_encB_zero (xs : List Bool) : pyAppend (encB xs) (.num 0) = .val (encB (xs ++ [false])) :=
  pyAppend_encB xs false

theorem hexdig : ∀ d, d < 16 → (hexVal? (Nat.digitChar d).toUpper).isSome = true := by decide

theorem isHex_bin2hexNoPad (bits : List Bool) : IsHex (bin2hexNoPad bits) := by
  unfold bin2hexNoPad
  generalize PyModeS.bin2int bits = n
  induction n using Nat.strong_induction_on with
  | _ n ih =>
    rw [Nat.toDigits_eq_if (by decide)]
    split
    · rename_i h
      intro c hc
      simp only [List.map_cons, List.map_nil, List.mem_singleton] at hc
      subst hc
      exact hexdig n h
    · rename_i h
      intro c hc
      rw [List.map_append, List.mem_append] at hc
      rcases hc with hc | hc
      · exact ih (n / 16) (by omega) c hc
      · simp only [List.map_cons, List.map_nil, List.mem_singleton] at hc
        subst hc
        exact hexdig (n % 16) (Nat.mod_lt _ (by decide))

theorem bin2hexNoPad_ne_nil (bits : List Bool) : bin2hexNoPad bits ≠ [] := by
  unfold bin2hexNoPad
  rw [Nat.toDigits_eq_if (by decide)]
  split <;> simp

/-! ### the bit-slicing loop `for j in range(0, frame_length, 2)` -/

/-- the mutable variables of the inner loop: `msgbin, j, j_2, p2, c` -/
abbrev S5 := Val × Val × Val × Val × Val

/-- a body that breaks / appends a bit as `sliceBits` does makes the loop compute `sliceBits` -/
theorem slice_loop (fp : List Rat) (thr : Rat) (g : Val → S5 → Res (ForInStep S5))
    (hbrk : ∀ (jn : Nat) (st : S5) (acc : List Bool), st.1 = encB acc →
      (∀ a b, (fp.drop jn).take 2 = [a, b] → (a < thr ∧ b < thr)) →
      Post (g (Val.ofNat jn) st) (fun r => ∃ st', r = .done st' ∧ st'.1 = encB acc ∧ st'.2.1 = Val.ofNat jn))
    (hcont : ∀ (jn : Nat) (st : S5) (acc : List Bool) (a b : Rat), st.1 = encB acc →
      (fp.drop jn).take 2 = [a, b] → ¬ (a < thr ∧ b < thr) →
      Post (g (Val.ofNat jn) st) (fun r => ∃ st', r = .yield st' ∧ st'.1 = encB (acc ++ [decide (a ≥ b)]) ∧
        st'.2.1 = Val.ofNat jn)) :
    ∀ (fuel j0 : Nat) (acc : List Bool) (st : S5), st.1 = encB acc →
      Post (forIn ((List.range' j0 (fuel + 1) 2).map Val.ofNat) st g)
        (fun st' => st'.1 = encB (sliceBits fp thr (fuel + 1) j0 acc).1 ∧
          st'.2.1 = Val.ofNat (sliceBits fp thr (fuel + 1) j0 acc).2) := by
  intro fuel
  induction fuel using Nat.strong_induction_on with
  | _ fuel ih =>
    intro j0 acc st hst
    rw [List.range'_succ, List.map_cons, List.forIn_cons]
    by_cases hgo : ∃ a b, (fp.drop j0).take 2 = [a, b] ∧ ¬ (a < thr ∧ b < thr)
    · obtain ⟨a, b, hp, hlow⟩ := hgo
      rw [sliceBits_go fp thr fuel j0 acc a b hp hlow]
      refine Post.bind (hcont j0 st acc a b hst hp hlow) ?_
      rintro _ ⟨st', rfl, h1, h2⟩
      cases fuel with
      | zero => exact Post.val ⟨h1, h2⟩
      | succ n =>
        rw [if_neg (Nat.succ_ne_zero n)]
        exact ih n (Nat.lt_succ_self n) (j0 + 2) _ st' h1
    · have hstop : ∀ a b, (fp.drop j0).take 2 = [a, b] → a < thr ∧ b < thr :=
        fun a b h => Classical.not_not.mp fun hn => hgo ⟨a, b, h, hn⟩
      rw [sliceBits_stop fp thr fuel j0 acc hstop]
      refine Post.bind (hbrk j0 st acc hst hstop) ?_
      rintro _ ⟨st', rfl, h1, h2⟩
      exact Post.val ⟨h1, h2⟩

/-! ### the `while i < buffer_length` loop -/

/-- the mutable variables of the loop: `self, frame_start, frame_length, frame_end, frame_pulses, threshold, msgbin,
    j, j_2, p2, c, msghex, messages, i` and the fuel flag -/
abbrev S := Val × Val × Val × Val × Val × Val × Val × Val × Val × Val × Val × Val × Val × Val × Bool

/-- what the loop state is required to hold: `self`, `messages`, `i` and the flag (the scratch variables are
    unconstrained) -/
def Rel (selfR : Val) (st : S) (i : Nat) (out : List Msg) (fl : Bool) : Prop :=
  st.1 = selfR ∧ st.2.2.2.2.2.2.2.2.2.2.2.2.1 = encStamped out ∧ st.2.2.2.2.2.2.2.2.2.2.2.2.2.1 = Val.ofNat i ∧
    st.2.2.2.2.2.2.2.2.2.2.2.2.2.2 = fl

/-- the generated loop ends as `scan` does -/
def Sim (selfR : Val) (r : Res S) (m : Res (List Msg × Nat)) : Prop :=
  match m with
  | .val (out, i) => ∃ st', r = .val st' ∧ Rel selfR st' i out false
  | .rte => r = .rte
  | .exc => r = .exc

/-- the generated loop body at index `i` does what `turn` does -/
def TurnSim (selfR : Val) (i : Nat) (r : Res (ForInStep S)) (t : Res (Nat × List Msg)) : Prop :=
  match t with
  | .val t => Post r (fun q => ∃ st', q = .yield st' ∧ Rel selfR st' (i + t.1) t.2 true)
  | .rte => r = .rte
  | .exc => r = .exc

/-- a `for` loop (with enough rounds) whose body stops at the end of the samples `b` and otherwise follows `turn`
    computes `scan`; in continuation form, so that `f` and `K` are found by unification with the goal -/
theorem demod_loop (b : List Rat) (minAmp : Rat) (selfR : Val) (f : Nat → S → Res (ForInStep S))
    (K : S → Res Val) (Rm : List Msg × Nat → Res Val)
    (hdone : ∀ x st i out, Rel selfR st i out true → b.length ≤ i →
      Post (f x st) (fun r => ∃ st', r = .done st' ∧ Rel selfR st' i out false))
    (hturn : ∀ x st i out, Rel selfR st i out true → i < b.length →
      TurnSim selfR i (f x st) (turn minAmp (b.drop i) out))
    (r : Nat) (hr : b.length + 1 < r) (st : S) (hrel : Rel selfR st 0 [] true)
    (hK : ∀ st' out i, Rel selfR st' i out false → K st' = Rm (out, i)) :
    (forIn (List.range' 0 r 1) st f >>= K) = (scan minAmp (b.length + 1) 0 b [] >>= Rm) := by
  have key : ∀ (n i : Nat) (out : List Msg), b.length ≤ i + n → ∀ (a r : Nat), n < r → ∀ st,
      Rel selfR st i out true → Sim selfR (forIn (List.range' a r 1) st f) (scan minAmp n i (b.drop i) out) := by
    intro n
    induction n with
    | zero =>
      intro i out hn a r hr st hrel
      obtain ⟨r', rfl⟩ : ∃ r', r = r' + 1 := ⟨r - 1, by omega⟩
      obtain ⟨_, h1, st', rfl, h2⟩ := hdone a st i out hrel (by omega)
      rw [List.range'_succ, List.forIn_cons, h1, bind_val']
      exact ⟨st', rfl, h2⟩
    | succ n ih =>
      intro i out hn a r hr st hrel
      obtain ⟨r', rfl⟩ : ∃ r', r = r' + 1 := ⟨r - 1, by omega⟩
      rw [List.range'_succ, List.forIn_cons]
      by_cases h1 : b.length ≤ i
      · obtain ⟨_, e1, st', rfl, e2⟩ := hdone a st i out hrel h1
        rw [List.drop_eq_nil_of_le h1, scan_nil, e1, bind_val']
        exact ⟨st', rfl, e2⟩
      · have ht := hturn a st i out hrel (by omega)
        rw [scan_succ _ _ _ _ _ (fun h => h1 (List.drop_eq_nil_iff.mp h))]
        cases htv : turn minAmp (b.drop i) out with
        | val t =>
          rw [htv] at ht
          obtain ⟨_, e1, st', rfl, e2⟩ := ht
          rw [e1, bind_val', bind_val', List.drop_drop]
          exact ih _ _ (by have := (turn_val _ _ _ _ htv).1; omega) (a + 1) r' (by omega) st' e2
        | rte => rw [htv] at ht; rw [show f a st = .rte from ht]; rfl
        | exc => rw [htv] at ht; rw [show f a st = .exc from ht]; rfl
  have h := key (b.length + 1) 0 [] (by omega) 0 r hr st hrel
  rw [List.drop_zero] at h
  unfold Sim at h
  cases hd : scan minAmp (b.length + 1) 0 b [] with
  | val p =>
    obtain ⟨out, i⟩ := p
    rw [hd] at h
    obtain ⟨st', e1, e2⟩ := h
    rw [e1, bind_val', bind_val']
    exact hK st' out i e2
  | rte => rw [hd] at h; rw [h]; rfl
  | exc => rw [hd] at h; rw [h]; rfl

/-! ### small facts used to step through the body -/

theorem pyGt_ofNat_zero' (b : Nat) : pyGt (Val.ofNat b) (Val.num 0) = .val (.bool (decide (0 < b))) := pyGt_ofNat b 0

theorem pbits2 : pyMul Gen.rtlreader.pbits (Val.num 2) = .val (Val.ofNat 16) := by
  simp only [Gen.rtlreader.pbits, pyMul_num, Val.ofNat]; norm_num

theorem fbits1 : pyAdd Gen.rtlreader.fbits (Val.num 1) = .val (Val.ofNat 113) := by
  simp only [Gen.rtlreader.fbits, pyAdd_num, Val.ofNat]; norm_num

theorem mul113 : pyMul (Val.ofNat 113) (Val.num 2) = .val (Val.ofNat 226) := by
  simp only [pyMul_num, Val.ofNat]; norm_num

theorem idx2_0 (a b : Val) : pyIdxN (Val.tuple [a, b]) 0 = .val a := rfl
theorem idx2_1 (a b : Val) : pyIdxN (Val.tuple [a, b]) 1 = .val b := rfl

theorem range'_map (s step : Nat) : ∀ n, List.range' s n step = (List.range n).map (fun i => s + step * i)
  | 0 => rfl
  | n + 1 => by rw [List.range'_concat, range'_map s step n, List.range_succ, List.map_append]; rfl

/-- `range(0, 226, 2)` -/
theorem range226 : pyRange3 (Val.num 0) (Val.ofNat 226) (Val.num 2) =
    .val (.tuple ((List.range' 0 113 2).map Val.ofNat)) := by
  have h2 : (Val.num 2).int? = some 2 := by simpa using int?_natLit 2
  simp only [pyRange3, int?_zero, int?_ofNat, h2]
  have : ((((226 : Nat) : Int) - 0 + 2 - 1) / 2).toNat = 113 := by decide
  simp only [this]
  rw [range'_map, List.map_map]
  norm_num
  intro a _
  simp [Val.ofNat, mul_comm]

theorem attr_ne (a b : String) (h : a.toList ≠ b.toList) (v : Val) (l : List (Val × Val)) :
    pyGetAttr (.dict (setPair (attrKey a) v l)) b = pyGetAttr (.dict l) b := by
  simp only [pyGetAttr, attrKey, Beast.dictFind_setPair_ne _ _ h]

theorem attr_same (a : String) (v : Val) (l : List (Val × Val)) :
    pyGetAttr (.dict (setPair (attrKey a) v l)) a = .val v := by
  simp only [pyGetAttr, attrKey, Beast.dictFind_setPair_same]

end PyModeS.Tie.RtlBuf

namespace PyModeS.Tie
open PyModeS.Tie.RtlBuf

/-- `_process_buffer()` on a receiver `l` whose `signal_buffer` holds the samples `buf`, `noise_floor` the number
    `nf0` and `debug` any value: the noise floor becomes `min(calcNoise buf, nf0)`, the returned `[msg, ts]` list
    is the output of `demodLoop` (every `ts` is the `0` of `Ext.time_time`), and `signal_buffer` is cut at the final
    index.  The buffer must be shorter than the `whileFuel` = 2^20 iterations granted to the generated `while`. -/
theorem RtlReader__process_buffer_tie (l : List (Val × Val)) (buf : Array Rat) (nf0 : Rat) (dbg : Val)
    (hbuf : dictFind l (attrKey "signal_buffer") = some (encRats buf.toList))
    (hnf : dictFind l (attrKey "noise_floor") = some (.num nf0))
    (hdbg : dictFind l (attrKey "debug") = some dbg)
    (hlen : buf.size + 1 < whileFuel) :
    Gen.rtlreader.RtlReader__process_buffer (.dict l) =
      (calcNoise buf >>= fun q =>
        demodLoop buf ((3162 : Rat) / 1000 * min q nf0) (buf.size + 1) 0 [] >>= fun p =>
          .val (.tuple [.dict (setPair (attrKey "signal_buffer") (encRats (buf.toList.drop p.2))
              (setPair (attrKey "noise_floor") (.num (min q nf0)) l)), encStamped p.1])) := by
  unfold Gen.rtlreader.RtlReader__process_buffer
  dsimp only
  rw [RtlReader__calc_noise_tie l buf hbuf]
  simp only [demodLoop_eq_scan, List.drop_zero, ← Array.length_toList] at hlen ⊢
  generalize buf.toList = b at hbuf hlen ⊢
  cases calcNoise buf with
  | rte => rfl
  | exc => rfl
  | val q =>
    have hsb0 : pyGetAttr (.dict l) "signal_buffer" = .val (encRats b) := by simp only [pyGetAttr, hbuf]
    have hnf0 : pyGetAttr (.dict l) "noise_floor" = .val (.num nf0) := by simp only [pyGetAttr, hnf]
    have hdbg0 : pyGetAttr (.dict l) "debug" = .val dbg := by simp only [pyGetAttr, hdbg]
    have hset : pySetAttr (.dict l) "noise_floor" (.num (min q nf0)) =
        .val (.dict (setPair (attrKey "noise_floor") (.num (min q nf0)) l)) := rfl
    have hsb := (attr_ne "noise_floor" "signal_buffer" (by decide) (.num (min q nf0)) l).trans hsb0
    have hdb := (attr_ne "noise_floor" "debug" (by decide) (.num (min q nf0)) l).trans hdbg0
    have hamp : (1581 : Rat) / 500 * min q nf0 = (3162 : Rat) / 1000 * min q nf0 := by norm_num
    simp only [bind_val', idx2_1, hnf0, pyMin2_num, hset, attr_same, pyMul_num, hsb, pyLen_rats, hamp]
    generalize hself : Val.dict (setPair (attrKey "noise_floor") (.num (min q nf0)) l) = selfR at hsb hdb ⊢
    generalize (3162 : Rat) / 1000 * min q nf0 = minAmp
    simp only [Std.Legacy.Range.forIn_eq_forIn_range', Std.Legacy.Range.size, Nat.sub_zero, Nat.add_sub_cancel,
      Nat.div_one]
    refine demod_loop b minAmp selfR _ _ _ ?hdone ?hturn whileFuel hlen _ ⟨rfl, rfl, rfl, rfl⟩ ?hK
    case hK =>
      rintro ⟨self0, fs0, fl0, fe0, fp0, th0, mb0, j0, j20, p20, c0, mh0, msgs0, i0, fuel0⟩ out i ⟨h1, h2, h3, h4⟩
      simp only at h1 h2 h3 h4
      subst h1 h2 h3 h4
      simp only [Bool.false_eq_true, if_false]
      rw [hsb, bind_val', pySlice_rats_from, bind_val', ← hself]
      rfl
    case hdone =>
      rintro x ⟨self0, fs0, fl0, fe0, fp0, th0, mb0, j0, j20, p20, c0, mh0, msgs0, i0, fuel0⟩ i out ⟨h1, h2, h3, h4⟩ hle
      simp only at h1 h2 h3 h4
      subst h1 h2 h3 h4
      have hlt : decide (i < b.length) = false := decide_eq_false (by omega)
      rw [pyLt_ofNat, bind_val', pyTruth_bool, hlt, if_pos (show (!false) = true from rfl)]
      exact Post.val ⟨_, rfl, rfl, rfl, rfl, rfl⟩
    case hturn =>
      rintro x ⟨self0, fs0, fl0, fe0, fp0, th0, mb0, j0, j20, p20, c0, mh0, msgs0, i0, fuel0⟩ i out ⟨h1, h2, h3, h4⟩ hlt
      simp only at h1 h2 h3 h4
      subst h1 h2 h3 h4
      have hlt' : decide (i < b.length) = true := decide_eq_true hlt
      have hget : b.getD i 0 = (b.drop i).headD 0 := by
        rw [List.headD_eq_head?_getD, List.head?_drop, List.getD_eq_getElem?_getD]
      have e16 : (b.drop i).take (i + 16 - i) = (b.drop i).take 16 := by rw [Nat.add_sub_cancel_left]
      have e226 : (b.drop (i + 16)).take (i + 16 + 226 - (i + 16)) = ((b.drop i).drop 16).take 226 := by
        rw [Nat.add_sub_cancel_left, List.drop_drop]
      rw [turn_sliceBits]
      simp only [pyLt_ofNat, bind_val', pyTruth_bool, hlt', Bool.not_true, Bool.false_eq_true, if_false, hsb,
        pyIdx_rats _ i hlt, pyLt_num, hget]
      by_cases hamp : (b.drop i).headD 0 < minAmp
      · rw [if_pos hamp]
        show Post _ _
        simp only [decide_eq_true hamp, if_true, num_one_ofNat, pyAdd_ofNat, bind_val', Res.pure_eq]
        exact Post.val ⟨_, rfl, rfl, rfl, rfl, rfl⟩
      · rw [if_neg hamp]
        simp only [decide_eq_false hamp, Bool.false_eq_true, if_false, pbits2, bind_val', pyAdd_ofNat,
          pySlice_rats, RtlReader__check_preamble_tie, idx2_1, e16, pyTruth_bool]
        by_cases hpre : checkPreamble ((b.drop i).take 16) = true
        · rw [if_pos hpre]
          simp only [hpre, if_true, fbits1, bind_val', mul113, pyAdd_ofNat, pySlice_rats, e226]
          cases hfp : ((b.drop i).drop 16).take 226 with
          | nil =>
            show _ = Res.exc
            simp only [pyMaxList_nil, bind_exc']
          | cons y ys =>
            show TurnSim _ i _ (match sliceBits (y :: ys) (ys.foldl max y * (1 / 5)) 113 0 [] with
              | (bits, j) => Res.val (16 + j, frameOut out bits))
            simp only [pyMaxList_cons, bind_val', pyMul_num, range226, CrcTie.pyIter_tuple]
            generalize y :: ys = fp
            generalize List.foldl max y ys * (1 / 5) = thr
            rcases hsl : sliceBits fp thr 113 0 [] with ⟨bits, jf⟩
            show Post _ _
            rw [← Nat.add_assoc i 16 jf]
            refine Post.bind (slice_loop fp thr _ ?hbrk ?hcont 112 0 [] _ rfl) ?rest
            case hbrk =>
              rintro jn ⟨m5, j5, j25, p25, c5⟩ acc hst hcond
              simp only at hst
              subst hst
              simp only [num_lit 2, pyAdd_ofNat, bind_val', pySlice_rats, Nat.add_sub_cancel_left, pyLen_rats, pyLt_ofNat,
                pyTruth_bool]
              have hlen2 : ((fp.drop jn).take 2).length ≤ 2 := by rw [List.length_take]; omega
              generalize hp : (fp.drop jn).take 2 = p2 at hcond hlen2
              rcases p2 with _ | ⟨a, _ | ⟨b, _ | ⟨c, t⟩⟩⟩
              · simp only [List.length_nil, Nat.zero_lt_succ, decide_true, if_true, Res.pure_eq]
                exact Post.val ⟨_, rfl, rfl, rfl⟩
              · simp only [List.length_cons, List.length_nil, Nat.zero_add, Nat.one_lt_ofNat, decide_true, if_true,
                  Res.pure_eq]
                exact Post.val ⟨_, rfl, rfl, rfl⟩
              · obtain ⟨ha, hb⟩ := hcond a b rfl
                simp only [pair_len, Bool.false_eq_true, if_false, pair_idx0, pair_idx1, bind_val', pyLt_num,
                  pyTruth_bool, decide_eq_true ha, decide_eq_true hb, if_true, Res.pure_eq]
                exact Post.val ⟨_, rfl, rfl, rfl⟩
              · simp only [List.length_cons] at hlen2
                omega
            case hcont =>
              rintro jn ⟨m5, j5, j25, p25, c5⟩ acc a b hst hp hlow
              simp only at hst
              subst hst
              -- `p2[0] < threshold and p2[1] < threshold` is false; it is read off before `pyTruth` is evaluated,
              -- while the test of the translated `and` still has the shape of `pyAnd_truth`
              have hand : (decide (a < thr) && decide (b < thr)) = false := by
                rw [← Bool.decide_and]; exact decide_eq_false hlow
              simp only [num_lit 2, pyAdd_ofNat, bind_val', pySlice_rats, Nat.add_sub_cancel_left, pyLen_rats, pyLt_ofNat,
                hp, pair_idx0, pair_idx1, pyLt_num, pyGe_num, Res.pure_eq, pyAnd_truth, hand]
              simp only [pyTruth_bool, pair_len, Bool.false_eq_true, if_false]
              by_cases hge : b ≤ a
              · simp only [decide_eq_true hge, if_true, pyAppend_encB_one, bind_val']
                exact Post.val ⟨_, rfl, rfl, rfl⟩
              · simp only [decide_eq_false hge, Bool.false_eq_true, if_false, decide_eq_true (not_le.mp hge), if_true,
                  pyAppend_encB_zero, bind_val']
                exact Post.val ⟨_, rfl, rfl, rfl⟩
            case rest =>
              rintro ⟨m5, j5, j25, p25, c5⟩ ⟨hm, hj⟩
              simp only at hm hj
              subst hm hj
              rw [show sliceBits fp thr (112 + 1) 0 [] = (bits, jf) from hsl]
              simp only [pyAdd_ofNat, bind_val', pyLen_encB, pyGt_ofNat_zero', pyTruth_bool]
              by_cases hne : bits = []
              · subst hne
                simp only [List.length_nil, Nat.lt_irrefl, decide_false, Bool.false_eq_true, if_false, Res.pure_eq]
                exact Post.val ⟨_, rfl, rfl, rfl, rfl, rfl⟩
              · have hpos : 0 < bits.length := List.length_pos_of_ne_nil hne
                have hemp : bits.isEmpty = false := by cases bits <;> simp_all
                have ht : Gen.Ext.time_time = .val (.num 0) := rfl
                simp only [decide_eq_true hpos, if_true, pyComp_bits, join_bits, bin2hex_ofBits bits hne,
                  RtlReader__check_msg_tie _ _ (isHex_bin2hexNoPad bits) (bin2hexNoPad_ne_nil bits), idx2_1, bind_val',
                  pyTruth_bool, ht, pyAppend_encStamped, hdb,
                  RtlReader__debug_msg_tie _ _ (isHex_bin2hexNoPad bits) (bin2hexNoPad_ne_nil bits), idx2_0, Res.pure_eq]
                -- `_debug_msg` returns the receiver unchanged: both arms of `if self.debug` are the same
                by_cases hck : checkMsg (bin2hexNoPad bits) = true
                · simp only [hck, if_true, ite_self]
                  refine Post.val ⟨_, rfl, rfl, ?_, rfl, rfl⟩
                  simp only [frameOut, hemp, Bool.false_eq_true, if_false, hck, if_true]
                · simp only [hck, ite_self]
                  refine Post.val ⟨_, rfl, rfl, ?_, rfl, rfl⟩
                  simp only [frameOut, hemp, Bool.false_eq_true, if_false, hck]
        · rw [if_neg hpre]
          show Post _ _
          simp only [Bool.eq_false_iff.mpr hpre, Bool.false_eq_true, if_false, num_one_ofNat, pyAdd_ofNat, bind_val',
            Res.pure_eq]
          exact Post.val ⟨_, rfl, rfl, rfl, rfl, rfl⟩

/-- the same against `processBuffer` (the function the C19 theorems are about): its result `(messages, noise floor,
    length of the remaining buffer)` determines the returned list and the new receiver; `signal_buffer[i:]` is the
    last `rest` samples (`rest = 0` by `C19.processBuffer_rest`: the loop always consumes the whole buffer) -/
theorem RtlReader__process_buffer_tie_model (l : List (Val × Val)) (buf : Array Rat) (nf0 : Rat) (dbg : Val)
    (hbuf : dictFind l (attrKey "signal_buffer") = some (encRats buf.toList))
    (hnf : dictFind l (attrKey "noise_floor") = some (.num nf0))
    (hdbg : dictFind l (attrKey "debug") = some dbg)
    (hlen : buf.size + 1 < whileFuel) :
    Gen.rtlreader.RtlReader__process_buffer (.dict l) =
      (processBuffer nf0 buf >>= fun r =>
        .val (.tuple [.dict (setPair (attrKey "signal_buffer") (encRats (takeLast r.2.2 buf.toList))
            (setPair (attrKey "noise_floor") (.num r.2.1) l)), encStamped r.1])) := by
  rw [RtlReader__process_buffer_tie l buf nf0 dbg hbuf hnf hdbg hlen]
  unfold processBuffer
  cases calcNoise buf with
  | rte => rfl
  | exc => rfl
  | val q =>
    simp only [bind_val']
    cases hd : demodLoop buf ((3162 : Rat) / 1000 * min q nf0) (buf.size + 1) 0 [] with
    | rte => rfl
    | exc => rfl
    | val p =>
      obtain ⟨out, i⟩ := p
      have hi : buf.size ≤ i := by
        rw [demodLoop_eq_scan, List.drop_zero] at hd
        have := (scan_index _ _ _ _ _ _ _ hd).2 (by rw [Array.length_toList]; omega)
        rw [Array.length_toList] at this
        omega
      simp only [bind_val', Res.pure_eq]
      have e1 : buf.toList.drop i = [] := List.drop_eq_nil_of_le (by rw [Array.length_toList]; exact hi)
      have e2 : takeLast (buf.size - i) buf.toList = [] := by
        have : buf.size - i = 0 := by omega
        rw [this, takeLast, Nat.sub_zero, List.drop_length]
      rw [e1, e2]

end PyModeS.Tie
