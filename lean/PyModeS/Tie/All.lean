/- every module of the tie layer: the libraries (`Basic`, `Common`, `Attr`, `Commb`), the ties (generated definition =
   hand-written model), the `C##Gen` modules (properties stated about the generated definitions) and the statements proved
   directly about generated `decode.py`; built by MANIFEST.setup_cmd -/
import PyModeS.Tie.Basic
import PyModeS.Tie.Common
import PyModeS.Tie.Attr
import PyModeS.Tie.Commb
import PyModeS.Tie.Icao
import PyModeS.Tie.Surv
import PyModeS.Tie.Bds05b
import PyModeS.Tie.Bds08
import PyModeS.Tie.Callsign
import PyModeS.Tie.Cpr
import PyModeS.Tie.Bds10
import PyModeS.Tie.Bds17
import PyModeS.Tie.Bds20
import PyModeS.Tie.Bds40
import PyModeS.Tie.Bds44
import PyModeS.Tie.Bds45
import PyModeS.Tie.Bds50
import PyModeS.Tie.Bds53
import PyModeS.Tie.Bds60
import PyModeS.Tie.Is60
import PyModeS.Tie.Infer
import PyModeS.Tie.Bds61
import PyModeS.Tie.Bds62
import PyModeS.Tie.Adsb
import PyModeS.Tie.Uplink
import PyModeS.Tie.Crc
import PyModeS.Tie.RtlBuffer
import PyModeS.Tie.Rtl
import PyModeS.Tie.CprGlobal
import PyModeS.Tie.BeastReader
import PyModeS.Tie.SkyReader
import PyModeS.Tie.RawReader
import PyModeS.Tie.Source
import PyModeS.Tie.C01Gen
import PyModeS.Tie.C0278Gen
import PyModeS.Tie.C11Gen
import PyModeS.Tie.C12Gen
import PyModeS.Tie.C13Gen
import PyModeS.Tie.C18Gen
import PyModeS.Tie.C16Gen
import PyModeS.Tie.C19Gen
import PyModeS.Tie.C03Gen
import PyModeS.Tie.C09Gen
import PyModeS.Tie.C10Gen
import PyModeS.Tie.C07Gen
import PyModeS.Tie.C08Gen
import PyModeS.Tie.C12GenB
import PyModeS.Tie.C13GenB
import PyModeS.Tie.C14Gen
import PyModeS.Tie.CBasic
import PyModeS.Tie.CCrc
import PyModeS.Tie.CAlt
import PyModeS.Tie.DecodeDirect
import PyModeS.Tie.Bds09
import PyModeS.Tie.TellGen
import PyModeS.Tie.NLGuard
import PyModeS.Tie.MiscFields
import PyModeS.Tie.AeroGen
import PyModeS.Tie.DecodeTotal
import PyModeS.Tie.DecodeTotal2
import PyModeS.Tie.DecodeTotal3
