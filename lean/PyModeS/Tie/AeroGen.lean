/-
  Tie: the source-generated aeronautics module `Gen.aero.*` (Generated/Src/aero.lean, produced mechanically from
  src/pyModeS/extra/aero.py) = the hand-written POLYMORPHIC model `PyModeS.Aero.*` (Model/Aero.lean) instantiated
  at `Rat`, with the `AeroOps Rat` operations being exactly what the double-precision externals of Py/Ext.lean
  compute (`sqrt x := floatToRat (Float.sqrt (ratToFloat x))`, …).  The same polymorphic definitions, instantiated
  at `ℝ`, carry the C20 theorems (Proofs/Aero/*.lean); so these ties say that the generated text is the SAME
  formula, operation for operation, as the definition the theorems are about.

  WHAT IS ASSUMED.  `Float` is opaque to Lean, so nothing can be proved about the value of a libm call.  The
  externals return `.exc` when the double result is NaN or ±inf, and `pyDiv` returns `.exc` on a zero divisor
  (the Rat model has `x / 0 = 0`).  For every function `f` we prove the exact characterisation

      Returns (Gen.aero.f (.num x) (.num H)) (Cond x H) (.num (Aero.f (α := Rat) x H))

  i.e. `Cond → Gen.aero.f … = .val (model value)` AND `¬ Cond → Gen.aero.f … = .exc`, where `Cond` is the
  conjunction of
    * `Fin1 g a` / `Fin2 g a b` : "the double `g (ratToFloat a)` is neither NaN nor infinite", one per call site
      of an external, with `a` the exact rational argument that occurs there (written with the model's own
      expressions), and
    * `d ≠ 0` for the divisors that are not constants (`density H`, `vsound H`).
  So the hypotheses of the `aero_<f>_tie` corollaries are not only sufficient but necessary for the generated
  function to return at all.  Everything else — which operations, in which order, all constants, the `max`
  and clamp branches, the tuple plumbing between `atmos` and its callers — is proved.

  DIFFERENCES between the generated text and the hand model (all reported, none hidden):
   1. `np.radians(x)` / `math.degrees(x)`: the externals compute ONE double multiplication
      `x * (pi / 180.0)` resp. `x * (180.0 / pi)` with everything (also `pi / 180.0`) rounded in double; the model's
      `radians x := x * (AeroOps.pi / 180.0)` at `Rat` is an exact rational product with the rational value of the
      double `pi`.  These are different rationals in general (same real-number formula).  Therefore `distance` and
      `bearing` are tied to `distanceWith` / `bearingWith`, the model's text with the angle conversions as
      parameters (`Aero.distance = distanceWith Aero.radians`, `Aero.bearing = bearingWith Aero.radians Aero.degrees`
      hold by `rfl` for EVERY numeric type, see `distance_eq_distanceWith`, `bearing_eq_bearingWith`), instantiated at
      the externals' conversions `extRadians`, `extDegrees`.
   2. constants: the generator writes every Python float literal as the exact decimal fraction
      (`288.15 ↦ 5763/20`, `R ↦ 28705287/100000` as a module constant `Gen.aero.R'`, `gamma ↦ 7/5`, `3.5 ↦ 7/2`);
      the model writes scientific literals (`OfScientific Rat`, also exact decimals).  Equal as rationals (lemmas
      `lit_*`, `*_rat`, by `norm_num`).  `2 / 7.0` is a generated DIVISION `pyDiv 2 7` = the model's `2.0 / 7.0`.
   3. `np.maximum(a, b)` is `if a < b then b else a`, the model's `max` at `Rat` is `if a ≤ b then b else a`:
      equal (`np_maximum_num`).  `np.where(c > 1, 1, c)` / `np.where(c < -1, -1, c)` are the model's two `if`s
      (`np_where_lt`).
   4. `(x + 360) % 360` is `pyMod` on rationals, `x - 360 * ⌊x / 360⌋`; `AeroOps.mod360` at `Rat` is defined as
      exactly that (it is the same expression as the `ℝ` instance's).
   5. `np.arctan2` is the one external without a NaN/inf check (no `Fin2 Float.atan2` hypothesis occurs).
   6. `temperature H` needs `AtmosFin H` although its value `max (288.15 - 0.0065 H) 216.65` involves no float:
      the Python evaluates the whole of `atmos` (and the generated code stops if `pow`/`exp` overflow).
   7. Not a difference of text but of arithmetic: between two externals the generated code computes
      in exact rationals (`pyMul`, `pyDiv`, …) where CPython rounds after every operation; this is the
      generator's number model, the same on both sides of these ties.
-/
import PyModeS.Tie.Basic
import PyModeS.Tie.Common
import PyModeS.Generated.Src.aero
import PyModeS.Model.Aero

set_option linter.unusedSectionVars false
namespace PyModeS.Tie
open PyModeS PyModeS.Py PyModeS.Aero

/-! ### the `Rat` instance of the model: the operations are the externals -/

/-- a double-precision function of one argument, on exact rationals (what `Ext.float1` returns) -/
def ext1 (f : Float → Float) (x : Rat) : Rat := floatToRat (f (ratToFloat x))
/-- a double-precision function of two arguments, on exact rationals (what `Ext.float_pow` returns) -/
def ext2 (f : Float → Float → Float) (x y : Rat) : Rat := floatToRat (f (ratToFloat x) (ratToFloat y))

/-- the polymorphic aero model on `Rat`: exact rational arithmetic, the
    transcendental functions evaluated in double precision exactly as the externals of Py/Ext.lean do -/
instance instAeroOpsRat : AeroOps Rat where
  sqrt := ext1 Float.sqrt
  exp := ext1 Float.exp
  pow := ext2 Float.pow
  sin := ext1 Float.sin
  cos := ext1 Float.cos
  acos := ext1 Float.acos
  atan2 := ext2 Float.atan2
  pi := floatToRat (Float.acos (-1.0))
  mod360 := fun x => x - 360 * ((x / 360).floor : Int)

/-- `Ext.np_pi` is the `pi` of the instance -/
theorem np_pi_eq : Gen.Ext.np_pi = .num (AeroOps.pi : Rat) := rfl

/-- the double `f x` is finite (neither NaN nor ±inf) -/
def Fin1 (f : Float → Float) (x : Rat) : Prop :=
  (f (ratToFloat x)).isNaN = false ∧ (f (ratToFloat x)).isInf = false
/-- the double `f x y` is finite (neither NaN nor ±inf) -/
def Fin2 (f : Float → Float → Float) (x y : Rat) : Prop :=
  (f (ratToFloat x) (ratToFloat y)).isNaN = false ∧ (f (ratToFloat x) (ratToFloat y)).isInf = false

instance (f : Float → Float) (x : Rat) : Decidable (Fin1 f x) := by unfold Fin1; infer_instance
instance (f : Float → Float → Float) (x y : Rat) : Decidable (Fin2 f x y) := by unfold Fin2; infer_instance

/-! ### `Returns`: value under a condition, exception otherwise -/

/-- the generated computation `r` returns `v` when `C` holds and raises an exception (`.exc`) when it does not -/
def Returns (r : Res Val) (C : Prop) (v : Val) : Prop := (C → r = .val v) ∧ (¬ C → r = .exc)

theorem Returns.ite_val {c : Prop} [Decidable c] (v : Val) : Returns (if c then .val v else .exc) c v :=
  ⟨fun h => if_pos h, fun h => if_neg h⟩

theorem Returns.ite {c : Prop} [Decidable c] {r : Res Val} {C : Prop} {v : Val} (h : Returns r C v) :
    Returns (if c then r else .exc) (c ∧ C) v := by
  constructor
  · intro hc
    rw [if_pos hc.1]
    exact h.1 hc.2
  · intro hn
    by_cases hc : c
    · rw [if_pos hc]
      exact h.2 (fun hC => hn ⟨hc, hC⟩)
    · rw [if_neg hc]

theorem Returns.iff {r : Res Val} {C D : Prop} {v : Val} (h : Returns r C v) (e : C ↔ D) : Returns r D v :=
  ⟨fun d => h.1 (e.2 d), fun nd => h.2 (fun c => nd (e.1 c))⟩

theorem Returns.of_exc {r : Res Val} {C : Prop} {v : Val} (e : r = .exc) (h : C → False) : Returns r C v :=
  ⟨fun c => absurd c h, fun _ => e⟩

theorem Returns.and_left {r : Res Val} {A C : Prop} {v : Val} (a : A) (h : Returns r C v) : Returns r (A ∧ C) v :=
  h.iff ⟨fun c => ⟨a, c⟩, fun c => c.2⟩

/-- `(if c then .val a else .exc) >>= k` -/
theorem ite_bind {c : Prop} [Decidable c] (a : Val) (k : Val → Res Val) :
    ((if c then Res.val a else Res.exc) >>= k) = if c then k a else .exc :=
  Res.ite_bind c _ _ k

/-! ### the externals on numbers -/

/-- the externals' NaN / inf check, as the condition `Fin1` / `Fin2` -/
theorem finite_check (r : Float) (v : Val) :
    (if (r.isNaN || r.isInf) = true then Res.exc else Res.val v) =
      if r.isNaN = false ∧ r.isInf = false then .val v else .exc := by
  cases r.isNaN <;> cases r.isInf <;> rfl

theorem float1_eq (f : Float → Float) (x : Rat) :
    Gen.Ext.float1 f (.num x) = if Fin1 f x then .val (.num (ext1 f x)) else .exc :=
  finite_check _ _

theorem float_pow_eq (x y : Rat) :
    Gen.Ext.float_pow (.num x) (.num y) =
      if Fin2 Float.pow x y then .val (.num (AeroOps.pow x y)) else .exc :=
  finite_check _ _

theorem np_exp_eq (x : Rat) :
    Gen.Ext.np_exp (.num x) = if Fin1 Float.exp x then .val (.num (AeroOps.exp x)) else .exc := float1_eq _ _
theorem np_sqrt_eq (x : Rat) :
    Gen.Ext.np_sqrt (.num x) = if Fin1 Float.sqrt x then .val (.num (AeroOps.sqrt x)) else .exc := float1_eq _ _
theorem np_sin_eq (x : Rat) :
    Gen.Ext.np_sin (.num x) = if Fin1 Float.sin x then .val (.num (AeroOps.sin x)) else .exc := float1_eq _ _
theorem np_cos_eq (x : Rat) :
    Gen.Ext.np_cos (.num x) = if Fin1 Float.cos x then .val (.num (AeroOps.cos x)) else .exc := float1_eq _ _
theorem np_arccos_eq (x : Rat) :
    Gen.Ext.np_arccos (.num x) = if Fin1 Float.acos x then .val (.num (AeroOps.acos x)) else .exc := float1_eq _ _
/-- `np.arctan2` has no NaN / inf check in Py/Ext.lean -/
theorem np_arctan2_num (y x : Rat) : Gen.Ext.np_arctan2 (.num y) (.num x) = .val (.num (AeroOps.atan2 y x)) := rfl

/-- `np.maximum` (`if x < y then y else x`) is the model's `max` at `Rat` (`if x ≤ y then y else x`) -/
theorem np_maximum_num (x y : Rat) : Gen.Ext.np_maximum (.num x) (.num y) = .val (.num (max x y)) := by
  unfold Gen.Ext.np_maximum
  simp only [num?_num]
  rw [max_def]
  by_cases h : x < y
  · simp [h, le_of_lt h]
  · by_cases h2 : x = y
    · simp [h2]
    · have : ¬ x ≤ y := fun hle => h (lt_of_le_of_ne hle h2)
      simp [h, this]

/-- `np.where(a < b, x, y)` on scalars is the model's `if a < b then x else y` -/
theorem np_where_lt (a b x y : Rat) :
    Gen.Ext.np_where (.bool (decide (a < b))) (.num x) (.num y) = .val (.num (if a < b then x else y)) := by
  by_cases h : a < b <;> simp [Gen.Ext.np_where, Val.truth, h]

theorem pyDiv_eq (a b : Rat) : pyDiv (.num a) (.num b) = if b ≠ 0 then .val (.num (a / b)) else .exc := by
  by_cases h : b = 0
  · subst h
    simp [pyDiv]
  · rw [if_pos h, pyDiv_num _ _ h]

/-- `x % 360` on rationals is the instance's `mod360` -/
theorem pyMod_360 (a : Rat) : pyMod (.num a) (.num 360) = .val (.num (AeroOps.mod360 a)) := by
  unfold pyMod
  simp only [num?_num]
  rw [if_neg (by norm_num)]
  rfl

/-! ### constants: the generator's exact fractions are the model's scientific literals -/

theorem lit_T0 : (288.15 : Rat) = 5763 / 20 := by norm_num
theorem lit_lapse : (0.0065 : Rat) = 13 / 2000 := by norm_num
theorem lit_Ttrop : (216.65 : Rat) = 4333 / 20 := by norm_num
theorem lit_rho0 : (1.225 : Rat) = 49 / 40 := by norm_num
theorem lit_expo : (4.256848030018761 : Rat) = 4256848030018761 / 1000000000000000 := by norm_num
theorem lit_zero : (0.0 : Rat) = 0 := by norm_num
theorem lit_11000 : (11000.0 : Rat) = 11000 := by norm_num
theorem lit_scale : (6341.552161 : Rat) = 6341552161 / 1000000 := by norm_num
theorem lit_R : (287.05287 : Rat) = 28705287 / 100000 := by norm_num
theorem lit_one : (1.0 : Rat) = 1 := by norm_num
theorem lit_two : (2.0 : Rat) = 2 := by norm_num
theorem lit_seven : (7.0 : Rat) = 7 := by norm_num
theorem lit_35 : (3.5 : Rat) = 7 / 2 := by norm_num
theorem lit_90 : (90.0 : Rat) = 90 := by norm_num
theorem lit_360 : (360.0 : Rat) = 360 := by norm_num
theorem gamma_rat : (Aero.gamma : Rat) = 7 / 5 := by unfold Aero.gamma; norm_num
theorem R_rat : (Aero.R : Rat) = 28705287 / 100000 := by unfold Aero.R; norm_num
theorem p0_rat : (Aero.p0 : Rat) = 101325 := by unfold Aero.p0; norm_num
theorem rho0_rat : (Aero.rho0 : Rat) = 49 / 40 := by unfold Aero.rho0; norm_num
theorem rEarth_rat : (Aero.rEarth : Rat) = 6371000 := by unfold Aero.rEarth; norm_num

/-- the module constants of the generated file are the model's constants at `Rat` -/
theorem gen_constants :
    Gen.aero.R' = .num (Aero.R : Rat) ∧ Gen.aero.p0 = .num (Aero.p0 : Rat) ∧ Gen.aero.rho0 = .num (Aero.rho0 : Rat) ∧
    Gen.aero.gamma = .num (Aero.gamma : Rat) ∧ Gen.aero.r_earth = .num (Aero.rEarth : Rat) ∧
    Gen.aero.kts = .num (Aero.kts : Rat) ∧ Gen.aero.ft = .num (Aero.ft : Rat) := by
  rw [R_rat, p0_rat, rho0_rat, gamma_rat, rEarth_rat]
  refine ⟨rfl, rfl, rfl, rfl, rfl, ?_, ?_⟩
  · unfold Gen.aero.kts Aero.kts; norm_num
  · unfold Gen.aero.ft Aero.ft; norm_num

/-! ### atmos -/

/-- the model's `atmos` at `Rat`, unfolded (by `rfl`) -/
theorem atmos_rat (H : Rat) : Aero.atmos (α := Rat) H =
    (let T : Rat := max (288.15 - 0.0065 * H) 216.65
     let rho : Rat := 1.225 * AeroOps.pow (T / 288.15) 4.256848030018761 *
        AeroOps.exp (-(max 0.0 (H - 11000.0)) / 6341.552161)
     (rho * 287.05287 * T, rho, T)) := rfl

theorem temperature_rat (H : Rat) : Aero.temperature (α := Rat) H = max (288.15 - 0.0065 * H) 216.65 := rfl
theorem pressure_rat (H : Rat) :
    Aero.pressure (α := Rat) H = Aero.density H * Aero.R * Aero.temperature H := rfl

/-- the two float calls of `atmos H` return finite doubles:
    `pow (T / 288.15, 4.256848030018761)` and `exp (-max (0, H - 11000) / 6341.552161)` -/
def AtmosFin (H : Rat) : Prop :=
  Fin2 Float.pow (Aero.temperature H / 288.15) 4.256848030018761 ∧
  Fin1 Float.exp (-(max 0.0 (H - 11000.0)) / 6341.552161)

theorem aero_atmos_spec (H : Rat) :
    Returns (Gen.aero.atmos (.num H)) (AtmosFin H)
      (.tuple [.num (Aero.pressure (α := Rat) H), .num (Aero.density (α := Rat) H),
        .num (Aero.temperature (α := Rat) H)]) := by
  show Returns _ _ (.tuple [.num (Aero.atmos (α := Rat) H).1, .num (Aero.atmos (α := Rat) H).2.1,
        .num (Aero.atmos (α := Rat) H).2.2])
  unfold AtmosFin
  rw [atmos_rat, temperature_rat]
  simp only [lit_T0, lit_lapse, lit_Ttrop, lit_rho0, lit_expo, lit_zero, lit_11000, lit_scale, lit_R]
  unfold Gen.aero.atmos
  rw [pyMul_num, Res.bind_val, pySub_num, Res.bind_val, np_maximum_num, Res.bind_val]
  rw [pyDiv_num _ _ (by norm_num), Res.bind_val, float_pow_eq, ite_bind, pyMul_num, Res.bind_val,
    pySub_num, Res.bind_val, np_maximum_num, Res.bind_val, pyNeg_num, Res.bind_val,
    pyDiv_num _ _ (by norm_num), Res.bind_val, np_exp_eq, ite_bind,
    pyMul_num, Res.bind_val, Gen.aero.R', pyMul_num, Res.bind_val, pyMul_num, Res.bind_val]
  exact Returns.ite (Returns.ite_val _)

/-- `atmos` tie, components named by the model's accessor functions -/
theorem aero_atmos_tie' (H : Rat) (hf : AtmosFin H) :
    Gen.aero.atmos (.num H) =
      .val (.tuple [.num (Aero.pressure (α := Rat) H), .num (Aero.density (α := Rat) H),
        .num (Aero.temperature (α := Rat) H)]) := (aero_atmos_spec H).1 hf

/-- `atmos` tie: the generated function returns the model's triple -/
theorem aero_atmos_tie (H : Rat) (hf : AtmosFin H) :
    Gen.aero.atmos (.num H) =
      .val (.tuple [.num (Aero.atmos (α := Rat) H).1, .num (Aero.atmos (α := Rat) H).2.1,
        .num (Aero.atmos (α := Rat) H).2.2]) := aero_atmos_tie' H hf

/-- when a float call of `atmos` overflows, the generated function raises -/
theorem aero_atmos_exc (H : Rat) (hf : ¬ AtmosFin H) : Gen.aero.atmos (.num H) = .exc := (aero_atmos_spec H).2 hf

/-- tuple plumbing `p, rho, T = atmos(H)` -/
theorem unpack3 (a b c : Val) (k : Val → Val → Val → Res Val) :
    (do let t ← Res.val (Val.tuple [a, b, c])
        pyUnpackCheck t 3
        let p ← pyIdxN t 0
        let r ← pyIdxN t 1
        let T ← pyIdxN t 2
        k p r T) = k a b c := rfl

/-- a generated function that calls `atmos(H)` first returns under `AtmosFin H` what its continuation
    makes of the model's triple, and raises otherwise -/
theorem Returns.of_atmos {H : Rat} {k : Val → Res Val} {v : Val}
    (hk : k (.tuple [.num (Aero.pressure (α := Rat) H), .num (Aero.density (α := Rat) H),
      .num (Aero.temperature (α := Rat) H)]) = .val v) :
    Returns (Gen.aero.atmos (.num H) >>= k) (AtmosFin H) v := by
  by_cases ha : AtmosFin H
  · rw [aero_atmos_tie' H ha]
    exact ⟨fun _ => hk, fun h => absurd ha h⟩
  · rw [aero_atmos_exc H ha]
    exact Returns.of_exc rfl ha

theorem aero_temperature_spec (H : Rat) :
    Returns (Gen.aero.temperature (.num H)) (AtmosFin H) (.num (Aero.temperature (α := Rat) H)) :=
  Returns.of_atmos rfl

theorem aero_pressure_spec (H : Rat) :
    Returns (Gen.aero.pressure (.num H)) (AtmosFin H) (.num (Aero.pressure (α := Rat) H)) :=
  Returns.of_atmos rfl

theorem aero_density_spec (H : Rat) :
    Returns (Gen.aero.density (.num H)) (AtmosFin H) (.num (Aero.density (α := Rat) H)) :=
  Returns.of_atmos rfl

theorem aero_temperature_tie (H : Rat) (hf : AtmosFin H) :
    Gen.aero.temperature (.num H) = .val (.num (Aero.temperature (α := Rat) H)) := (aero_temperature_spec H).1 hf
theorem aero_pressure_tie (H : Rat) (hf : AtmosFin H) :
    Gen.aero.pressure (.num H) = .val (.num (Aero.pressure (α := Rat) H)) := (aero_pressure_spec H).1 hf
theorem aero_density_tie (H : Rat) (hf : AtmosFin H) :
    Gen.aero.density (.num H) = .val (.num (Aero.density (α := Rat) H)) := (aero_density_spec H).1 hf

/-! ### vsound, tas2mach, mach2tas, eas2tas, tas2eas -/

/-- the float calls of `vsound H` return finite doubles: those of `atmos H` and `sqrt (gamma * R * T)` -/
def VsoundFin (H : Rat) : Prop :=
  AtmosFin H ∧ Fin1 Float.sqrt (Aero.gamma * Aero.R * Aero.temperature H)

theorem aero_vsound_spec (H : Rat) :
    Returns (Gen.aero.vsound (.num H)) (VsoundFin H) (.num (Aero.vsound (α := Rat) H)) := by
  unfold Gen.aero.vsound VsoundFin
  by_cases ha : AtmosFin H
  · rw [aero_temperature_tie H ha, Res.bind_val]
    unfold Aero.vsound
    simp only [gamma_rat, R_rat]
    rw [Gen.aero.gamma, Gen.aero.R', pyMul_num, Res.bind_val, pyMul_num, Res.bind_val, np_sqrt_eq]
    exact Returns.and_left ha (Returns.ite_val _)
  · rw [(aero_temperature_spec H).2 ha]
    exact Returns.of_exc rfl (fun h => ha h.1)

theorem aero_vsound_tie (H : Rat) (hf : VsoundFin H) :
    Gen.aero.vsound (.num H) = .val (.num (Aero.vsound (α := Rat) H)) := (aero_vsound_spec H).1 hf

theorem aero_tas2mach_spec (v H : Rat) :
    Returns (Gen.aero.tas2mach (.num v) (.num H)) (VsoundFin H ∧ Aero.vsound (α := Rat) H ≠ 0)
      (.num (Aero.tas2mach (α := Rat) v H)) := by
  unfold Gen.aero.tas2mach
  by_cases hv : VsoundFin H
  · rw [aero_vsound_tie H hv, Res.bind_val, pyDiv_eq]
    exact Returns.and_left hv (Returns.ite_val _)
  · rw [(aero_vsound_spec H).2 hv]
    exact Returns.of_exc rfl (fun h => hv h.1)

theorem aero_tas2mach_tie (v H : Rat) (hf : VsoundFin H) (hz : Aero.vsound (α := Rat) H ≠ 0) :
    Gen.aero.tas2mach (.num v) (.num H) = .val (.num (Aero.tas2mach (α := Rat) v H)) :=
  (aero_tas2mach_spec v H).1 ⟨hf, hz⟩

theorem aero_mach2tas_spec (m H : Rat) :
    Returns (Gen.aero.mach2tas (.num m) (.num H)) (VsoundFin H) (.num (Aero.mach2tas (α := Rat) m H)) := by
  unfold Gen.aero.mach2tas
  by_cases hv : VsoundFin H
  · rw [aero_vsound_tie H hv, Res.bind_val, pyMul_num]
    exact ⟨fun _ => rfl, fun h => absurd hv h⟩
  · rw [(aero_vsound_spec H).2 hv]
    exact Returns.of_exc rfl hv

theorem aero_mach2tas_tie (m H : Rat) (hf : VsoundFin H) :
    Gen.aero.mach2tas (.num m) (.num H) = .val (.num (Aero.mach2tas (α := Rat) m H)) :=
  (aero_mach2tas_spec m H).1 hf

theorem aero_eas2tas_spec (v H : Rat) :
    Returns (Gen.aero.eas2tas (.num v) (.num H))
      (AtmosFin H ∧ Aero.density (α := Rat) H ≠ 0 ∧ Fin1 Float.sqrt (Aero.rho0 / Aero.density H))
      (.num (Aero.eas2tas (α := Rat) v H)) := by
  unfold Gen.aero.eas2tas
  by_cases ha : AtmosFin H
  · rw [aero_density_tie H ha, Res.bind_val]
    unfold Aero.eas2tas
    simp only [rho0_rat]
    rw [Gen.aero.rho0, pyDiv_eq, ite_bind, np_sqrt_eq, ite_bind, pyMul_num]
    exact Returns.and_left ha (Returns.ite (Returns.ite_val _))
  · rw [(aero_density_spec H).2 ha]
    exact Returns.of_exc rfl (fun h => ha h.1)

theorem aero_eas2tas_tie (v H : Rat) (ha : AtmosFin H) (hz : Aero.density (α := Rat) H ≠ 0)
    (hs : Fin1 Float.sqrt (Aero.rho0 / Aero.density H)) :
    Gen.aero.eas2tas (.num v) (.num H) = .val (.num (Aero.eas2tas (α := Rat) v H)) :=
  (aero_eas2tas_spec v H).1 ⟨ha, hz, hs⟩

theorem aero_tas2eas_spec (v H : Rat) :
    Returns (Gen.aero.tas2eas (.num v) (.num H))
      (AtmosFin H ∧ Fin1 Float.sqrt (Aero.density H / Aero.rho0))
      (.num (Aero.tas2eas (α := Rat) v H)) := by
  unfold Gen.aero.tas2eas
  by_cases ha : AtmosFin H
  · rw [aero_density_tie H ha, Res.bind_val]
    unfold Aero.tas2eas
    simp only [rho0_rat]
    rw [Gen.aero.rho0, pyDiv_num _ _ (by norm_num), Res.bind_val, np_sqrt_eq, ite_bind, pyMul_num]
    exact Returns.and_left ha (Returns.ite_val _)
  · rw [(aero_density_spec H).2 ha]
    exact Returns.of_exc rfl (fun h => ha h.1)

theorem aero_tas2eas_tie (v H : Rat) (ha : AtmosFin H)
    (hs : Fin1 Float.sqrt (Aero.density H / Aero.rho0)) :
    Gen.aero.tas2eas (.num v) (.num H) = .val (.num (Aero.tas2eas (α := Rat) v H)) :=
  (aero_tas2eas_spec v H).1 ⟨ha, hs⟩

/-! ### cas2tas, tas2cas, mach2cas, cas2mach -/

theorem temperature_pos (H : Rat) : 0 < Aero.temperature (α := Rat) H := by
  rw [temperature_rat]
  exact lt_of_lt_of_le (by norm_num) (le_max_right _ _)

/-- `p = rho * R * T` with `T ≥ 216.65`: the pressure divisor is non-zero when the density divisor is -/
theorem pressure_ne_zero (H : Rat) (hz : Aero.density (α := Rat) H ≠ 0) : Aero.pressure (α := Rat) H ≠ 0 := by
  rw [pressure_rat, R_rat]
  have := temperature_pos H
  exact mul_ne_zero (mul_ne_zero hz (by norm_num)) (ne_of_gt this)

/-- the model's `cas2tas` at `Rat`, the `let (p, rho, _) := atmos H` pattern opened (by `rfl`) -/
theorem cas2tas_rat (v H : Rat) : Aero.cas2tas (α := Rat) v H =
    (let p : Rat := Aero.pressure H
     let rho : Rat := Aero.density H
     let qdyn : Rat := Aero.p0 * (AeroOps.pow (1.0 + Aero.rho0 * v * v / (7.0 * Aero.p0)) 3.5 - 1.0)
     AeroOps.sqrt (7.0 * p / rho * (AeroOps.pow (1.0 + qdyn / p) (2.0 / 7.0) - 1.0))) := rfl

theorem tas2cas_rat (v H : Rat) : Aero.tas2cas (α := Rat) v H =
    (let p : Rat := Aero.pressure H
     let rho : Rat := Aero.density H
     let qdyn : Rat := p * (AeroOps.pow (1.0 + rho * v * v / (7.0 * p)) 3.5 - 1.0)
     AeroOps.sqrt (7.0 * Aero.p0 / Aero.rho0 * (AeroOps.pow (qdyn / Aero.p0 + 1.0) (2.0 / 7.0) - 1.0))) := rfl

/-- the three float calls of `cas2tas v H` after `atmos H` return finite doubles -/
def Cas2tasFin (v H : Rat) : Prop :=
  let p : Rat := Aero.pressure H
  let rho : Rat := Aero.density H
  let qdyn : Rat := Aero.p0 * (AeroOps.pow (1.0 + Aero.rho0 * v * v / (7.0 * Aero.p0)) 3.5 - 1.0)
  Fin2 Float.pow (1.0 + Aero.rho0 * v * v / (7.0 * Aero.p0)) 3.5 ∧
  Fin2 Float.pow (1.0 + qdyn / p) (2.0 / 7.0) ∧
  Fin1 Float.sqrt (7.0 * p / rho * (AeroOps.pow (1.0 + qdyn / p) (2.0 / 7.0) - 1.0))

/-- the three float calls of `tas2cas v H` after `atmos H` return finite doubles -/
def Tas2casFin (v H : Rat) : Prop :=
  let p : Rat := Aero.pressure H
  let rho : Rat := Aero.density H
  let qdyn : Rat := p * (AeroOps.pow (1.0 + rho * v * v / (7.0 * p)) 3.5 - 1.0)
  Fin2 Float.pow (1.0 + rho * v * v / (7.0 * p)) 3.5 ∧
  Fin2 Float.pow (qdyn / Aero.p0 + 1.0) (2.0 / 7.0) ∧
  Fin1 Float.sqrt (7.0 * Aero.p0 / Aero.rho0 * (AeroOps.pow (qdyn / Aero.p0 + 1.0) (2.0 / 7.0) - 1.0))

theorem aero_cas2tas_spec (v H : Rat) :
    Returns (Gen.aero.cas2tas (.num v) (.num H))
      (AtmosFin H ∧ Aero.density (α := Rat) H ≠ 0 ∧ Cas2tasFin v H)
      (.num (Aero.cas2tas (α := Rat) v H)) := by
  unfold Gen.aero.cas2tas
  by_cases ha : AtmosFin H
  swap
  · rw [aero_atmos_exc H ha]
    exact Returns.of_exc rfl (fun h => ha h.1)
  rw [aero_atmos_tie' H ha, unpack3, cas2tas_rat]
  unfold Cas2tasFin
  simp only [lit_one, lit_two, lit_seven, lit_35, p0_rat, rho0_rat]
  rw [Gen.aero.rho0, Gen.aero.p0, pyMul_num, Res.bind_val, pyMul_num, Res.bind_val, pyMul_num, Res.bind_val,
    pyDiv_num _ _ (by norm_num), Res.bind_val, pyAdd_num, Res.bind_val, float_pow_eq, ite_bind,
    pySub_num, Res.bind_val, pyMul_num, Res.bind_val]
  rw [pyMul_num, Res.bind_val, pyDiv_eq, ite_bind, pyDiv_eq, ite_bind, pyAdd_num,
    Res.bind_val, pyDiv_num _ _ (by norm_num), Res.bind_val, float_pow_eq, ite_bind, pySub_num,
    Res.bind_val, pyMul_num, Res.bind_val, np_sqrt_eq]
  refine (Returns.ite (Returns.ite (Returns.ite (Returns.ite (Returns.ite_val _))))).iff ?_
  constructor
  · rintro ⟨h1, hz, _, h2, h3⟩
    exact ⟨ha, hz, h1, h2, h3⟩
  · rintro ⟨_, hz, h1, h2, h3⟩
    exact ⟨h1, hz, pressure_ne_zero H hz, h2, h3⟩

theorem aero_cas2tas_tie (v H : Rat) (ha : AtmosFin H) (hz : Aero.density (α := Rat) H ≠ 0)
    (hf : Cas2tasFin v H) :
    Gen.aero.cas2tas (.num v) (.num H) = .val (.num (Aero.cas2tas (α := Rat) v H)) :=
  (aero_cas2tas_spec v H).1 ⟨ha, hz, hf⟩

theorem pressure_ne_zero_iff (H : Rat) : (7 : Rat) * Aero.pressure (α := Rat) H ≠ 0 ↔ Aero.density (α := Rat) H ≠ 0 := by
  constructor
  · intro h hd
    apply h
    rw [pressure_rat, hd]
    simp
  · intro hz
    exact mul_ne_zero (by norm_num) (pressure_ne_zero H hz)

theorem aero_tas2cas_spec (v H : Rat) :
    Returns (Gen.aero.tas2cas (.num v) (.num H))
      (AtmosFin H ∧ Aero.density (α := Rat) H ≠ 0 ∧ Tas2casFin v H)
      (.num (Aero.tas2cas (α := Rat) v H)) := by
  unfold Gen.aero.tas2cas
  by_cases ha : AtmosFin H
  swap
  · rw [aero_atmos_exc H ha]
    exact Returns.of_exc rfl (fun h => ha h.1)
  rw [aero_atmos_tie' H ha, unpack3, tas2cas_rat]
  unfold Tas2casFin
  simp only [lit_one, lit_two, lit_seven, lit_35, p0_rat, rho0_rat]
  rw [pyMul_num, Res.bind_val, pyMul_num, Res.bind_val, pyMul_num, Res.bind_val,
    pyDiv_eq, ite_bind, pyAdd_num, Res.bind_val, float_pow_eq, ite_bind,
    pySub_num, Res.bind_val, pyMul_num, Res.bind_val]
  rw [Gen.aero.rho0, Gen.aero.p0, pyMul_num, Res.bind_val, pyDiv_num _ _ (by norm_num), Res.bind_val,
    pyDiv_num _ _ (by norm_num), Res.bind_val, pyAdd_num,
    Res.bind_val, pyDiv_num _ _ (by norm_num), Res.bind_val, float_pow_eq, ite_bind, pySub_num,
    Res.bind_val, pyMul_num, Res.bind_val, np_sqrt_eq]
  refine (Returns.ite (Returns.ite (Returns.ite (Returns.ite_val _)))).iff ?_
  constructor
  · rintro ⟨hz, h1, h2, h3⟩
    exact ⟨ha, (pressure_ne_zero_iff H).1 hz, h1, h2, h3⟩
  · rintro ⟨_, hz, h1, h2, h3⟩
    exact ⟨(pressure_ne_zero_iff H).2 hz, h1, h2, h3⟩

theorem aero_tas2cas_tie (v H : Rat) (ha : AtmosFin H) (hz : Aero.density (α := Rat) H ≠ 0)
    (hf : Tas2casFin v H) :
    Gen.aero.tas2cas (.num v) (.num H) = .val (.num (Aero.tas2cas (α := Rat) v H)) :=
  (aero_tas2cas_spec v H).1 ⟨ha, hz, hf⟩

theorem aero_mach2cas_spec (m H : Rat) :
    Returns (Gen.aero.mach2cas (.num m) (.num H))
      (VsoundFin H ∧ Aero.density (α := Rat) H ≠ 0 ∧ Tas2casFin (Aero.mach2tas m H) H)
      (.num (Aero.mach2cas (α := Rat) m H)) := by
  unfold Gen.aero.mach2cas
  by_cases hv : VsoundFin H
  · rw [aero_mach2tas_tie m H hv, Res.bind_val]
    refine Returns.iff (aero_tas2cas_spec (Aero.mach2tas m H) H) ?_
    constructor
    · rintro ⟨_, hz, hf⟩
      exact ⟨hv, hz, hf⟩
    · rintro ⟨_, hz, hf⟩
      exact ⟨hv.1, hz, hf⟩
  · rw [(aero_mach2tas_spec m H).2 hv]
    exact Returns.of_exc rfl (fun h => hv h.1)

theorem aero_mach2cas_tie (m H : Rat) (hv : VsoundFin H) (hz : Aero.density (α := Rat) H ≠ 0)
    (hf : Tas2casFin (Aero.mach2tas m H) H) :
    Gen.aero.mach2cas (.num m) (.num H) = .val (.num (Aero.mach2cas (α := Rat) m H)) :=
  (aero_mach2cas_spec m H).1 ⟨hv, hz, hf⟩

theorem aero_cas2mach_spec (v H : Rat) :
    Returns (Gen.aero.cas2mach (.num v) (.num H))
      ((AtmosFin H ∧ Aero.density (α := Rat) H ≠ 0 ∧ Cas2tasFin v H) ∧
        VsoundFin H ∧ Aero.vsound (α := Rat) H ≠ 0)
      (.num (Aero.cas2mach (α := Rat) v H)) := by
  unfold Gen.aero.cas2mach
  by_cases hc : AtmosFin H ∧ Aero.density (α := Rat) H ≠ 0 ∧ Cas2tasFin v H
  · rw [(aero_cas2tas_spec v H).1 hc, Res.bind_val]
    exact Returns.and_left hc (aero_tas2mach_spec (Aero.cas2tas v H) H)
  · rw [(aero_cas2tas_spec v H).2 hc]
    exact Returns.of_exc rfl (fun h => hc h.1)

theorem aero_cas2mach_tie (v H : Rat) (hv : VsoundFin H) (hz : Aero.density (α := Rat) H ≠ 0)
    (hf : Cas2tasFin v H) (hs : Aero.vsound (α := Rat) H ≠ 0) :
    Gen.aero.cas2mach (.num v) (.num H) = .val (.num (Aero.cas2mach (α := Rat) v H)) :=
  (aero_cas2mach_spec v H).1 ⟨⟨hv.1, hz, hf⟩, hv, hs⟩

/-! ### distance, bearing -/

section Geo
variable {α : Type} [Add α] [Sub α] [Mul α] [Div α] [Neg α] [OfScientific α] [OfNat α 0] [OfNat α 1] [Max α]
  [LT α] [DecidableLT α] [AeroOps α]

/-- `Aero.distance` with the degree→radian conversion as a parameter (the same text otherwise) -/
def distanceWith (rad : α → α) (lat1 lon1 lat2 lon2 H : α) : α :=
  let phi1 := rad (90.0 - lat1)
  let phi2 := rad (90.0 - lat2)
  let theta1 := rad lon1
  let theta2 := rad lon2
  let c : α := AeroOps.sin phi1 * AeroOps.sin phi2 * AeroOps.cos (theta1 - theta2) + AeroOps.cos phi1 * AeroOps.cos phi2
  let c : α := if (1.0 : α) < c then 1.0 else c
  let c : α := if c < (-1.0 : α) then -1.0 else c
  AeroOps.acos c * (Aero.rEarth + H)

/-- `Aero.bearing` with the two angle conversions as parameters (the same text otherwise) -/
def bearingWith (rad deg : α → α) (lat1 lon1 lat2 lon2 : α) : α :=
  let lat1 := rad lat1
  let lon1 := rad lon1
  let lat2 := rad lat2
  let lon2 := rad lon2
  let x : α := AeroOps.sin (lon2 - lon1) * AeroOps.cos lat2
  let y : α := AeroOps.cos lat1 * AeroOps.sin lat2 - AeroOps.sin lat1 * AeroOps.cos lat2 * AeroOps.cos (lon2 - lon1)
  AeroOps.mod360 (deg (AeroOps.atan2 x y) + 360.0)

/-- the hand model is the instance at its own `radians` / `degrees`, for every numeric type (in particular `ℝ`) -/
theorem distance_eq_distanceWith : (Aero.distance : α → α → α → α → α → α) = distanceWith Aero.radians := rfl
theorem bearing_eq_bearingWith :
    (Aero.bearing : α → α → α → α → α) = bearingWith Aero.radians Aero.degrees := rfl
end Geo

/-- `np.radians` in double precision (Py/Ext.lean): ONE rounded multiplication by the double `pi / 180.0` -/
def radF : Float → Float := fun r => r * (Float.acos (-1.0) / 180.0)
/-- `math.degrees` in double precision (Py/Ext.lean): one rounded multiplication by the double `180.0 / pi` -/
def degF : Float → Float := fun r => r * (180.0 / Float.acos (-1.0))
/-- what `np.radians` returns; NOT the model's exact product `x * (AeroOps.pi / 180.0)` at `Rat` (difference 1) -/
def extRadians (x : Rat) : Rat := ext1 radF x
/-- what `math.degrees` returns; NOT the model's exact product `x * (180.0 / AeroOps.pi)` at `Rat` -/
def extDegrees (x : Rat) : Rat := ext1 degF x

theorem np_radians_eq (x : Rat) :
    Gen.Ext.np_radians (.num x) = if Fin1 radF x then .val (.num (extRadians x)) else .exc := float1_eq _ _
theorem math_degrees_eq (x : Rat) :
    Gen.Ext.math_degrees (.num x) = if Fin1 degF x then .val (.num (extDegrees x)) else .exc := float1_eq _ _

/-- the ten float calls of `distance` return finite doubles (in evaluation order) -/
def DistanceFin (lat1 lon1 lat2 lon2 : Rat) : Prop :=
  let phi1 := extRadians (90.0 - lat1)
  let phi2 := extRadians (90.0 - lat2)
  let theta1 := extRadians lon1
  let theta2 := extRadians lon2
  let c : Rat := AeroOps.sin phi1 * AeroOps.sin phi2 * AeroOps.cos (theta1 - theta2) + AeroOps.cos phi1 * AeroOps.cos phi2
  let c : Rat := if (1.0 : Rat) < c then 1.0 else c
  let c : Rat := if c < (-1.0 : Rat) then -1.0 else c
  Fin1 radF (90.0 - lat1) ∧ Fin1 radF (90.0 - lat2) ∧ Fin1 radF lon1 ∧ Fin1 radF lon2 ∧
  Fin1 Float.sin phi1 ∧ Fin1 Float.sin phi2 ∧ Fin1 Float.cos (theta1 - theta2) ∧
  Fin1 Float.cos phi1 ∧ Fin1 Float.cos phi2 ∧ Fin1 Float.acos c

theorem aero_distance_spec (lat1 lon1 lat2 lon2 H : Rat) :
    Returns (Gen.aero.distance (.num lat1) (.num lon1) (.num lat2) (.num lon2) (.num H))
      (DistanceFin lat1 lon1 lat2 lon2)
      (.num (distanceWith (α := Rat) extRadians lat1 lon1 lat2 lon2 H)) := by
  unfold distanceWith DistanceFin
  simp only [lit_one, lit_90, rEarth_rat]
  unfold Gen.aero.distance
  rw [pySub_num, Res.bind_val, np_radians_eq, ite_bind, pySub_num, Res.bind_val, np_radians_eq, ite_bind,
    np_radians_eq, ite_bind, np_radians_eq, ite_bind]
  rw [np_sin_eq, ite_bind, np_sin_eq, ite_bind, pyMul_num, Res.bind_val, pySub_num,
    Res.bind_val, np_cos_eq, ite_bind, pyMul_num, Res.bind_val, np_cos_eq, ite_bind,
    np_cos_eq, ite_bind, pyMul_num, Res.bind_val, pyAdd_num, Res.bind_val]
  rw [pyGt_num, Res.bind_val, np_where_lt, Res.bind_val, pyLt_num, Res.bind_val, np_where_lt, Res.bind_val,
    np_arccos_eq, ite_bind, Gen.aero.r_earth, pyAdd_num, Res.bind_val, pyMul_num]
  exact Returns.ite (Returns.ite (Returns.ite (Returns.ite (Returns.ite (Returns.ite (Returns.ite (Returns.ite
    (Returns.ite (Returns.ite_val _)))))))))

theorem aero_distance_tie (lat1 lon1 lat2 lon2 H : Rat) (hf : DistanceFin lat1 lon1 lat2 lon2) :
    Gen.aero.distance (.num lat1) (.num lon1) (.num lat2) (.num lon2) (.num H) =
      .val (.num (distanceWith (α := Rat) extRadians lat1 lon1 lat2 lon2 H)) :=
  (aero_distance_spec lat1 lon1 lat2 lon2 H).1 hf

/-- the eleven checked float calls of `bearing` return finite doubles, in evaluation order (`cos lat2` and
    `lon2 - lon1` are evaluated twice by the Python text; `arctan2` is not checked by the external) -/
def BearingFin (lat1 lon1 lat2 lon2 : Rat) : Prop :=
  let la1 := extRadians lat1
  let lo1 := extRadians lon1
  let la2 := extRadians lat2
  let lo2 := extRadians lon2
  let x : Rat := AeroOps.sin (lo2 - lo1) * AeroOps.cos la2
  let y : Rat := AeroOps.cos la1 * AeroOps.sin la2 - AeroOps.sin la1 * AeroOps.cos la2 * AeroOps.cos (lo2 - lo1)
  Fin1 radF lat1 ∧ Fin1 radF lon1 ∧ Fin1 radF lat2 ∧ Fin1 radF lon2 ∧
  Fin1 Float.sin (lo2 - lo1) ∧ Fin1 Float.cos la2 ∧ Fin1 Float.cos la1 ∧ Fin1 Float.sin la2 ∧
  Fin1 Float.sin la1 ∧ Fin1 Float.cos la2 ∧ Fin1 Float.cos (lo2 - lo1) ∧ Fin1 degF (AeroOps.atan2 x y)

theorem aero_bearing_spec (lat1 lon1 lat2 lon2 : Rat) :
    Returns (Gen.aero.bearing (.num lat1) (.num lon1) (.num lat2) (.num lon2))
      (BearingFin lat1 lon1 lat2 lon2)
      (.num (bearingWith (α := Rat) extRadians extDegrees lat1 lon1 lat2 lon2)) := by
  unfold bearingWith BearingFin
  simp only [lit_360]
  unfold Gen.aero.bearing
  dsimp only
  rw [np_radians_eq, ite_bind, np_radians_eq, ite_bind, np_radians_eq, ite_bind, np_radians_eq, ite_bind]
  rw [pySub_num, Res.bind_val, np_sin_eq, ite_bind, np_cos_eq, ite_bind, pyMul_num, Res.bind_val]
  rw [np_cos_eq, ite_bind, np_sin_eq, ite_bind, pyMul_num, Res.bind_val, np_sin_eq, ite_bind, ite_bind,
    pyMul_num, Res.bind_val, Res.bind_val, np_cos_eq, ite_bind, pyMul_num, Res.bind_val, pySub_num, Res.bind_val]
  rw [np_arctan2_num, Res.bind_val, math_degrees_eq, ite_bind, pyAdd_num, Res.bind_val, pyMod_360]
  exact Returns.ite (Returns.ite (Returns.ite (Returns.ite (Returns.ite (Returns.ite (Returns.ite (Returns.ite
    (Returns.ite (Returns.ite (Returns.ite (Returns.ite_val _)))))))))))

theorem aero_bearing_tie (lat1 lon1 lat2 lon2 : Rat) (hf : BearingFin lat1 lon1 lat2 lon2) :
    Gen.aero.bearing (.num lat1) (.num lon1) (.num lat2) (.num lon2) =
      .val (.num (bearingWith (α := Rat) extRadians extDegrees lat1 lon1 lat2 lon2)) :=
  (aero_bearing_spec lat1 lon1 lat2 lon2).1 hf

end PyModeS.Tie
