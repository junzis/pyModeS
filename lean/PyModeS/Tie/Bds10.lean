/-
  Tie: generated `bds10.py` and `bds30.py` = hand model (`Model/Commb.lean`) on every 28-digit hex frame.
-/
import PyModeS.Tie.Commb
import PyModeS.Generated.Src.bds10
import PyModeS.Generated.Src.bds30

namespace PyModeS.Tie
open PyModeS PyModeS.Py PyModeS.CRC

/-- `ovc10` returns `int(d[14])`; the model returns the same bit as a natural number -/
theorem ovc10_tie (m : Msg) (h : IsHex m) (hl : m.length = 28) :
    Gen.bds10.ovc10 (.str m) = (PyModeS.ovc10 (hex2binM m) >>= fun n => .val (Val.ofNat n)) := by
  unfold Gen.bds10.ovc10 PyModeS.ovc10
  refine field_open m h hl _ _ _ fun d _ => ?_
  rw [pyIdxN_ofBits]
  rcases idxR d 14 with ((_ | _) | _ | _) <;> simp [Val.ofNat, b2n]

private theorem lit10 : Val.str ['0', '0', '0', '1', '0', '0', '0', '0'] = Val.ofBits (natToBits 8 0x10) := rfl
private theorem lit30 : Val.str ['0', '0', '1', '1', '0', '0', '0', '0'] = Val.ofBits (natToBits 8 0x30) := rfl
private theorem lit11 : Val.str ['1', '1'] = Val.ofBits [true, true] := rfl

theorem is10_tie (m : Msg) (h : IsHex m) (hl : m.length = 28) :
    Gen.bds10.is10 (.str m) = (PyModeS.is10 (hex2binM m) >>= fun b => .val (.bool b)) := by
  unfold Gen.bds10.is10 PyModeS.is10
  refine pred_open m h hl _ _ fun d hd => ?_
  refine guardCode_step d lit10 _ _ ?_
  refine guardInt_step d 9 14 pyNe_ofNat_zero _ _ ?_
  -- the source reads `d[16:23]` only behind the test of `d[14]`, the model before it: both reads succeed on 56 bits
  have h14 : idxR d 14 = .val d[14] := idxR_of_lt d 14 (by omega)
  have hv := bin2intR_slice_of_lt d 16 23 (by decide) (by omega)
  simp only [pyIdxN_ofBits, pySliceNN_ofBits, bin2int_ofBits, h14, hv, Res.bind_val, pyEq_digit_one,
    pyEq_digit_zero, pyTruth_bool, Val.ofNat, pyLt_num, pyGt_num, Res.pure_eq]
  generalize d[14] = b14
  generalize PyModeS.bin2int (slice 16 23 d) = v
  cases b14 <;> simp [Res.ite_bind]

theorem is30_tie (m : Msg) (h : IsHex m) (hl : m.length = 28) :
    Gen.bds30.is30 (.str m) = (PyModeS.is30 (hex2binM m) >>= fun b => .val (.bool b)) := by
  unfold Gen.bds30.is30 PyModeS.is30
  refine pred_open m h hl _ _ fun d hd => ?_
  refine guardCode_step d lit30 _ _ ?_
  simp only [pySliceNN_ofBits, Res.bind_val, lit11, pyEq_ofBits, pyTruth_bool, decide_eq_true_eq, bin2int_ofBits,
    bind_assoc]
  split
  · rfl
  rcases bin2intR (slice 15 22 d) with (r | _ | _)
  · by_cases hr : r < 48
    · simp [Val.ofNat, hr, Nat.not_le.mpr hr]
    · simp [Val.ofNat, hr, Nat.le_of_not_lt hr]
  · rfl
  · rfl

end PyModeS.Tie
