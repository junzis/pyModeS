/-
  TOTALITY of the generated `Gen.decode.Decode_process_raw`, continued: the ADS-B loop body and the whole method.

  * The entry invariant is `NumD ∧ E` (`Tie/DecodeTotal.lean`); the blocks for type codes 19–22, 29 and 31 read and write
    `ver`, `nic_s`, `nic_a`, `nic_bc`, so for them `E` has to be `Ext` (`ver ∈ {None, nat}`, the NIC supplements naturals
    when present; table invariant `WF2 = WFE Ext`); the other blocks work for any stable `E`.
  * Result shapes of the decoders the loop calls (`shape_*_tie`, from the `*_tie`s, `no_exc_adsb_tie`, `guard_iff_tie`);
    TC 19 needs the float hypothesis `PyModeS.Tie.Bds09.FloatFinite` (via `airborne_velocity_shape4_tie`), nothing else does.
  * `adsbBody_totalE`: one pass of the loop body is total for every type code outside 5–18; `process_raw_totalE`,
    `history_totalE`: the method and histories of calls (`runHistory`).  The statements under `WF` (type codes 0, 1–4,
    23–28, 30: `QuietFrame`) and under `WF2` (also 19, 29, 31: `Frame2`) are instances.
  Type codes 5–18 (position block with `try/except … continue`, `nic_b`) are not covered; see `Tie/DecodeTotal3.lean`.
-/
import PyModeS.Tie.DecodeTotal
import PyModeS.Tie.Bds09
open PyModeS PyModeS.Py PyModeS.CRC
namespace PyModeS.Tie.DecodeDirect

/-! ### the richer invariant -/

abbrev verKey : Val := Val.str ['v', 'e', 'r']
abbrev nicsKey : Val := Val.str ['n', 'i', 'c', '_', 's']
abbrev nicaKey : Val := Val.str ['n', 'i', 'c', '_', 'a']
abbrev nicbcKey : Val := Val.str ['n', 'i', 'c', '_', 'b', 'c']

/-- `ver` is present and is `None` or a natural number -/
def VerOK (d : List (Val × Val)) : Prop := ∃ v : Option Nat, dictFind d verKey = some (Val.ofOptNat v)

/-- the NIC supplements, when present, are natural numbers (`nic_s` a bit) -/
def NicOK (d : List (Val × Val)) : Prop :=
  (∀ x, dictFind d nicsKey = some x → ∃ n, n ≤ 1 ∧ x = Val.ofNat n) ∧
  (∀ x, dictFind d nicaKey = some x → ∃ n, x = Val.ofNat n) ∧
  (∀ x, dictFind d nicbcKey = some x → ∃ n, x = Val.ofNat n)

def Ext (d : List (Val × Val)) : Prop := VerOK d ∧ NicOK d
def P2 (d : List (Val × Val)) : Prop := NumD d ∧ Ext d

def EntOK2 (e : Val) : Prop := ∃ d, e = .dict d ∧ P2 d

/-- **the richer invariant**: `WF`, and in every entry `ver ∈ {None, nat}`, `nic_s` / `nic_a` / `nic_bc` naturals when
    present -/
def WF2 (acs : List (Val × Val)) : Prop := KeysOK acs ∧ ∀ kv ∈ acs, EntOK2 kv.2

theorem wf2_nil : WF2 [] := by simp [WF2, KeysOK, keysOf]

theorem wf_of_wf2 {acs : List (Val × Val)} (h : WF2 acs) : WF acs :=
  ⟨h.1, fun kv hkv => by
    obtain ⟨d, hd, hn, _⟩ := h.2 kv hkv
    exact ⟨d, hd, hn.1, hn.2⟩⟩

theorem stable_ext : Stable Ext := fun s v d hs h => by
  have ne : ∀ k ∈ extKeys, dictFind (setPair (.str s) v d) (.str k) = dictFind d (.str k) :=
    fun k hk => Beast.dictFind_setPair_ne s k (ne_of_mem_of_not_mem hk hs).symm v d
  unfold Ext VerOK NicOK
  rw [ne _ (by decide), ne _ (by decide), ne _ (by decide), ne _ (by decide)]
  exact h

theorem p2_set_ver (v : Nat) (d : List (Val × Val)) (h : P2 d) : P2 (setPair verKey (Val.ofNat v) d) := by
  refine ⟨numD_setPair _ _ (by decide) d h.1, ⟨some v, Beast.dictFind_setPair_same _ _ _⟩, ?_⟩
  unfold NicOK
  rw [Beast.dictFind_setPair_ne _ _ (by decide), Beast.dictFind_setPair_ne _ _ (by decide),
    Beast.dictFind_setPair_ne _ _ (by decide)]
  exact h.2.2

theorem p2_set_nics (n : Nat) (hn : n ≤ 1) (d : List (Val × Val)) (h : P2 d) : P2 (setPair nicsKey (Val.ofNat n) d) := by
  refine ⟨numD_setPair _ _ (by decide) d h.1, ?_, ?_, ?_, ?_⟩
  · unfold VerOK; rw [Beast.dictFind_setPair_ne _ _ (by decide)]; exact h.2.1
  · rw [Beast.dictFind_setPair_same]
    intro x hx; cases hx; exact ⟨n, hn, rfl⟩
  · rw [Beast.dictFind_setPair_ne _ _ (by decide)]; exact h.2.2.2.1
  · rw [Beast.dictFind_setPair_ne _ _ (by decide)]; exact h.2.2.2.2

theorem p2_set_nica (n : Nat) (d : List (Val × Val)) (h : P2 d) : P2 (setPair nicaKey (Val.ofNat n) d) := by
  refine ⟨numD_setPair _ _ (by decide) d h.1, ?_, ?_, ?_, ?_⟩
  · unfold VerOK; rw [Beast.dictFind_setPair_ne _ _ (by decide)]; exact h.2.1
  · rw [Beast.dictFind_setPair_ne _ _ (by decide)]; exact h.2.2.1
  · rw [Beast.dictFind_setPair_same]
    intro x hx; cases hx; exact ⟨n, rfl⟩
  · rw [Beast.dictFind_setPair_ne _ _ (by decide)]; exact h.2.2.2.2

theorem p2_set_nicbc (n : Nat) (d : List (Val × Val)) (h : P2 d) : P2 (setPair nicbcKey (Val.ofNat n) d) := by
  refine ⟨numD_setPair _ _ (by decide) d h.1, ?_, ?_, ?_, ?_⟩
  · unfold VerOK; rw [Beast.dictFind_setPair_ne _ _ (by decide)]; exact h.2.1
  · rw [Beast.dictFind_setPair_ne _ _ (by decide)]; exact h.2.2.1
  · rw [Beast.dictFind_setPair_ne _ _ (by decide)]; exact h.2.2.2.1
  · rw [Beast.dictFind_setPair_same]
    intro x hx; cases hx; exact ⟨n, rfl⟩

/-- the entry `process_raw` creates for a new address -/
def freshEntry : List (Val × Val) :=
  [(Val.str ['l', 'i', 'v', 'e'], Val.none), (Val.str ['c', 'a', 'l', 'l'], Val.none),
    (Val.str ['l', 'a', 't'], Val.none), (Val.str ['l', 'o', 'n'], Val.none),
    (Val.str ['a', 'l', 't'], Val.none), (Val.str ['g', 's'], Val.none),
    (Val.str ['t', 'r', 'k'], Val.none), (Val.str ['r', 'o', 'c'], Val.none),
    (Val.str ['t', 'a', 's'], Val.none), (Val.str ['r', 'o', 'l', 'l'], Val.none),
    (Val.str ['r', 't', 'r', 'k'], Val.none), (Val.str ['i', 'a', 's'], Val.none),
    (Val.str ['m', 'a', 'c', 'h'], Val.none), (Val.str ['h', 'd', 'g'], Val.none),
    (Val.str ['v', 'e', 'r'], Val.none), (Val.str ['H', 'P', 'L'], Val.none),
    (Val.str ['R', 'C', 'u'], Val.none), (Val.str ['R', 'C', 'v'], Val.none),
    (Val.str ['H', 'V', 'E'], Val.none), (Val.str ['V', 'V', 'E'], Val.none),
    (Val.str ['R', 'c'], Val.none), (Val.str ['V', 'P', 'L'], Val.none),
    (Val.str ['E', 'P', 'U'], Val.none), (Val.str ['V', 'E', 'P', 'U'], Val.none),
    (Val.str ['H', 'F', 'O', 'M', 'r'], Val.none), (Val.str ['V', 'F', 'O', 'M', 'r'], Val.none),
    (Val.str ['P', 'E', '_', 'R', 'C', 'u'], Val.none),
    (Val.str ['P', 'E', '_', 'V', 'P', 'L'], Val.none), (Val.str ['h', 'u', 'm', '4', '4'], Val.none),
    (Val.str ['p', '4', '4'], Val.none), (Val.str ['t', 'e', 'm', 'p', '4', '4'], Val.none),
    (Val.str ['t', 'u', 'r', 'b', '4', '4'], Val.none),
    (Val.str ['w', 'i', 'n', 'd', '4', '4'], Val.none)]

theorem ext_fresh : Ext freshEntry := by
  refine ⟨⟨none, rfl⟩, ?_, ?_, ?_⟩
  · exact fun _ h => nomatch h
  · exact fun _ h => nomatch h
  · exact fun _ h => nomatch h

/-! ### result shapes of the decoders the ADS-B loop calls (from the `*_tie`s, `no_exc_adsb_tie`, `guard_iff_tie`) -/

theorem shape_of_tie {α} {g : Res Val} {x : Res α} {enc : α → Val} (htie : g = (x >>= fun p => .val (enc p)))
    (hne : g ≠ .exc) (hnr : g ≠ .rte) : ∃ p, g = .val (enc p) := by
  cases x with
  | val p => exact ⟨p, htie⟩
  | rte => exact absurd htie hnr
  | exc => exact absurd htie hne

theorem hasTC_of {m : Msg} {n : Nat} (htc : PyModeS.typecode m = some n) {P : Nat → Prop} (hP : P n) :
    PyModeS.C14.HasTC (hex2binM m) P := ⟨n, by rw [← PyModeS.typecode_eq, htc], hP⟩

theorem tcB_of {m : Msg} {n : Nat} (htc : PyModeS.typecode m = some n) : tcB (hex2binM m) = some n := by
  rw [← PyModeS.typecode_eq, htc]

/-- TC 29 / 31: `sil` (any stored version) and `nac_p` return 3-tuples -/
theorem shape_sil_nacp_tie (m : Msg) (hm : IsHex m) (hl : m.length = 28) (n : Nat)
    (htc : PyModeS.typecode m = some n) (hn : n = 29 ∨ n = 31) :
    (∀ v : Option Nat, ∃ a b c, Gen.adsb.sil (.str m) (Val.ofOptNat v) = .val (.tuple [a, b, c])) ∧
    (∃ a b c, Gen.adsb.nac_p (.str m) = .val (.tuple [a, b, c])) := by
  obtain ⟨a1, a2, a3, a4, a5, a6, a7, a8, a9, a10, a11, a12, a13, a14, a15, a16, a17, a18, a19, a20, a21, a22, a23,
    a24, a25, a26, a27, a28, a29, a30, a31, a32, a33, a34, a35, a36, a37⟩ := PyModeS.C14Gen.no_exc_adsb_tie m hm hl
  obtain ⟨g1, g2, g3, g4, g5, g6, g7, g8, g9, g10, g11, g12, g13, g14, g15, g16, g17, -⟩ :=
    PyModeS.C14Gen.guard_iff_tie m hm hl
  refine ⟨fun v => ?_, ?_⟩
  · obtain ⟨p, hp⟩ := shape_of_tie (PyModeS.Tie.sil_tie m hm (by omega) v) (a36 v)
      (fun hr => (g17 v).1 hr (hasTC_of htc hn))
    exact ⟨_, _, _, hp⟩
  · obtain ⟨p, hp⟩ := shape_of_tie (PyModeS.Tie.nac_p_tie m hm (by omega)) a34
      (fun hr => g16.1 hr (hasTC_of htc hn))
    exact ⟨_, _, _, hp⟩

/-- TC 31: `version` a natural number, `nic_s` a bit, `nic_a_c` a pair of naturals -/
theorem shape_tc31_tie (m : Msg) (hm : IsHex m) (hl : m.length = 28) (htc : PyModeS.typecode m = some 31) :
    (∃ v : Nat, Gen.adsb.version (.str m) = .val (Val.ofNat v)) ∧
    (∃ k : Nat, k ≤ 1 ∧ Gen.adsb.nic_s (.str m) = .val (Val.ofNat k)) ∧
    (∃ x y : Nat, Gen.adsb.nic_a_c (.str m) = .val (.tuple [Val.ofNat x, Val.ofNat y])) := by
  obtain ⟨a1, a2, a3, a4, a5, a6, a7, a8, a9, a10, a11, a12, a13, a14, a15, a16, a17, a18, a19, a20, a21, a22, a23,
    a24, a25, a26, a27, a28, a29, a30, a31, a32, a33, a34, a35, a36, a37⟩ := PyModeS.C14Gen.no_exc_adsb_tie m hm hl
  obtain ⟨g1, g2, g3, g4, g5, g6, g7, g8, g9, g10, g11, g12, g13, g14, g15, g16, g17, -⟩ :=
    PyModeS.C14Gen.guard_iff_tie m hm hl
  have ht := tcB_of htc
  refine ⟨?_, ?_, ?_⟩
  · obtain ⟨p, hp⟩ := shape_of_tie (PyModeS.Tie.version_tie m hm (by omega)) a26 (fun hr => g9.1 hr ht)
    exact ⟨p, hp⟩
  · have htie := PyModeS.Tie.nic_s_tie m hm (by omega)
    have hnr : Gen.adsb.nic_s (.str m) ≠ .rte := fun hr => g10.1 hr ht
    unfold PyModeS.nicS at htie
    rw [if_neg (by rw [ht]; simp)] at htie
    cases hb : idxR (hex2binM m) 75 with
    | val b =>
      rw [hb] at htie
      refine ⟨b2n b, ?_, htie⟩
      cases b <;> decide
    | rte => rw [hb] at htie; exact absurd htie hnr
    | exc => rw [hb] at htie; exact absurd htie a31
  · obtain ⟨p, hp⟩ := shape_of_tie (PyModeS.Tie.nic_a_c_tie m hm (by omega)) a32 (fun hr => g11.1 hr ht)
    exact ⟨p.1, p.2, hp⟩

/-- TC 19: `nuc_v`, `nac_v` 3-tuples; `velocity` is `None` or a 4-tuple whose last member is a string, under
    `FloatFinite` (`math.sqrt` / `math.atan2` never give NaN or infinity) -/
theorem shape_tc19_tie (hf : PyModeS.Tie.Bds09.FloatFinite) (m : Msg) (hm : IsHex m) (hl : m.length = 28)
    (htc : PyModeS.typecode m = some 19) :
    (∃ a b c, Gen.adsb.nuc_v (.str m) = .val (.tuple [a, b, c])) ∧
    (∃ a b c, Gen.adsb.nac_v (.str m) = .val (.tuple [a, b, c])) ∧
    (Gen.adsb.velocity (.str m) (.bool false) = .val .none ∨
      ∃ spd trk vr tag, Gen.adsb.velocity (.str m) (.bool false) = .val (.tuple [spd, trk, vr, .str tag])) := by
  obtain ⟨a1, a2, a3, a4, a5, a6, a7, a8, a9, a10, a11, a12, a13, a14, a15, a16, a17, a18, a19, a20, a21, a22, a23,
    a24, a25, a26, a27, a28, a29, a30, a31, a32, a33, a34, a35, a36, a37⟩ := PyModeS.C14Gen.no_exc_adsb_tie m hm hl
  obtain ⟨g1, g2, g3, g4, g5, g6, g7, g8, g9, g10, g11, g12, g13, g14, g15, g16, g17, -⟩ :=
    PyModeS.C14Gen.guard_iff_tie m hm hl
  have ht := tcB_of htc
  refine ⟨?_, ?_, ?_⟩
  · obtain ⟨p, hp⟩ := shape_of_tie (PyModeS.Tie.nuc_v_tie m hm (by omega)) a28 (fun hr => g5.1 hr ht)
    exact ⟨_, _, _, hp⟩
  · obtain ⟨p, hp⟩ := shape_of_tie (PyModeS.Tie.nac_v_tie m hm (by omega)) a35 (fun hr => g6.1 hr ht)
    exact ⟨_, _, _, hp⟩
  · have hv : Gen.adsb.velocity (.str m) (.bool false) = Gen.bds09.airborne_velocity (.str m) (.bool false) := by
      rw [PyModeS.Tie.velocity_tie m hm (by omega)]
      unfold velocityRoute
      rw [ht]
      rfl
    rw [hv]
    rcases PyModeS.Tie.airborne_velocity_shape4_tie hf m hm hl ht with h0 | ⟨spd, trk, vr, tag, h4, _⟩
    · exact Or.inl h0
    · exact Or.inr ⟨spd, trk, vr, tag, h4⟩


theorem posTC_of {n : Nat} (h : (5 ≤ n ∧ n ≤ 8) ∨ (9 ≤ n ∧ n ≤ 18) ∨ (20 ≤ n ∧ n ≤ 22)) : PyModeS.C14.PosTC n := by
  unfold PyModeS.C14.PosTC; omega

/-- type codes 5–8, 9–18, 20–22: `nuc_p` a 4-tuple, `nic_v1` (on a bit) a 3-tuple, `nic_v2` (on naturals) a pair -/
theorem shape_nuc_nic_tie (m : Msg) (hm : IsHex m) (hl : m.length = 28) (n : Nat)
    (htc : PyModeS.typecode m = some n) (hn : (5 ≤ n ∧ n ≤ 8) ∨ (9 ≤ n ∧ n ≤ 18) ∨ (20 ≤ n ∧ n ≤ 22)) :
    (∃ a b c d, Gen.adsb.nuc_p (.str m) = .val (.tuple [a, b, c, d])) ∧
    (∀ k : Nat, k ≤ 1 → ∃ a b c, Gen.adsb.nic_v1 (.str m) (Val.ofNat k) = .val (.tuple [a, b, c])) ∧
    (∀ x y : Nat, ∃ a b, Gen.adsb.nic_v2 (.str m) (Val.ofNat x) (Val.ofNat y) = .val (.tuple [a, b])) := by
  obtain ⟨a1, a2, a3, a4, a5, a6, a7, a8, a9, a10, a11, a12, a13, a14, a15, a16, a17, a18, a19, a20, a21, a22, a23,
    a24, a25, a26, a27, a28, a29, a30, a31, a32, a33, a34, a35, a36, a37⟩ := PyModeS.C14Gen.no_exc_adsb_tie m hm hl
  obtain ⟨g1, g2, g3, g4, g5, g6, g7, g8, g9, g10, g11, g12, g13, g14, g15, g16, g17, -⟩ :=
    PyModeS.C14Gen.guard_iff_tie m hm hl
  have hpos := hasTC_of htc (posTC_of hn)
  refine ⟨?_, fun k hk => ?_, fun x y => ?_⟩
  · obtain ⟨p, hp⟩ := shape_of_tie (PyModeS.Tie.nuc_p_tie m hm (by omega)) a27 (fun hr => g13.1 hr hpos)
    exact ⟨_, _, _, _, hp⟩
  · obtain ⟨p, hp⟩ := shape_of_tie (PyModeS.Tie.nic_v1_tie m hm (by omega) k) (a29 k hk)
      (fun hr => ((g14 k hk).1 hr) hpos)
    exact ⟨_, _, _, hp⟩
  · obtain ⟨p, hp⟩ := shape_of_tie (PyModeS.Tie.nic_v2_tie m hm (by omega) x y) (a30 x y)
      (fun hr => ((g15 x y).1 hr) hpos)
    cases p with
    | none => exact ⟨_, _, hp⟩
    | some p => exact ⟨_, _, hp⟩

/-! ### reads of the entry and binds of shaped results -/

/-- `d["ver"]` on an entry satisfying `P2` -/
theorem tot_idx_ver {β} {d : List (Val × Val)} {K : Val → Res β} {Q : β → Prop} (hd : P2 d)
    (hK : ∀ v : Option Nat, Tot (K (Val.ofOptNat v)) Q) : Tot (Py.pyIdx (.dict d) verKey >>= K) Q :=
  let ⟨v, hv⟩ := hd.2.1
  tot_idx hv (hK v)

def P2s (d : List (Val × Val)) : Prop := P2 d ∧ ∃ n, n ≤ 1 ∧ dictFind d nicsKey = some (Val.ofNat n)
def P2ab (d : List (Val × Val)) : Prop :=
  P2 d ∧ (∃ x, dictFind d nicaKey = some (Val.ofNat x)) ∧ (∃ y, dictFind d nicbcKey = some (Val.ofNat y))

theorem read_entry {β} {a l0 d : List (Val × Val)} {ic : Val} (hic : IsKey ic) (K : Val → Res β) :
    (pyGetAttr (mk a (setPair ic (.dict d) l0)) "acs" >>= fun x => Py.pyIdx x ic >>= K) = K (.dict d) := by
  rw [get_acs, bind_val']
  simp only [Py.pyIdx, Beast.dictFind_setPair_self (beq_key_self hic), bind_val']

theorem pyIn_keys (k : List Char) (d : List (Val × Val)) :
    (pyKeys (.dict d) >>= fun ks => pyIn (.str k) ks) = .val (.bool (hasKey d (.str k))) := by
  rw [hasKey_eq_any]; rfl

theorem pyIn_keys' {β} (k : List Char) (d : List (Val × Val)) (K : Val → Res β) :
    (pyKeys (.dict d) >>= fun ks => pyIn (.str k) ks >>= K) = K (.bool (hasKey d (.str k))) := by
  rw [← bind_assoc, pyIn_keys, bind_val']

/-- `self.acs[ic]["ver"] == 1 and "nic_s" in self.acs[ic].keys()`: if true, `nic_s` is there (and is a bit) -/
theorem tot_cond_nics {a l0 : List (Val × Val)} {ic self : Val} (hic : IsKey ic) (hS : St a l0 ic P2 self) :
    Tot (do
        let b81 ← (do pyEq (← Py.pyIdx (← Py.pyIdx (← pyGetAttr self "acs") ic) (Val.str ['v', 'e', 'r'])) (Val.num 1))
        if pyTruth b81 then
          (do pyIn (Val.str ['n', 'i', 'c', '_', 's']) (← pyKeys (← Py.pyIdx (← pyGetAttr self "acs") ic)))
        else pure b81)
      (fun b => pyTruth b = true → St a l0 ic P2s self) := by
  obtain ⟨d, rfl, hd⟩ := hS
  obtain ⟨v, hv⟩ := hd.2.1
  simp only [bind_assoc, read_entry hic]
  simp only [Py.pyIdx, hv, bind_val', pyEq]
  split
  · rw [pyIn_keys]
    refine ⟨_, rfl, fun h => ⟨d, rfl, hd, ?_⟩⟩
    obtain ⟨x, hx⟩ := find_of_hasKey (l := d) (k := nicsKey) h
    obtain ⟨n, hn, rfl⟩ := hd.2.2.1 x hx
    exact ⟨n, hn, hx⟩
  · rename_i hf
    exact ⟨_, rfl, fun h => absurd h hf⟩

/-- `ver == 2 and "nic_a" in keys and "nic_bc" in keys`: if true, both are there (naturals) -/
theorem tot_cond_nicab {a l0 : List (Val × Val)} {ic self : Val} (hic : IsKey ic) (hS : St a l0 ic P2 self) :
    Tot (do
        let b92 ← (do pyEq (← Py.pyIdx (← Py.pyIdx (← pyGetAttr self "acs") ic) (Val.str ['v', 'e', 'r'])) (Val.num 2))
        if pyTruth b92 then
          (do
            let b93 ← (do pyIn (Val.str ['n', 'i', 'c', '_', 'a']) (← pyKeys (← Py.pyIdx (← pyGetAttr self "acs") ic)))
            if pyTruth b93 then
              (do pyIn (Val.str ['n', 'i', 'c', '_', 'b', 'c']) (← pyKeys (← Py.pyIdx (← pyGetAttr self "acs") ic)))
            else pure b93)
        else pure b92)
      (fun b => pyTruth b = true → St a l0 ic P2ab self) := by
  obtain ⟨d, rfl, hd⟩ := hS
  obtain ⟨v, hv⟩ := hd.2.1
  simp only [bind_assoc, read_entry hic]
  simp only [Py.pyIdx, hv, bind_val', pyEq]
  split
  · simp only [pyIn_keys', pyIn_keys]
    refine Tot.ite (fun hc => ?_) (fun hc => ?_)
    · have ha : hasKey d nicaKey = true := hc
      refine ⟨_, rfl, fun h => ⟨d, rfl, hd, ?_, ?_⟩⟩
      · obtain ⟨x, hx⟩ := find_of_hasKey (l := d) (k := nicaKey) ha
        obtain ⟨n, rfl⟩ := hd.2.2.2.1 x hx
        exact ⟨n, hx⟩
      · obtain ⟨x, hx⟩ := find_of_hasKey (l := d) (k := nicbcKey) h
        obtain ⟨n, rfl⟩ := hd.2.2.2.2 x hx
        exact ⟨n, hx⟩
    · exact ⟨_, rfl, fun h => absurd h hc⟩
  · rename_i hf
    exact ⟨_, rfl, fun h => absurd h hf⟩

/-! ### the ADS-B loop body -/

/-- `a <= tc <= b` (a chained comparison of the source) -/
theorem cond_chain (a b n : Nat) (x y : Rat) (hx : x = a) (hy : y = b) :
    (pyLe (.num x) (Val.ofNat n) >>= fun c =>
      if pyTruth c = true then (pure (Val.num y) >>= fun z => pyLe (Val.ofNat n) z) else pure c) =
      .val (.bool (decide (a ≤ n ∧ n ≤ b))) := by
  subst hx hy
  simp only [Val.ofNat, pyLe_num, bind_val', pyTruth_bool, Nat.cast_le, Res.pure_eq]
  by_cases h1 : a ≤ n <;> by_cases h2 : n ≤ b <;> simp [h1, h2]

abbrev obA (s : Val × Val × Val × Val × Val × Val × Val × Val × Val × Val × Val × Val × Val × Val × Val × Val × Val × Val) :
    Val := s.2.2.2.2.2.2.2.2.2.2.2.2.2.2.2.2.2

/-- type codes for which `process_raw` calls no decoder at all: 0, 23–28, 30 -/
def QuietTC (n : Nat) : Prop := n = 0 ∨ (23 ≤ n ∧ n ≤ 28) ∨ n = 30

def Pt (d : List (Val × Val)) : Prop := ∃ q, dictFind d tKey = some (.num q)

theorem pt_setPair (s : List Char) (v : Val) (h1 : s ≠ ['t']) (d : List (Val × Val)) (h : Pt d) :
    Pt (setPair (.str s) v d) := by
  unfold Pt
  rw [Beast.dictFind_setPair_ne _ _ h1]
  exact h

set_option maxRecDepth 100000 in
/-- **one pass of the ADS-B loop body is total**, for every type code outside 5–18 (the position block is stepped over,
    never entered): numeric time stamp, 28-digit hex DF17/18 frame, table satisfying `WFE E`, output list a list; the new
    table satisfies `WFE E` again.  `hExt`: the blocks of type codes 19–22, 29 and 31 read and write the version / NIC
    fields, so there `E` has to be `Ext`; for the other type codes any stable `E` that holds of a new entry will do
    (`WF` is `E := fun _ => True`).  The test of each block is evaluated to `decide (…)` of the type code, the true
    branch is walked with that fact, and the join point after the block is used through its invariant `hjp`, which is
    what remains to be proved (`suffices`); `maxRecDepth`: the unentered position block is a deeply nested term. -/
theorem adsbBody_totalE {E : List (Val × Val) → Prop} (hE : Stable E) (hE3 : E freshEntry)
    (a l0 : List (Val × Val)) (q : Rat) (m : Msg) (hm : IsHex m) (hl : m.length = 28)
    (n : Nat) (htc : PyModeS.typecode m = some n) (hn : ¬(5 ≤ n ∧ n ≤ 18))
    (hExt : QuietTC n ∨ (1 ≤ n ∧ n ≤ 4) ∨ E = Ext) (hf : n = 19 → PyModeS.Tie.Bds09.FloatFinite)
    (s : Val × _) (hs : s.1 = mk a l0) (hwf : WFE E l0) (hob : IsTup (obA s)) :
    Tot (adsbBody (.tuple [.num q, .str m]) s)
      (fun r => ∃ s', r = .yield s' ∧ ∃ l', s'.1 = mk a l' ∧ WFE E l' ∧ IsTup (obA s')) := by
  have c14 := cond_chain 1 4 n 1 4 (by norm_num) (by norm_num)
  have c58 := cond_chain 5 8 n 5 8 (by norm_num) (by norm_num)
  have c518 := cond_chain 5 18 n 5 18 (by norm_num) (by norm_num)
  have c918 := cond_chain 9 18 n 9 18 (by norm_num) (by norm_num)
  have c2022 := cond_chain 20 22 n 20 22 (by norm_num) (by norm_num)
  have e19 := pyEq_ofNat_lit n 19
  have e29 := pyEq_ofNat_lit n 29
  have e31 := pyEq_ofNat_lit n 31
  rw [decide_eq_false (show ¬(5 ≤ n ∧ n ≤ 8) by omega)] at c58
  rw [decide_eq_false hn] at c518
  rw [decide_eq_false (show ¬(9 ≤ n ∧ n ≤ 18) by omega)] at c918
  have htcv : Gen.adsb.typecode (.str m) = .val (Val.ofNat n) := by
    rw [PyModeS.Tie.adsb_typecode_tie m hm (by omega), htc]; rfl
  have hExt' : ¬QuietTC n → ¬(1 ≤ n ∧ n ≤ 4) → E = Ext := fun h1 h2 => by
    rcases hExt with h | h | h
    · exact absurd h h1
    · exact absurd h h2
    · exact h
  unfold adsbBody
  refine Tot.of_val ⟨_, rfl⟩ (fun _ => ?_)
  refine tot_val_eq (a := .num q) rfl ?_
  refine tot_val_eq (a := .str m) rfl ?_
  refine tot_val_eq (icao_tie m hm (by omega)) ?_
  refine tot_val_eq htcv ?_
  rw [hs]
  have hic : IsKey (Val.ofOptStr (PyModeS.icao m)) := isKey_icaoKey m
  generalize Val.ofOptStr (PyModeS.icao m) = ic at hic ⊢
  refine tot_val_eq (get_acs _ _) ?_
  refine tot_val_eq (pyNotIn_dict _ _) ?_
  refine Tot.mono (Q := fun r => ∃ s', r = ForInStep.yield s' ∧ St a l0 ic (Ent E) s'.1 ∧ IsTup (obA s')) ?_
    (fun r ⟨s', hr, ⟨d, hd, hP⟩, hob⟩ => ⟨s', hr, _, hd, wfE_setPair hwf hic hP, hob⟩)
  extract_lets -underBinder +onlyGivenNames jp
  suffices hjp : ∀ self, St a l0 ic E self → Tot (jp () self) _ by
    clear_value jp
    rw [pyTruth_bool]
    refine Tot.ite (fun _ => ?_) (fun hc => ?_)
    · refine tot_val_eq (get_acs _ _) ?_
      refine tot_val_eq (a := .dict (setPair ic (.dict freshEntry) l0)) rfl ?_
      refine tot_val_eq (set_acs _ _ _) ?_
      exact hjp _ ⟨_, rfl, hE3⟩
    · obtain ⟨d, hd, hP⟩ := st_of_hasKey a hwf (ic := ic) (by simpa using hc)
      exact hjp _ ⟨d, hd, hP.2⟩
  intro self hS
  unfold jp
  refine tot_setfield hic hS (hE _ _ · (by decide)) (fun self hS => ?_)
  refine tot_setfield hic hS (hE _ _ · (by decide)) (fun self hS => ?_)
  refine tot_setfield hic hS (P' := fun d => Pt d ∧ E d)
    (fun d hd => ⟨⟨q, Beast.dictFind_setPair_same _ _ _⟩, hE _ _ d (by decide) hd⟩)
    (fun self hS => ?_)
  refine tot_val_eq (pyInt1_num q) ?_
  refine tot_setfield hic hS (P' := Ent E)
    (fun d hd => ⟨⟨pt_setPair _ _ (by decide) d hd.1, ⟨_, Beast.dictFind_setPair_same _ _ _⟩⟩,
      hE _ _ d (by decide) hd.2⟩) (fun self hS => ?_)
  -- type codes 1–4: `callsign`
  refine tot_val_eq c14 ?_
  extract_lets -underBinder +onlyGivenNames jp
  suffices hjp : ∀ self cs ob, St a l0 ic (Ent E) self → IsTup ob → Tot (jp () self cs ob) _ by
    clear_value jp
    rw [pyTruth_bool]
    refine Tot.ite (fun hc => ?_) (fun _ => hjp _ _ _ hS hob)
    have h14 : 1 ≤ n ∧ n ≤ 4 := of_decide_eq_true hc
    have hcs : ∃ v, Gen.bds08.callsign (.str m) = .val v := by
      have hne := (PyModeS.C14Gen.no_exc_adsb_tie m hm hl).2.2.2.2.1
      have hg := (PyModeS.C14Gen.guard_iff_tie m hm hl).2.2.2.2.2.2.2.1
      have hnr : Gen.bds08.callsign (.str m) ≠ .rte := fun hr => hg.1 hr (hasTC_of htc h14)
      cases hc : Gen.bds08.callsign (.str m) with
      | val v => exact ⟨v, rfl⟩
      | rte => exact absurd hc hnr
      | exc => exact absurd hc hne
    refine Tot.of_val hcs (fun cs => ?_)
    refine tot_set hE hic hS (by decide) (fun self hS => ?_)
    exact tot_append hob (fun ob hob => hjp _ _ _ hS hob)
  intro self cs ob hS hob
  unfold jp
  -- type code 19 (5–8 excluded): `velocity`
  refine tot_val_eq (a := .bool (decide (n = 19)))
    (by simp only [c58, bind_val', pyTruth_bool, Bool.false_eq_true, if_false, e19]) ?_
  extract_lets -underBinder +onlyGivenNames jp
  suffices hjp : ∀ self vd spd trk roc tag ob, St a l0 ic (Ent E) self → IsTup ob →
      Tot (jp () self vd spd trk roc tag ob) _ by
    clear_value jp
    rw [pyTruth_bool]
    refine Tot.ite (fun hc => ?_) (fun _ => hjp _ _ _ _ _ _ _ hS hob)
    have h19 : n = 19 := of_decide_eq_true hc
    obtain ⟨-, -, h0 | ⟨spd, trk, vr, tag, h4⟩⟩ := shape_tc19_tie (hf h19) m hm hl (h19 ▸ htc)
    · refine tot_val_eq h0 (tot_val_eq (a := .bool true) rfl ?_)
      exact Tot.ite (fun _ => Tot.pure ⟨_, rfl, hS, hob⟩) (fun h => absurd rfl h)
    refine tot_val_eq h4 ?_
    refine tot_val_eq (a := .bool false) rfl ?_
    refine Tot.ite (fun h => absurd h (by decide)) (fun _ => ?_)
    refine tot_val_eq (a := ()) rfl ?_
    refine tot_val_eq (a := spd) rfl ?_
    refine tot_val_eq (a := trk) rfl ?_
    refine tot_val_eq (a := vr) rfl ?_
    refine tot_val_eq (a := .str tag) rfl ?_
    refine Tot.of_val ⟨_, rfl⟩ (fun _ => ?_)
    refine Tot.ite (fun _ => Tot.pure ⟨_, rfl, hS, hob⟩) (fun _ => ?_)
    refine Tot.bind (R := fun _ => True) (Tot.of_val ⟨_, rfl⟩ fun _ => Tot.ite (fun _ => Tot.pure trivial) fun _ => ⟨_, rfl, trivial⟩)
      (fun _ _ => ?_)
    refine Tot.ite (fun _ => Tot.pure ⟨_, rfl, hS, hob⟩) (fun _ => ?_)
    refine tot_set hE hic hS (by decide) (fun self hS => ?_)
    refine tot_set hE hic hS (by decide) (fun self hS => ?_)
    refine tot_set hE hic hS (by decide) (fun self hS => ?_)
    refine tot_set hE hic hS (by decide) (fun self hS => ?_)
    refine tot_append hob (fun ob hob => ?_)
    refine tot_append hob (fun ob hob => ?_)
    exact tot_append hob (fun ob hob => hjp _ _ _ _ _ _ _ hS hob)
  intro self vd spd trk roc tag ob hS hob
  unfold jp
  -- type codes 5–18 (position block): excluded
  refine tot_val_eq c518 ?_
  extract_lets -underBinder +onlyGivenNames jp
  suffices hjp : ∀ self oe rlat rlon latlon alt lb ob, St a l0 ic (Ent E) self → IsTup ob →
      Tot (jp () self oe rlat rlon latlon alt lb ob) _ from
    Tot.ite (fun h => absurd h Bool.false_ne_true) (fun _ => hjp _ _ _ _ _ _ _ _ hS hob)
  intro self oe rlat rlon latlon alt lb ob hS hob
  unfold jp
  -- type codes 9–18 (`nic_b`): excluded
  refine tot_val_eq c918 ?_
  extract_lets -underBinder +onlyGivenNames jp
  suffices hjp : ∀ self, St a l0 ic (Ent E) self → Tot (jp () self) _ from
    Tot.ite (fun h => absurd h Bool.false_ne_true) (fun _ => hjp _ hS)
  intro self hS
  unfold jp
  -- type codes 20–22 (5–18 excluded): `nuc_p`, then `nic_v1` / `nic_v2` on the stored NIC supplements
  refine tot_val_eq (a := .bool (decide (20 ≤ n ∧ n ≤ 22)))
    (by simp only [c58, c918, c2022, bind_val', pyTruth_bool, Bool.false_eq_true, if_false]) ?_
  extract_lets -underBinder +onlyGivenNames jp
  suffices hjp : ∀ self, St a l0 ic (Ent E) self → Tot (jp () self) _ by
    clear_value jp
    rw [pyTruth_bool]
    refine Tot.ite (fun hc => ?_) (fun _ => hjp _ hS)
    have h2022 : 20 ≤ n ∧ n ≤ 22 := of_decide_eq_true hc
    obtain rfl := hExt' (by unfold QuietTC; omega) (by omega)
    obtain ⟨⟨x1, x2, x3, x4, hx⟩, hnicv1, hnicv2⟩ := shape_nuc_nic_tie m hm hl n htc (Or.inr (Or.inr h2022))
    refine tot_val_eq hx ?_
    refine tot_val_eq (a := ()) rfl ?_
    refine tot_set_nth (x := x1) rfl hE hic hS (by decide) (fun self hS => ?_)
    refine tot_set_nth (x := x2) rfl hE hic hS (by decide) (fun self hS => ?_)
    refine tot_set_nth (x := x3) rfl hE hic hS (by decide) (fun self hS => ?_)
    refine tot_set_nth (x := x4) rfl hE hic hS (by decide) (fun self hS => ?_)
    refine Tot.bind (tot_cond_nics hic hS) (fun b hb => ?_)
    refine Tot.ite (fun hc => ?_) (fun _ => ?_)
    · refine tot_idx_acs hic (hb hc) (fun d hd => hd.2.elim fun k hk => tot_idx hk.2 ?_)
      refine tot_set3 (hnicv1 k hk.1) hE hic hS (by decide) (by decide) (by decide) (fun self hS => ?_)
      exact hjp _ hS
    refine Tot.bind (tot_cond_nicab hic hS) (fun b hb => ?_)
    refine Tot.ite (fun hc => ?_) (fun _ => hjp _ hS)
    refine tot_idx_acs hic (hb hc) (fun d hd => hd.2.1.elim fun x hfx => tot_idx hfx ?_)
    refine tot_idx_acs hic (hb hc) (fun d hd => hd.2.2.elim fun y hfy => tot_idx hfy ?_)
    obtain ⟨x1, x2, hx⟩ := hnicv2 x y
    refine tot_val_eq hx ?_
    refine tot_val_eq (a := ()) rfl ?_
    refine tot_set_nth (x := x1) rfl hE hic hS (by decide) (fun self hS => ?_)
    refine tot_set_nth (x := x2) rfl hE hic hS (by decide) (fun self hS => ?_)
    exact hjp _ hS
  intro self hS
  unfold jp
  -- type code 19: `nuc_v`, and `nac_v` for versions 1 and 2
  refine tot_val_eq e19 ?_
  extract_lets -underBinder +onlyGivenNames jp
  suffices hjp : ∀ self, St a l0 ic (Ent E) self → Tot (jp () self) _ by
    clear_value jp
    rw [pyTruth_bool]
    refine Tot.ite (fun hc => ?_) (fun _ => hjp _ hS)
    have h19 : n = 19 := of_decide_eq_true hc
    obtain rfl := hExt' (by unfold QuietTC; omega) (by omega)
    obtain ⟨hnucv, hnacv, -⟩ := shape_tc19_tie (hf h19) m hm hl (h19 ▸ htc)
    refine tot_set3 hnucv hE hic hS (by decide) (by decide) (by decide) (fun self hS => ?_)
    refine tot_idx_acs hic hS (fun d hd => ?_)
    refine tot_idx_ver hd (fun v => ?_)
    refine Tot.of_val ⟨_, rfl⟩ (fun _ => ?_)
    refine Tot.ite (fun _ => ?_) (fun _ => hjp _ hS)
    refine tot_set3 hnacv hE hic hS (by decide) (by decide) (by decide) (fun self hS => ?_)
    exact hjp _ hS
  intro self hS
  unfold jp
  -- type code 29: `sil` (on the stored version), `nac_p`
  refine tot_val_eq e29 ?_
  extract_lets -underBinder +onlyGivenNames jp
  suffices hjp : ∀ self, St a l0 ic (Ent E) self → Tot (jp () self) _ by
    clear_value jp
    rw [pyTruth_bool]
    refine Tot.ite (fun hc => ?_) (fun _ => hjp _ hS)
    have h29 : n = 29 := of_decide_eq_true hc
    obtain rfl := hExt' (by unfold QuietTC; omega) (by omega)
    obtain ⟨hsil, hnacp⟩ := shape_sil_nacp_tie m hm hl n htc (Or.inl h29)
    refine tot_idx_acs hic hS (fun d hd => ?_)
    refine tot_idx_ver hd (fun v => ?_)
    refine tot_set3 (hsil v) hE hic hS (by decide) (by decide) (by decide) (fun self hS => ?_)
    refine tot_set3 hnacp hE hic hS (by decide) (by decide) (by decide) (fun self hS => ?_)
    exact hjp _ hS
  intro self hS
  unfold jp
  -- type code 31: `version` (stored), `nac_p`, `sil`, then `nic_s` (version 1) or `nic_a_c` (version 2) (stored)
  refine tot_val_eq e31 ?_
  rw [pyTruth_bool]
  refine Tot.ite (fun hc => ?_) (fun _ => Tot.pure ⟨_, rfl, hS, hob⟩)
  have h31 : n = 31 := of_decide_eq_true hc
  obtain rfl := hExt' (by unfold QuietTC; omega) (by omega)
  obtain ⟨hsil, hnacp⟩ := shape_sil_nacp_tie m hm hl n htc (Or.inr h31)
  obtain ⟨⟨v, hv⟩, ⟨k, hk, hnics⟩, x, y, hnicac⟩ := shape_tc31_tie m hm hl (h31 ▸ htc)
  refine tot_val_eq hv ?_
  refine tot_setfield hic hS (p2_set_ver v) (fun self hS => ?_)
  refine tot_set3 hnacp hE hic hS (by decide) (by decide) (by decide) (fun self hS => ?_)
  refine tot_idx_acs hic hS (fun d hd => ?_)
  refine tot_idx_ver hd (fun v => ?_)
  refine tot_set3 (hsil v) hE hic hS (by decide) (by decide) (by decide) (fun self hS => ?_)
  refine tot_idx_acs hic hS (fun d hd => ?_)
  refine tot_idx_ver hd (fun v => ?_)
  refine Tot.of_val ⟨_, rfl⟩ (fun _ => ?_)
  refine Tot.ite (fun _ => ?_) (fun _ => ?_)
  · refine tot_val_eq hnics ?_
    exact tot_setfield hic hS (p2_set_nics k hk) (fun self hS => Tot.pure ⟨_, rfl, hS, hob⟩)
  refine tot_idx_acs hic hS (fun d hd => ?_)
  refine tot_idx_ver hd (fun v => ?_)
  refine Tot.of_val ⟨_, rfl⟩ (fun _ => ?_)
  refine Tot.ite (fun _ => ?_) (fun _ => Tot.pure ⟨_, rfl, hS, hob⟩)
  refine tot_val_eq hnicac ?_
  refine tot_val_eq (a := ()) rfl ?_
  refine tot_val_eq (a := Val.ofNat x) rfl ?_
  refine tot_setfield hic hS (p2_set_nica x) (fun self hS => ?_)
  refine tot_val_eq (a := Val.ofNat y) rfl ?_
  exact tot_setfield hic hS (p2_set_nicbc y) (fun self hS => Tot.pure ⟨_, rfl, hS, hob⟩)

/-! ### the ADS-B loop, the whole method, histories of calls -/

/-- ADS-B frames the loop body is proved total for: 28 hex digits, DF 17/18 (`typecode` defined), any type code outside
    5–18; the blocks of 19–22, 29, 31 need the entries to satisfy `Ext`, that of 19 also `FloatFinite` -/
def FrameE (E : List (Val × Val) → Prop) (m : Msg) : Prop :=
  IsHex m ∧ m.length = 28 ∧ ∃ n, PyModeS.typecode m = some n ∧ ¬(5 ≤ n ∧ n ≤ 18) ∧
    (QuietTC n ∨ (1 ≤ n ∧ n ≤ 4) ∨ E = Ext) ∧ (n = 19 → PyModeS.Tie.Bds09.FloatFinite)

theorem adsbLoop_totalE {E : List (Val × Val) → Prop} (hE : Stable E) (hE3 : E freshEntry) (a : List (Val × Val))
    (pairs : List (Rat × Msg)) (hq : ∀ p ∈ pairs, FrameE E p.2) (l0 : List (Val × Val))
    (s : Val × _) (hs : s.1 = mk a l0) (hwf : WFE E l0) (hob : IsTup (obA s)) :
    Tot (forIn (pairs.map encMsg) s adsbBody) (fun s' => ∃ l', s'.1 = mk a l' ∧ WFE E l' ∧ IsTup (obA s')) := by
  refine Tot.forIn (fun s' => ∃ l', s'.1 = mk a l' ∧ WFE E l' ∧ IsTup (obA s')) adsbBody _ ?_ s ⟨l0, hs, hwf, hob⟩
  intro it hit s1 ⟨l1, hs1, hwf1, hob1⟩
  obtain ⟨p, hp, rfl⟩ := List.mem_map.1 hit
  obtain ⟨h1, h2, n, h3, h4, h5, h6⟩ := hq p hp
  exact adsbBody_totalE hE hE3 a l1 p.1 p.2 h1 h2 n h3 h4 h5 h6 s1 hs1 hwf1 hob1

theorem wfE_evict {E : List (Val × Val) → Prop} {acs : List (Val × Val)} (h : WFE E acs) (t timeout : Rat) :
    WFE E (evict t timeout acs) :=
  ⟨keysOK_evict h.1 t timeout, fun kv hkv => h.2 kv (List.mem_of_mem_filter hkv)⟩

/-- a receiver `process_raw` can be called on: `acs` a table satisfying `WFE E`, `cache_timeout` a number, `dumpto` `None` -/
def RecvE (E : List (Val × Val) → Prop) (self : Val) : Prop :=
  ∃ attrs acs timeout, self = .dict attrs ∧ dictFind attrs (attrKey "acs") = some (.dict acs) ∧ WFE E acs ∧
    dictFind attrs (attrKey "cache_timeout") = some (.num timeout) ∧
    dictFind attrs (attrKey "dumpto") = some .none

/-- **totality of `Decode.process_raw` (generated)**: ADS-B frames of any type code outside 5–18 (`FrameE`), any 28-digit
    hex Comm-B frames, numeric time stamps and `tnow`, `dumpto = None`: the call returns `(self', None)` and `self'` is
    again a receiver it can be called on -/
theorem process_raw_totalE {E : List (Val × Val) → Prop} (hE : Stable E) (hE3 : E freshEntry) (self : Val)
    (adsb commb : List (Rat × Msg)) (t : Rat) (hself : RecvE E self)
    (hadsb : ∀ p ∈ adsb, FrameE E p.2) (hcommb : ∀ p ∈ commb, IsHex p.2 ∧ p.2.length = 28) :
    ∃ self', Gen.decode.Decode_process_raw self (tsOf adsb) (msgsOf adsb) (tsOf commb) (msgsOf commb) (.num t) =
      .val (.tuple [self', .none]) ∧ RecvE E self' := by
  obtain ⟨attrs, acs, timeout, rfl, hacs, hwf, hto, hdump⟩ := hself
  rw [process_raw_num]
  have hset := set_t t hacs
  have ht' : dictFind (setPair (attrKey "t") (.num t) attrs) (attrKey "t") = _ := Beast.dictFind_setPair_same _ _ _
  have hto' := (dictFind_setPair_attr (n := "t") (by decide) (.num t) attrs).trans hto
  have hdump' := (dictFind_setPair_attr (n := "t") (by decide) (.num t) attrs).trans hdump
  generalize setPair (attrKey "t") (.num t) attrs = a' at hset ht' hto' hdump'
  have key : Tot (phases (.dict attrs) (tsOf adsb) (msgsOf adsb) (tsOf commb) (msgsOf commb) (.num t))
      (fun r => ∃ self', r = .tuple [self', .none] ∧ RecvE E self') := by
    unfold phases
    have hit : ∀ l, pyIter (.tuple l) = .val l := fun _ => rfl
    rw [hset, bind_val', pyZip_batch, bind_val', hit, bind_val']
    refine Tot.bind (adsbLoop_totalE hE hE3 a' adsb hadsb acs _ rfl hwf ⟨[], rfl⟩) ?_
    rintro s1 ⟨l1, hs1, hwf1, hob1⟩
    rw [pyZip_batch, bind_val', hit, bind_val']
    refine Tot.bind (commbLoop_totalE hE a' commb hcommb l1 _ hs1 hwf1 hob1) ?_
    rintro s2 ⟨l2, hs2, hwf2, _⟩
    rw [hs2, get_acs, bind_val', iter_keys]
    obtain ⟨ic', hev⟩ := evict_loop_spec a' l2 t timeout s2.2.2.2.1 ht' hto' hwf2.1
      (fun kv hkv => let ⟨d, hd, hn, _⟩ := hwf2.2 kv hkv; liveOf_of_entOK ⟨d, hd, hn.1, hn.2⟩)
    rw [hev, bind_val']
    have hd : pyGetAttr (mk a' (evict t timeout l2)) "dumpto" = .val .none := by
      rw [get_dumpto]; simp only [pyGetAttr, hdump']
    simp only []
    rw [hd, bind_val']
    have hnn : pyIsNot Val.none Val.none = .val (.bool false) := rfl
    rw [hnn, bind_val', pyTruth_bool, if_neg (by decide)]
    exact Tot.pure ⟨_, rfl, _, evict t timeout l2, timeout, rfl, Beast.dictFind_setPair_same _ _ _,
      wfE_evict hwf2 t timeout, (dictFind_setPair_attr (by decide) _ _).trans hto',
      (dictFind_setPair_attr (by decide) _ _).trans hdump'⟩
  obtain ⟨r, hr, self', rfl, hok⟩ := key
  exact ⟨self', hr, hok⟩

/-- a call: the ADS-B batch, the Comm-B batch, `tnow` -/
abbrev Call := List (Rat × Msg) × List (Rat × Msg) × Rat

/-- a history of calls, each on the receiver the previous one returned -/
def runHistory : Val → List Call → Res Val
  | self, [] => .val self
  | self, c :: cs =>
    Gen.decode.Decode_process_raw self (tsOf c.1) (msgsOf c.1) (tsOf c.2.1) (msgsOf c.2.1) (.num c.2.2) >>= fun r =>
      pyIdxN r 0 >>= fun self' => runHistory self' cs

/-- **no call of a history ever raises**: from any good receiver every call returns and the final receiver is good -/
theorem history_totalE {E : List (Val × Val) → Prop} (hE : Stable E) (hE3 : E freshEntry) (self : Val)
    (calls : List Call) (hself : RecvE E self)
    (hcalls : ∀ c ∈ calls, (∀ p ∈ c.1, FrameE E p.2) ∧ (∀ p ∈ c.2.1, IsHex p.2 ∧ p.2.length = 28)) :
    ∃ self', runHistory self calls = .val self' ∧ RecvE E self' := by
  induction calls generalizing self with
  | nil => exact ⟨self, rfl, hself⟩
  | cons c cs ih =>
    obtain ⟨self1, h1, hok1⟩ := process_raw_totalE hE hE3 self c.1 c.2.1 c.2.2 hself (hcalls c (by simp)).1
      (hcalls c (by simp)).2
    obtain ⟨self', h', hok'⟩ := ih self1 hok1 (fun c' hc' => hcalls c' (List.mem_cons_of_mem _ hc'))
    refine ⟨self', ?_, hok'⟩
    unfold runHistory
    rw [h1, bind_val']
    have : pyIdxN (.tuple [self1, Val.none]) 0 = .val self1 := rfl
    rw [this, bind_val', h']

/-- the freshly constructed `Decode()` (no `latlon`, no `dumpto`): `acs = {}`, `t = 0`, `cache_timeout = 60` -/
def freshDecode : Val :=
  .dict [(attrKey "acs", .dict []), (attrKey "lat0", .none), (attrKey "lon0", .none), (attrKey "t", .num 0),
    (attrKey "cache_timeout", .num 60), (attrKey "dumpto", .none)]

theorem recvE_fresh (E : List (Val × Val) → Prop) : RecvE E freshDecode := by
  -- `attrKey_beq` compares attribute names as strings; a plain `rfl` would compare their character lists
  refine ⟨_, [], 60, rfl, ?_, ⟨⟨fun _ h => (nomatch h), List.nodup_nil⟩, fun _ h => (nomatch h)⟩, ?_, ?_⟩ <;>
    simp only [Beast.dictFind_cons, Beast.attrKey_beq] <;> rfl

/-! ### under `WF`: type codes 0, 1–4, 23–28, 30 -/

/-- ADS-B frames the loop is total for under `WF` alone: 28 hex digits, DF 17/18 (`typecode` defined) and a type code
    for which `process_raw` calls no decoder (0, 23–28, 30) or only `callsign` (1–4, identification) -/
def QuietFrame (m : Msg) : Prop :=
  IsHex m ∧ m.length = 28 ∧ ∃ n, PyModeS.typecode m = some n ∧ (QuietTC n ∨ (1 ≤ n ∧ n ≤ 4))

theorem frameE_of_quiet {E : List (Val × Val) → Prop} {m : Msg} (h : QuietFrame m) : FrameE E m := by
  obtain ⟨h1, h2, n, h3, h4⟩ := h
  refine ⟨h1, h2, n, h3, ?_, h4.imp_right Or.inl, ?_⟩ <;> (unfold QuietTC at h4; omega)

/-- **the ADS-B loop is total under `WF` and keeps it**, for quiet frames -/
theorem adsbLoop_total_quiet_tie (a : List (Val × Val)) (pairs : List (Rat × Msg))
    (hq : ∀ p ∈ pairs, QuietFrame p.2) (l0 : List (Val × Val))
    (s : Val × Val × Val × Val × Val × Val × Val × Val × Val × Val × Val × Val × Val × Val × Val × Val × Val × Val)
    (hs : s.1 = mk a l0) (hwf : WF l0) (hob : IsTup (obA s)) :
    Tot (forIn (pairs.map encMsg) s adsbBody) (fun s' => ∃ l', s'.1 = mk a l' ∧ WF l' ∧ IsTup (obA s')) :=
  (adsbLoop_totalE stable_true trivial a pairs (fun p hp => frameE_of_quiet (hq p hp)) l0 s hs ((wf_iff _).1 hwf) hob).mono
    fun _ ⟨l', h1, h2, h3⟩ => ⟨l', h1, (wf_iff _).2 h2, h3⟩

/-- a receiver `process_raw` can be called on: `acs` a `WF` table, `cache_timeout` a number, `dumpto` `None` -/
def RecvOK (self : Val) : Prop :=
  ∃ attrs acs timeout, self = .dict attrs ∧ dictFind attrs (attrKey "acs") = some (.dict acs) ∧ WF acs ∧
    dictFind attrs (attrKey "cache_timeout") = some (.num timeout) ∧
    dictFind attrs (attrKey "dumpto") = some .none

theorem recvOK_iff (self : Val) : RecvOK self ↔ RecvE (fun _ => True) self :=
  ⟨fun ⟨as, acs, tm, h1, h2, h3, h4⟩ => ⟨as, acs, tm, h1, h2, (wf_iff _).1 h3, h4⟩,
    fun ⟨as, acs, tm, h1, h2, h3, h4⟩ => ⟨as, acs, tm, h1, h2, (wf_iff _).2 h3, h4⟩⟩

/-- **totality of `Decode.process_raw` (generated)**, quiet ADS-B frames, any 28-digit hex Comm-B frames, numeric time
    stamps and `tnow`: the call returns `(self', None)` and `self'` is again a receiver it can be called on
    (in particular its table is `WF`) -/
theorem process_raw_total_quiet_tie (self : Val) (adsb commb : List (Rat × Msg)) (t : Rat) (hself : RecvOK self)
    (hadsb : ∀ p ∈ adsb, QuietFrame p.2) (hcommb : ∀ p ∈ commb, IsHex p.2 ∧ p.2.length = 28) :
    ∃ self', Gen.decode.Decode_process_raw self (tsOf adsb) (msgsOf adsb) (tsOf commb) (msgsOf commb) (.num t) =
      .val (.tuple [self', .none]) ∧ RecvOK self' :=
  let ⟨self', h, hok⟩ := process_raw_totalE stable_true trivial self adsb commb t ((recvOK_iff _).1 hself)
    (fun p hp => frameE_of_quiet (hadsb p hp)) hcommb
  ⟨self', h, (recvOK_iff _).2 hok⟩

/-- **no call of a history ever raises** (quiet ADS-B frames, 28-digit hex Comm-B frames): from any good receiver, in
    particular from the freshly constructed one (`acs = {}`, `WF []`), every call returns and the final receiver is good -/
theorem history_total_tie (self : Val) (calls : List Call) (hself : RecvOK self)
    (hcalls : ∀ c ∈ calls, (∀ p ∈ c.1, QuietFrame p.2) ∧ (∀ p ∈ c.2.1, IsHex p.2 ∧ p.2.length = 28)) :
    ∃ self', runHistory self calls = .val self' ∧ RecvOK self' :=
  let ⟨self', h, hok⟩ := history_totalE stable_true trivial self calls ((recvOK_iff _).1 hself)
    (fun c hc => ⟨fun p hp => frameE_of_quiet ((hcalls c hc).1 p hp), (hcalls c hc).2⟩)
  ⟨self', h, (recvOK_iff _).2 hok⟩

theorem recvOK_fresh : RecvOK freshDecode := (recvOK_iff _).2 (recvE_fresh _)

theorem history_total_fresh_tie (calls : List Call)
    (hcalls : ∀ c ∈ calls, (∀ p ∈ c.1, QuietFrame p.2) ∧ (∀ p ∈ c.2.1, IsHex p.2 ∧ p.2.length = 28)) :
    ∃ self', runHistory freshDecode calls = .val self' ∧ RecvOK self' :=
  history_total_tie freshDecode calls recvOK_fresh hcalls

/-! ### under `WF2`: also type codes 19, 29, 31 -/

/-- a receiver `process_raw` can be called on (richer invariant) -/
def RecvOK2 (self : Val) : Prop :=
  ∃ attrs acs timeout, self = .dict attrs ∧ dictFind attrs (attrKey "acs") = some (.dict acs) ∧ WF2 acs ∧
    dictFind attrs (attrKey "cache_timeout") = some (.num timeout) ∧
    dictFind attrs (attrKey "dumpto") = some .none

theorem recvOK2_fresh : RecvOK2 freshDecode := recvE_fresh Ext

/-- type code 29 (target state / operational status precursor): `sil`, `nac_p` -/
theorem adsbBody_total2_tc29 (a l0 : List (Val × Val)) (q : Rat) (m : Msg) (hm : IsHex m) (hl : m.length = 28)
    (n : Nat) (htc : PyModeS.typecode m = some n) (hn : n = 29)
    (s : Val × Val × Val × Val × Val × Val × Val × Val × Val × Val × Val × Val × Val × Val × Val × Val × Val × Val)
    (hs : s.1 = mk a l0) (hwf : WF2 l0) (hob : IsTup (obA s)) :
    Tot (adsbBody (.tuple [.num q, .str m]) s)
      (fun r => ∃ s', r = .yield s' ∧ ∃ l', s'.1 = mk a l' ∧ WF2 l' ∧ IsTup (obA s')) :=
  adsbBody_totalE stable_ext ext_fresh a l0 q m hm hl n htc (by omega) (.inr (.inr rfl)) (by omega) s hs hwf hob

/-- type code 31 (operational status): `version`, `nac_p`, `sil`, then `nic_s` (version 1) or `nic_a_c` (version 2) -/
theorem adsbBody_total2_tc31 (a l0 : List (Val × Val)) (q : Rat) (m : Msg) (hm : IsHex m) (hl : m.length = 28)
    (n : Nat) (htc : PyModeS.typecode m = some n) (hn : n = 31)
    (s : Val × Val × Val × Val × Val × Val × Val × Val × Val × Val × Val × Val × Val × Val × Val × Val × Val × Val)
    (hs : s.1 = mk a l0) (hwf : WF2 l0) (hob : IsTup (obA s)) :
    Tot (adsbBody (.tuple [.num q, .str m]) s)
      (fun r => ∃ s', r = .yield s' ∧ ∃ l', s'.1 = mk a l' ∧ WF2 l' ∧ IsTup (obA s')) :=
  adsbBody_totalE stable_ext ext_fresh a l0 q m hm hl n htc (by omega) (.inr (.inr rfl)) (by omega) s hs hwf hob

/-- type code 19 (airborne velocity): `velocity`, `nuc_v`, `nac_v`; under `FloatFinite` -/
theorem adsbBody_total2_tc19 (hf : PyModeS.Tie.Bds09.FloatFinite) (a l0 : List (Val × Val)) (q : Rat) (m : Msg)
    (hm : IsHex m) (hl : m.length = 28)
    (n : Nat) (htc : PyModeS.typecode m = some n) (hn : n = 19)
    (s : Val × Val × Val × Val × Val × Val × Val × Val × Val × Val × Val × Val × Val × Val × Val × Val × Val × Val)
    (hs : s.1 = mk a l0) (hwf : WF2 l0) (hob : IsTup (obA s)) :
    Tot (adsbBody (.tuple [.num q, .str m]) s)
      (fun r => ∃ s', r = .yield s' ∧ ∃ l', s'.1 = mk a l' ∧ WF2 l' ∧ IsTup (obA s')) :=
  adsbBody_totalE stable_ext ext_fresh a l0 q m hm hl n htc (by omega) (.inr (.inr rfl)) (fun _ => hf) s hs hwf hob

/-- type codes 0, 23–28, 30: no decoder is called -/
theorem adsbBody_total2_quiet (a l0 : List (Val × Val)) (q : Rat) (m : Msg) (hm : IsHex m) (hl : m.length = 28)
    (n : Nat) (htc : PyModeS.typecode m = some n) (hn : QuietTC n)
    (s : Val × Val × Val × Val × Val × Val × Val × Val × Val × Val × Val × Val × Val × Val × Val × Val × Val × Val)
    (hs : s.1 = mk a l0) (hwf : WF2 l0) (hob : IsTup (obA s)) :
    Tot (adsbBody (.tuple [.num q, .str m]) s)
      (fun r => ∃ s', r = .yield s' ∧ ∃ l', s'.1 = mk a l' ∧ WF2 l' ∧ IsTup (obA s')) :=
  adsbBody_totalE stable_ext ext_fresh a l0 q m hm hl n htc (by unfold QuietTC at hn; omega) (.inl hn)
    (by unfold QuietTC at hn; omega) s hs hwf hob

/-- type codes 1–4 (identification): `callsign` -/
theorem adsbBody_total2_ident (a l0 : List (Val × Val)) (q : Rat) (m : Msg) (hm : IsHex m) (hl : m.length = 28)
    (n : Nat) (htc : PyModeS.typecode m = some n) (hn : 1 ≤ n ∧ n ≤ 4)
    (s : Val × Val × Val × Val × Val × Val × Val × Val × Val × Val × Val × Val × Val × Val × Val × Val × Val × Val)
    (hs : s.1 = mk a l0) (hwf : WF2 l0) (hob : IsTup (obA s)) :
    Tot (adsbBody (.tuple [.num q, .str m]) s)
      (fun r => ∃ s', r = .yield s' ∧ ∃ l', s'.1 = mk a l' ∧ WF2 l' ∧ IsTup (obA s')) :=
  adsbBody_totalE stable_ext ext_fresh a l0 q m hm hl n htc (by omega) (.inr (.inl hn)) (by omega) s hs hwf hob

/-- one pass of the Comm-B loop body is total and keeps `WF2` -/
theorem commbBody_total2 (a l0 : List (Val × Val)) (q : Rat) (m : Msg) (hm : IsHex m) (hl : m.length = 28)
    (s : Val × Val × Val × Val × Val × Val × Val × Val × Val × Val × Val × Val × Val × Val × Val × Val)
    (hs : s.1 = mk a l0) (hwf : WF2 l0) (hob : IsTup (obC s)) :
    Tot (commbBody (.tuple [.num q, .str m]) s)
      (fun r => ∃ s', r = .yield s' ∧ ∃ l', s'.1 = mk a l' ∧ WF2 l' ∧ IsTup (obC s')) :=
  commbBody_totalE stable_ext a l0 q m hm hl s hs hwf hob

theorem commbLoop_total2_tie (a : List (Val × Val)) (pairs : List (Rat × Msg))
    (hhex : ∀ p ∈ pairs, IsHex p.2 ∧ p.2.length = 28) (l0 : List (Val × Val))
    (s : Val × Val × Val × Val × Val × Val × Val × Val × Val × Val × Val × Val × Val × Val × Val × Val)
    (hs : s.1 = mk a l0) (hwf : WF2 l0) (hob : IsTup (obC s)) :
    Tot (forIn (pairs.map encMsg) s commbBody) (fun s' => ∃ l', s'.1 = mk a l' ∧ WF2 l' ∧ IsTup (obC s')) :=
  commbLoop_totalE stable_ext a pairs hhex l0 s hs hwf hob

/-- ADS-B frames covered here: 28 hex digits, DF 17/18, type code in {0, 1–4, 19, 23–31} (i.e. every type code except the
    position / velocity-on-ground range 5–18 and 20–22) -/
def Frame2 (m : Msg) : Prop :=
  IsHex m ∧ m.length = 28 ∧ ∃ n, PyModeS.typecode m = some n ∧
    (QuietTC n ∨ (1 ≤ n ∧ n ≤ 4) ∨ n = 19 ∨ n = 29 ∨ n = 31)

theorem frameE_of_frame2 (hf : PyModeS.Tie.Bds09.FloatFinite) {m : Msg} (h : Frame2 m) : FrameE Ext m := by
  obtain ⟨h1, h2, n, h3, h4⟩ := h
  refine ⟨h1, h2, n, h3, ?_, .inr (.inr rfl), fun _ => hf⟩
  unfold QuietTC at h4; omega

/-- **the ADS-B loop is total under `WF2` and keeps it**, for `Frame2` frames, under `FloatFinite` -/
theorem adsbLoop_total2_tie (hf : PyModeS.Tie.Bds09.FloatFinite) (a : List (Val × Val)) (pairs : List (Rat × Msg))
    (hq : ∀ p ∈ pairs, Frame2 p.2) (l0 : List (Val × Val))
    (s : Val × Val × Val × Val × Val × Val × Val × Val × Val × Val × Val × Val × Val × Val × Val × Val × Val × Val)
    (hs : s.1 = mk a l0) (hwf : WF2 l0) (hob : IsTup (obA s)) :
    Tot (forIn (pairs.map encMsg) s adsbBody) (fun s' => ∃ l', s'.1 = mk a l' ∧ WF2 l' ∧ IsTup (obA s')) :=
  adsbLoop_totalE stable_ext ext_fresh a pairs (fun p hp => frameE_of_frame2 hf (hq p hp)) l0 s hs hwf hob

/-- **totality of `Decode.process_raw` (generated)** for ADS-B frames of type code 0, 1–4, 19, 23–31 (`Frame2`), any
    28-digit hex Comm-B frames, numeric time stamps and `tnow`, `dumpto = None`, under `FloatFinite`: the call returns
    `(self', None)` and `self'` satisfies `RecvOK2` again -/
theorem process_raw_total2_tie (hf : PyModeS.Tie.Bds09.FloatFinite) (self : Val) (adsb commb : List (Rat × Msg))
    (t : Rat) (hself : RecvOK2 self)
    (hadsb : ∀ p ∈ adsb, Frame2 p.2) (hcommb : ∀ p ∈ commb, IsHex p.2 ∧ p.2.length = 28) :
    ∃ self', Gen.decode.Decode_process_raw self (tsOf adsb) (msgsOf adsb) (tsOf commb) (msgsOf commb) (.num t) =
      .val (.tuple [self', .none]) ∧ RecvOK2 self' :=
  process_raw_totalE stable_ext ext_fresh self adsb commb t hself (fun p hp => frameE_of_frame2 hf (hadsb p hp)) hcommb

theorem history_total2_tie (hf : PyModeS.Tie.Bds09.FloatFinite) (self : Val) (calls : List Call) (hself : RecvOK2 self)
    (hcalls : ∀ c ∈ calls, (∀ p ∈ c.1, Frame2 p.2) ∧ (∀ p ∈ c.2.1, IsHex p.2 ∧ p.2.length = 28)) :
    ∃ self', runHistory self calls = .val self' ∧ RecvOK2 self' :=
  history_totalE stable_ext ext_fresh self calls hself
    (fun c hc => ⟨fun p hp => frameE_of_frame2 hf ((hcalls c hc).1 p hp), (hcalls c hc).2⟩)

/-- **no call of a history ever raises**, from the freshly constructed `Decode()`: ADS-B frames of type code 0, 1–4,
    19, 23–31, any 28-digit hex Comm-B frames, under `FloatFinite` -/
theorem history_total2_fresh_tie (hf : PyModeS.Tie.Bds09.FloatFinite) (calls : List Call)
    (hcalls : ∀ c ∈ calls, (∀ p ∈ c.1, Frame2 p.2) ∧ (∀ p ∈ c.2.1, IsHex p.2 ∧ p.2.length = 28)) :
    ∃ self', runHistory freshDecode calls = .val self' ∧ RecvOK2 self' :=
  history_total2_tie hf freshDecode calls recvOK2_fresh hcalls


/-! audited names -/
theorem wf_of_wf2_tie : type_of% @wf_of_wf2 := @wf_of_wf2
theorem adsbBody_total2_tc29_tie : type_of% @adsbBody_total2_tc29 := @adsbBody_total2_tc29
theorem adsbBody_total2_tc31_tie : type_of% @adsbBody_total2_tc31 := @adsbBody_total2_tc31
theorem adsbBody_total2_tc19_tie : type_of% @adsbBody_total2_tc19 := @adsbBody_total2_tc19
theorem adsbBody_total2_quiet_tie : type_of% @adsbBody_total2_quiet := @adsbBody_total2_quiet
theorem adsbBody_total2_ident_tie : type_of% @adsbBody_total2_ident := @adsbBody_total2_ident
theorem commbBody_total2_tie : type_of% @commbBody_total2 := @commbBody_total2

end PyModeS.Tie.DecodeDirect
