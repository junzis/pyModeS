/-
  Tie: generated `bds05.airborne_position` / `bds06.surface_position` (globally unambiguous CPR decoding from an
  even/odd pair of frames) = hand model (`airbornePosition` / `surfacePosition` of `Model/CPR.lean`).

  * `airborne_position_tie`: any two hex strings of at least 22 digits (88 bits: all CPR fields present; in
    particular the 28-digit frames), time stamps any two rationals.  Result encoding `CprGlobal.encOptPos`:
    `None ↦ Val.none`, `(lat, lon) ↦ Val.tuple [.num lat, .num lon]`.
    The length hypothesis is needed: on shorter strings the two models raise in a different order (e.g. two
    14-digit frames with equal format bits: Python reads both format bits first and raises `RuntimeError`
    (`rte`), the hand model reads all the fields of the first frame first and reports `exc` for the empty longitude
    slice).  Frames of 56 bits never carry a position, so this is outside the domain of every property.
  * `surface_position_tie`: any two non-empty hex strings (both models read the fields in the same order, so
    the failures on short strings agree as well), time stamps and reference position any four rationals.

  Both functions are the same straight-line blocks (zone index and candidate latitudes, zone test, longitude of the
  newer frame) with the zone size 360 or 90 as a parameter and different treatment of the results in between.  Each
  block is a lemma in `namespace PyModeS.Tie.CprGlobal` whose right side is the intermediate value of
  `Proofs/CPR/Global.lean`, `Surface.lean` that `C03.decode_unfold` / `C05.decode_unfold` give the hand model in.
-/
import PyModeS.Tie.Basic
import PyModeS.Tie.Common
import PyModeS.Tie.Cpr
import PyModeS.Generated.Src.bds05
import PyModeS.Generated.Src.bds06
import PyModeS.Properties.C03
import PyModeS.Properties.C05

namespace PyModeS.Tie
open PyModeS PyModeS.Py PyModeS.CRC

namespace CprGlobal

/-! ### number lemmas -/

/-- Python `%` of two integers held as rationals is `Int.emod` (positive divisor) -/
theorem rat_mod_int (j : Int) (n : Nat) :
    (j : Rat) - (n : Rat) * ((((j : Rat) / (n : Rat)).floor : Int) : Rat) = ((j % (n : Int) : Int) : Rat) := by
  have hf : Rat.floor ((j : Rat) / (n : Rat)) = j / (n : Int) := by
    have : Rat.floor ((j : Rat) / (n : Rat)) = ⌊(j : Rat) / (n : Rat)⌋ := rfl
    rw [this, Rat.floor_intCast_div_natCast]
  rw [hf, Int.emod_def]
  push_cast
  ring

theorem pyMod_int_nat (j : Int) (n : Nat) (hn : n ≠ 0) :
    pyMod (.num (j : Rat)) (.num (n : Rat)) = .val (.num ((j % (n : Int) : Int) : Rat)) := by
  have hne : ¬ ((n : Rat) = 0) := by exact_mod_cast hn
  simp only [pyMod, num?_num, if_neg hne, rat_mod_int j n]

theorem pyMod_int_lit (j : Int) (n : Nat) [n.AtLeastTwo] :
    pyMod (.num (j : Rat)) (.num (OfNat.ofNat n)) = .val (.num ((j % (OfNat.ofNat n : Int) : Int) : Rat)) := by
  have h2 : 2 ≤ n := Nat.AtLeastTwo.prop
  simpa only [Nat.cast_ofNat] using pyMod_int_nat j (OfNat.ofNat n) (by omega : n ≠ 0)

theorem pyFloat_num (q : Rat) : pyFloat (.num q) = .val (.num q) := rfl

/-- `max(n - k, 1)` for `k = 0, 1`: the Python number is the cast of the natural number of the hand model -/
theorem pyMax2_sub_one (n k : Nat) :
    pyMax2 (.num ((n : Rat) - (k : Rat))) (.num 1) = .val (.num ((max (n - k) 1 : Nat) : Rat)) := by
  simp only [pyMax2, num?_num]
  by_cases hlt : (n : Rat) - (k : Rat) < 1
  · have h1 : n - k ≤ 1 := by
      have : (n : Rat) < ((k + 1 : Nat) : Rat) := by push_cast; linarith
      have : n < k + 1 := by exact_mod_cast this
      omega
    rw [if_pos hlt, Nat.max_eq_right h1]
    simp
  · have h1 : k + 1 ≤ n := by
      have : ((k + 1 : Nat) : Rat) ≤ (n : Rat) := by push_cast; linarith
      exact_mod_cast this
    rw [if_neg hlt, Nat.max_eq_left (by omega), Nat.cast_sub (by omega)]

theorem pyNe_nat (a b : Nat) : pyNe (.num (a : Rat)) (.num (b : Rat)) = .val (.bool (decide (a ≠ b))) := by
  rw [pyNe_num]
  by_cases h : a = b
  · simp [h]
  · have : ¬ ((a : Rat) = (b : Rat)) := by exact_mod_cast h
    simp [h, this]

/-- `if x >= c: x = x - d` followed by the rest `k` of the function -/
theorem wrap_ge (k : Val → Res Val) (x c d : Rat) :
    (do let g ← pyGe (Val.num x) (Val.num c)
        if pyTruth g = true then (do let y ← pySub (Val.num x) (Val.num d); k y) else k (Val.num x)) =
      k (Val.num (if x ≥ c then x - d else x)) := by
  rw [pyGe_num, bind_val', pyTruth_bool]
  by_cases h : c ≤ x
  · rw [if_pos (decide_eq_true h), pySub_num, bind_val', if_pos (ge_iff_le.mpr h)]
  · rw [if_neg (by simpa using h), if_neg (by simpa using h)]

/-- `if x > c: x = x - d` followed by the rest `k` of the function -/
theorem wrap_gt (k : Val → Res Val) (x c d : Rat) :
    (do let g ← pyGt (Val.num x) (Val.num c)
        if pyTruth g = true then (do let y ← pySub (Val.num x) (Val.num d); k y) else k (Val.num x)) =
      k (Val.num (if x > c then x - d else x)) := by
  rw [pyGt_num, bind_val', pyTruth_bool]
  by_cases h : c < x
  · rw [if_pos (decide_eq_true h), pySub_num, bind_val', if_pos (gt_iff_lt.mpr h)]
  · rw [if_neg (by simpa using h), if_neg (by simpa using h)]

theorem sel_num (p : Prop) [Decidable p] (a b : Rat) :
    (if pyTruth (Val.bool (decide p)) = true then (pure (Val.num a) : Res Val) else pure (Val.num b)) =
      .val (.num (if p then a else b)) := by
  by_cases h : p <;> simp [h]

theorem pyMod_360 (x : Rat) : pyMod (.num x) (.num 360) = .val (.num (rmod360 x)) := by
  have h : ¬ ((360 : Rat) = 0) := by norm_num
  simp only [pyMod, num?_num, if_neg h, rmod360]

/-! ### the blocks of the two decoders, the rest of the function as continuation `k` -/

/-- the zone index `j` and the two candidate latitudes from the encoded latitudes `a`, `b` (`base` 360 or 90) -/
theorem lat_zone (base : Rat) (a b : Nat) (k : Val → Val → Res Val) :
    (do let dE ← pyDiv (.num base) (.num 60)
        let dO ← pyDiv (.num base) (.num 59)
        let x ← pyMul (.num 59) (.num ((a : Rat) / 131072))
        let y ← pyMul (.num 60) (.num ((b : Rat) / 131072))
        let x ← pySub x y
        let x ← pyAdd x (.num (1 / 2))
        let j ← Gen.Ext.common_floor x
        let x ← pyMod j (.num 60)
        let x ← pyAdd x (.num ((a : Rat) / 131072))
        let x ← pyMul dE x
        let latE ← pyFloat x
        let x ← pyMod j (.num 59)
        let x ← pyAdd x (.num ((b : Rat) / 131072))
        let x ← pyMul dO x
        let latO ← pyFloat x
        k latE latO) = k (.num (CPR.latEvenRaw base a b)) (.num (CPR.latOddRaw base a b)) := by
  rw [pyDiv_lit, bind_val', pyDiv_lit, bind_val', pyMul_num, bind_val', pyMul_num, bind_val', pySub_num, bind_val',
    pyAdd_num, bind_val', common_floor_num, bind_val', pyMod_int_lit, bind_val', pyAdd_num, bind_val', pyMul_num,
    bind_val', pyFloat_num, bind_val', pyMod_int_lit, bind_val', pyAdd_num, bind_val', pyMul_num, bind_val',
    pyFloat_num, bind_val']
  rfl

/-- `if lat >= 270: lat = lat - 360` -/
theorem wrap270 (k : Val → Res Val) (x : Rat) :
    (do let g ← pyGe (Val.num x) (Val.num 270)
        if pyTruth g = true then (do let y ← pySub (Val.num x) (Val.num 360); k y) else k (Val.num x)) =
      k (Val.num (CPR.wrap270 x)) :=
  wrap_ge k x 270 360

/-- `if lon > 180: lon = lon - 360` -/
theorem wrap180 (k : Val → Res Val) (x : Rat) :
    (do let g ← pyGt (Val.num x) (Val.num 180)
        if pyTruth g = true then (do let y ← pySub (Val.num x) (Val.num 360); k y) else k (Val.num x)) =
      k (Val.num (CPR.wrap180 x)) :=
  wrap_gt k x 180 360

/-- surface: of each northern candidate `x` and `x - 90` the one closer to the reference latitude -/
theorem hemi_choice (xE xO la : Rat) (k : Val → Val → Res Val) :
    (do let sE ← pySub (.num xE) (.num 90)
        let sO ← pySub (.num xO) (.num 90)
        let x ← pySub (.num xE) (.num la)
        let x ← pyAbs x
        let y ← pySub sE (.num la)
        let y ← pyAbs y
        let north ← pyLe x y
        let latE ← (if pyTruth north = true then pure (.num xE) else pure sE : Res Val)
        let x ← pySub (.num xO) (.num la)
        let x ← pyAbs x
        let y ← pySub sO (.num la)
        let y ← pyAbs y
        let north ← pyLe x y
        let latO ← (if pyTruth north = true then pure (.num xO) else pure sO : Res Val)
        k latE latO) = k (.num (CPR.hemi la xE)) (.num (CPR.hemi la xO)) := by
  simp only [pySub_num, pyAbs_num, pyLe_num, sel_num, bind_val']
  rfl

/-- `cprNL(lat_even) != cprNL(lat_odd)` -/
theorem zone_test (latE latO : Rat) (k : Val → Res Val) :
    (do let a ← Gen.Ext.common_cprNL (.num latE)
        let b ← Gen.Ext.common_cprNL (.num latO)
        let c ← pyNe a b
        k c) = k (.bool (decide (cprNL latE ≠ cprNL latO))) := by
  rw [common_cprNL_num, bind_val', common_cprNL_num, bind_val', pyNe_nat, bind_val']

/-- the longitude from the encoded longitudes `x0`, `x1` in the zones of `lat`, for the newer frame: `i = 0` and
    `xs = x0` (even) or `i = 1` and `xs = x1` (odd) -/
theorem lon_zone (base lat i : Rat) (p x0 x1 xs : Nat) (hi : i = p) (k : Val → Val → Val → Val → Res Val) :
    (do let nl ← Gen.Ext.common_cprNL (.num lat)
        let x ← Gen.Ext.common_cprNL (.num lat)
        let x ← pySub x (.num i)
        let ni ← pyMax2 x (.num 1)
        let x ← pySub nl (.num 1)
        let x ← pyMul (.num ((x0 : Rat) / 131072)) x
        let y ← pyMul (.num ((x1 : Rat) / 131072)) nl
        let x ← pySub x y
        let x ← pyAdd x (.num (1 / 2))
        let m ← Gen.Ext.common_floor x
        let x ← pyDiv (.num base) ni
        let y ← pyMod m ni
        let y ← pyAdd y (.num ((xs : Rat) / 131072))
        let lon ← pyMul x y
        k nl ni m lon) =
      k (.num (cprNL lat : Nat)) (.num (max (cprNL lat - p) 1 : Nat)) (.num (CPR.gM (cprNL lat) x0 x1))
        (.num (CPR.lonRaw base (cprNL lat) p x0 x1 xs)) := by
  have h0 : max (cprNL lat - p) 1 ≠ 0 := by omega
  have h0' : ((max (cprNL lat - p) 1 : Nat) : Rat) ≠ 0 := by exact_mod_cast h0
  rw [hi, common_cprNL_num, bind_val', bind_val', pySub_num, bind_val', pyMax2_sub_one, bind_val', pySub_num,
    bind_val', pyMul_num, bind_val', pyMul_num, bind_val', pySub_num, bind_val', pyAdd_num, bind_val',
    common_floor_num, bind_val', pyDiv_num _ _ h0', bind_val', pyMod_int_nat _ _ h0, bind_val', pyAdd_num,
    bind_val', pyMul_num, bind_val']
  rfl

theorem argBest_go (ys : List Rat) (best : Rat) (bi i : Nat) :
    ∃ q, argBest (fun q b => decide (q < b)) (ys.map Val.num) i (some (bi, best)) =
      some (argminFirst.go best bi i ys, q) := by
  induction ys generalizing best bi i with
  | nil => exact ⟨best, rfl⟩
  | cons y ys ih =>
    simp only [List.map_cons, argBest, num?_num, argminFirst.go]
    by_cases h : y < best
    · simp only [h, decide_true, if_true]
      exact ih y i (i + 1)
    · simp only [h, decide_false, Bool.false_eq_true, if_false]
      exact ih best bi (i + 1)

theorem go_lt (ys : List Rat) (best : Rat) (bi i : Nat) (h : bi < i) :
    argminFirst.go best bi i ys < i + ys.length := by
  induction ys generalizing best bi i with
  | nil => simpa [argminFirst.go] using h
  | cons y ys ih =>
    simp only [argminFirst.go, List.length_cons]
    split_ifs
    · have := ih y i (i + 1) (by omega); omega
    · have := ih best bi (i + 1) (by omega); omega

/-- `min(range(4), key=dls.__getitem__)` on a list of four numbers -/
theorem argmin4 (d0 d1 d2 d3 : Rat) :
    pyArgMin (.tuple [.num d0, .num d1, .num d2, .num d3]) (.num 4) = .val (Val.ofNat (argminFirst [d0, d1, d2, d3])) := by
  have h4 : (Val.num 4).int? = some (Int.ofNat 4) := by
    have := int?_natLit 4
    simpa using this
  obtain ⟨q, hq⟩ := argBest_go [d1, d2, d3] d0 0 1
  have e : argBest (fun q b => decide (q < b)) (List.take 4 [Val.num d0, .num d1, .num d2, .num d3]) 0 Option.none =
      some (argminFirst [d0, d1, d2, d3], q) := by
    rw [show argminFirst [d0, d1, d2, d3] = argminFirst.go d0 0 1 [d1, d2, d3] from rfl, ← hq]
    rfl
  unfold pyArgMin
  rw [h4]
  dsimp only
  rw [if_neg (by simp), e]

theorem argmin4_lt (d0 d1 d2 d3 : Rat) : argminFirst [d0, d1, d2, d3] < 4 :=
  go_lt [d1, d2, d3] d0 0 1 (by decide)

theorem idx4 (l0 l1 l2 l3 : Rat) (k : Nat) (hk : k < 4) :
    Py.pyIdx (.tuple [.num l0, .num l1, .num l2, .num l3]) (Val.ofNat k) = .val (.num ([l0, l1, l2, l3].getD k 0)) := by
  interval_cases k <;> rfl

/-- the end of `surface_position`: the four candidate longitudes and the one closest to the reference -/
theorem surf_lon_tail (lat lon lo : Rat) :
    (do
      let a ← pyAdd (Val.num lon) (Val.num 90)
      let b ← pyAdd (Val.num lon) (Val.num 180)
      let c ← pyAdd (Val.num lon) (Val.num 270)
      let lons ←
        pyComp (Val.tuple [Val.num lon, a, b, c]) fun x__1 => do
            let t ← pyAdd x__1 (Val.num 180)
            let t ← pyMod t (Val.num 360)
            let t ← pySub t (Val.num 180)
            pure (some t)
      let dls ←
        pyComp lons fun x__2 => do
            let t ← pySub (Val.num lo) x__2
            let t ← pyAdd t (Val.num 180)
            let t ← pyMod t (Val.num 360)
            let t ← pySub t (Val.num 180)
            let t ← pyAbs t
            pure (some t)
      let imin ← pyArgMin dls (Val.num 4)
      let lon ← Py.pyIdx lons imin
      pure (Val.tuple [Val.num lat, lon])) = .val (.tuple [.num lat, .num (CPR.pickLon lo lon)]) := by
  rw [pyAdd_num, bind_val', pyAdd_num, bind_val', pyAdd_num, bind_val']
  simp only [pyComp, pyIter, compList, bind_val', pyAdd_num, pyMod_360, pySub_num, pyAbs_num, Res.pure_eq]
  rw [argmin4, bind_val', idx4 _ _ _ _ _ (argmin4_lt _ _ _ _), bind_val']
  rfl

/-- encoding of the result of the global decoders -/
def encOptPos : Option (Rat × Rat) → Val
  | none => Val.none
  | some (a, b) => Val.tuple [.num a, .num b]

end CprGlobal

open CprGlobal

/-- `bds06.surface_position(msg0, msg1, t0, t1, lat_ref, lon_ref)`; as in the source, `msg0` is taken as the even
    frame and `msg1` as the odd one without looking at the format bit -/
theorem surface_position_tie (m0 m1 : Msg) (h0 : IsHex m0) (h1 : IsHex m1) (hne0 : m0 ≠ []) (hne1 : m1 ≠ [])
    (t0 t1 la lo : Rat) :
    Gen.bds06.surface_position (.str m0) (.str m1) (.num t0) (.num t1) (.num la) (.num lo) =
      (surfacePosition (hex2binM m0) (hex2binM m1) t0 t1 la lo >>= fun o => .val (encOptPos o)) := by
  unfold Gen.bds06.surface_position surfacePosition surfFields
  rw [hex2bin_str m0 h0 hne0, bind_val', hex2bin_str m1 h1 hne1, bind_val']
  simp only [read17, bind_assoc, pure_bind]
  refine bind_congr fun aE => bind_congr fun bE => bind_congr fun aO => bind_congr fun bO => ?_
  rw [lat_zone, hemi_choice, zone_test, pyTruth_bool, C05.decode_unfold]
  unfold CPR.sLatEven CPR.sLatOdd
  by_cases hn : cprNL (CPR.hemi la (CPR.latEvenRaw 90 aE aO)) ≠ cprNL (CPR.hemi la (CPR.latOddRaw 90 aE aO))
  · rw [if_pos (decide_eq_true hn), if_pos hn]
    rfl
  rw [if_neg (by simpa using hn), if_neg hn, pyGt_num, bind_val', pyTruth_bool]
  by_cases ht : t1 < t0
  · rw [if_pos (decide_eq_true ht), if_pos ht, lon_zone 90 _ 0 0 _ _ _ Nat.cast_zero.symm, surf_lon_tail]
    rfl
  · rw [if_neg (by simpa using ht), if_neg ht, lon_zone 90 _ 1 1 _ _ _ Nat.cast_one.symm, surf_lon_tail]
    rfl

/-- on a frame with all 88 bits the three CPR fields are read without failure -/
theorem cprFields_of_len (bits : Bits) (h : 88 ≤ bits.length) :
    ∃ f : CprFrame, cprFields bits = .val f ∧ idxR (bits.drop 32) 21 = .val f.oe ∧
      bin2intR (slice 22 39 (bits.drop 32)) = .val f.lat ∧ bin2intR (slice 39 56 (bits.drop 32)) = .val f.lon := by
  have hL : 56 ≤ (bits.drop 32).length := by rw [List.length_drop]; omega
  have ho := idxR_of_lt (bits.drop 32) 21 (by omega)
  have ha := bin2intR_slice_of_lt (bits.drop 32) 22 39 (by decide) (by omega)
  have hb := bin2intR_slice_of_lt (bits.drop 32) 39 56 (by decide) (by omega)
  refine ⟨⟨_, _, _⟩, ?_, ho, ha, hb⟩
  unfold cprFields
  dsimp only
  rw [ho, ha, hb]
  rfl

/-- `bds05.airborne_position(msg0, msg1, t0, t1)` -/
theorem airborne_position_tie (m0 m1 : Msg) (h0 : IsHex m0) (h1 : IsHex m1) (hl0 : 22 ≤ m0.length)
    (hl1 : 22 ≤ m1.length) (t0 t1 : Rat) :
    Gen.bds05.airborne_position (.str m0) (.str m1) (.num t0) (.num t1) =
      (airbornePosition (hex2binM m0) (hex2binM m1) t0 t1 >>= fun o => .val (encOptPos o)) := by
  have hne0 : m0 ≠ [] := by intro e; rw [e] at hl0; simp at hl0
  have hne1 : m1 ≠ [] := by intro e; rw [e] at hl1; simp at hl1
  obtain ⟨f0, hf0, ho0, ha0, hb0⟩ := cprFields_of_len (hex2binM m0) (by rw [hex2binM_length]; omega)
  obtain ⟨f1, hf1, ho1, ha1, hb1⟩ := cprFields_of_len (hex2binM m1) (by rw [hex2binM_length]; omega)
  unfold Gen.bds05.airborne_position airbornePosition
  rw [hf0, hf1, bind_val', bind_val']
  rw [hex2bin_str m0 h0 hne0, bind_val', pySliceFrom_ofBits, bind_val']
  rw [hex2bin_str m1 h1 hne1, bind_val', pySliceFrom_ofBits, bind_val']
  generalize (hex2binM m0).drop 32 = mb0 at *
  generalize (hex2binM m1).drop 32 = mb1 at *
  rw [pyIdxN_ofBits, ho0, bind_val', bind_val', pyInt1_digit, bind_val']
  rw [pyIdxN_ofBits, ho1, bind_val', bind_val', pyInt1_digit, bind_val']
  -- the two join points of the generated function: the longitude wrap, and everything after the ordering of the frames
  extract_lets wrap tail
  have htail : ∀ (mbE mbO : Bits) (e o : CprFrame) (tE tO : Rat), e.oe = false → o.oe = true →
      bin2intR (slice 22 39 mbE) = .val e.lat → bin2intR (slice 39 56 mbE) = .val e.lon →
      bin2intR (slice 22 39 mbO) = .val o.lat → bin2intR (slice 39 56 mbO) = .val o.lon →
      tail () (.num tE) (.num tO) (Val.ofBits mbE) (Val.ofBits mbO) =
        (airbornePositionCore cprNL e o tE tO >>= fun p => .val (encOptPos p)) := by
    intro mbE mbO e o tE tO he ho haE hbE haO hbO
    unfold tail
    rw [read17, haE, bind_val', read17, hbE, bind_val', read17, haO, bind_val', read17, hbO, bind_val', lat_zone,
      wrap270]
    beta_reduce
    rw [wrap270]
    beta_reduce
    rw [zone_test, pyTruth_bool, C03.decode_unfold cprNL e o tE tO he ho]
    unfold CPR.latEven CPR.latOdd
    dsimp only
    by_cases hn : cprNL (CPR.wrap270 (CPR.latEvenRaw 360 e.lat o.lat)) ≠
        cprNL (CPR.wrap270 (CPR.latOddRaw 360 e.lat o.lat))
    · rw [if_pos (decide_eq_true hn), if_pos hn]
      rfl
    rw [if_neg (by simpa using hn), if_neg hn, pyGt_num, bind_val', pyTruth_bool]
    by_cases ht : tO < tE
    · rw [if_pos (decide_eq_true ht), if_pos ht, lon_zone 360 _ 0 0 _ _ _ Nat.cast_zero.symm]
      unfold wrap
      rw [wrap180]
      rfl
    · rw [if_neg (by simpa using ht), if_neg ht, lon_zone 360 _ 1 1 _ _ _ Nat.cast_one.symm]
      unfold wrap
      rw [wrap180]
      rfl
  simp only [pyEq_flag_zero, pyEq_flag_one, bind_val']
  cases h0e : f0.oe <;> cases h1e : f1.oe <;>
    simp only [Bool.not_true, Bool.not_false, pyTruth_bool, eq_self, if_true, Bool.false_eq_true, if_false, Res.pure_eq,
      bind_val', bind_rte']
  · rw [C03.same_parity_runtimeError cprNL f0 f1 t0 t1 (h0e.trans h1e.symm)]
    rfl
  · exact htail mb0 mb1 f0 f1 t0 t1 h0e h1e ha0 hb0 ha1 hb1
  · rw [C03.arg_order_irrelevant cprNL f1 f0 t1 t0 h1e h0e]
    exact htail mb1 mb0 f1 f0 t1 t0 h1e h0e ha1 hb1 ha0 hb0
  · rw [C03.same_parity_runtimeError cprNL f0 f1 t0 t1 (h0e.trans h1e.symm)]
    rfl

end PyModeS.Tie
