/-
  Tie for the software demodulator of property C19 (`extra/rtlreader.py`): the generated methods
  `RtlReader._check_msg`, `_check_preamble`, `_calc_noise` against `checkMsg`, `checkPreamble`, `calcNoise` of
  Model/Demod.lean.  (`_process_buffer` is in Tie/RtlBuffer.lean.)
-/
import PyModeS.Tie.Basic
import PyModeS.Tie.Common
import PyModeS.Tie.Crc
import PyModeS.Generated.Src.rtlreader
import PyModeS.Proofs.Demod.Loop

set_option linter.style.nameCheck false
namespace PyModeS.Tie.Rtl
open PyModeS PyModeS.Py PyModeS.CRC PyModeS.Tie

/-! ### `_check_msg` -/

/-- the translated `x and y` on Booleans, with `pyTruth` not yet evaluated (rewriting the test first leaves a
    `Decidable` instance on it that `Tie.pyAnd_bool` no longer matches) -/
theorem pyAnd_truth (p q : Bool) :
    (if pyTruth (Val.bool p) = true then Res.val (Val.bool q) else Res.val (Val.bool p)) = Res.val (Val.bool (p && q)) := by
  cases p <;> rfl

theorem df_str1 (m : Msg) (h : IsHex m) (hne : m ≠ []) :
    Gen.py_common.df (.str m) = .val (Val.ofNat (PyModeS.df m)) := df_str_ne_nil m h hne

/-! ### lists of samples -/

/-- a Python list (or numpy array) of exact samples -/
def encRats (p : List Rat) : Val := .tuple (p.map Val.num)

theorem pyLen_rats (p : List Rat) : pyLen (encRats p) = .val (Val.ofNat p.length) := by
  simp [pyLen, encRats]

theorem pyIdx_rats (p : List Rat) (k : Nat) (h : k < p.length) :
    Py.pyIdx (encRats p) (Val.ofNat k) = .val (.num (p.getD k 0)) := by
  have hn : ¬ ((k : Int) < 0) := by omega
  simp only [Py.pyIdx, encRats, int?_ofNat, idxList, hn, if_false, Int.toNat_natCast, List.getElem?_map,
    List.getElem?_eq_getElem h, Option.map_some, List.getD_eq_getElem?_getD, Option.getD_some]
  rfl

theorem pyIdxN_rats (p : List Rat) (k : Nat) (h : k < p.length) :
    pyIdxN (encRats p) k = .val (.num (p.getD k 0)) := by
  simp only [pyIdxN, encRats, List.getElem?_map, List.getElem?_eq_getElem h, Option.map_some,
    List.getD_eq_getElem?_getD, Option.getD_some]

/-! ### `_check_preamble` -/

theorem getD_map_cast (l : List Nat) (k : Nat) :
    (l.map (fun (n : Nat) => (n : Rat))).getD k 0 = ((l.getD k 0 : Nat) : Rat) := by
  rw [List.getD_eq_getElem?_getD, List.getD_eq_getElem?_getD, List.getElem?_map]
  cases l[k]? <;> simp

theorem preamble_enc :
    Gen.rtlreader.preamble = encRats (Tables.rtlPreamble.map (fun (n : Nat) => (n : Rat))) := by
  simp [Gen.rtlreader.preamble, Tables.rtlPreamble, encRats]

/-- a `for` loop whose body either goes on (`ok k`) or returns `R` at once (stated with the rest `K` of the
    program, so that body and rest are found by unification with the goal) -/
theorem loop_early (R : Val) (ok : Nat → Bool)
    (f : Val → Option Val × Val → Res (ForInStep (Option Val × Val))) (l : List Nat)
    (K : Option Val × Val → Res Val) (Rr : Res Val)
    (hstep : ∀ k ∈ l, ∀ i, f (Val.ofNat k) (none, i) =
      .val (if ok k then .yield (none, Val.ofNat k) else .done (some R, Val.ofNat k)))
    (i0 : Val) (hK : ∀ i', K ((if l.all ok then none else some R), i') = Rr) :
    (forIn (l.map Val.ofNat) (none, i0) f >>= K) = Rr := by
  induction l generalizing i0 with
  | nil => exact hK i0
  | cons k l ih =>
    rw [List.map_cons, List.forIn_cons, hstep k (by simp), bind_val']
    by_cases hk : ok k = true
    · simp only [hk, if_true, List.all_cons, Bool.true_and] at hK ⊢
      exact ih (fun j hj => hstep j (List.mem_cons_of_mem _ hj)) (Val.ofNat k) hK
    · simp only [hk, List.all_cons, Bool.false_eq_true, if_false, Bool.false_and] at hK ⊢
      exact hK (Val.ofNat k)

/-! ### `_calc_noise` -/

/-- `rows = a.reshape(-1, w)` of the first `n` complete rows -/
theorem rowsOf_take {α} (w : Nat) (hw : 0 < w) : ∀ (n fuel : Nat) (L : List α), n ≤ fuel → n * w ≤ L.length →
    rowsOf w fuel (L.take (n * w)) = (List.range n).map (fun k => (L.drop (k * w)).take w) := by
  intro n
  induction n with
  | zero => intro fuel L _ _; cases fuel <;> simp [rowsOf]
  | succ n ih =>
    intro fuel L hf hL
    obtain ⟨fuel, rfl⟩ : ∃ f', fuel = f' + 1 := ⟨fuel - 1, by omega⟩
    have hlen : (n + 1) * w = n * w + w := by ring
    have hne : L.take ((n + 1) * w) ≠ [] := by
      intro e
      have := congrArg List.length e
      rw [List.length_take_of_le hL] at this
      simp at this
      omega
    have hstep : rowsOf w (fuel + 1) (L.take ((n + 1) * w)) =
        (L.take ((n + 1) * w)).take w :: rowsOf w fuel ((L.take ((n + 1) * w)).drop w) := by
      generalize L.take ((n + 1) * w) = l at hne
      cases l with
      | nil => exact absurd rfl hne
      | cons a l => rfl
    rw [hstep, List.take_take, List.drop_take, Nat.min_eq_left (by omega), hlen, Nat.add_sub_cancel,
      ih fuel (L.drop w) (by omega) (by rw [List.length_drop]; omega), List.range_succ_eq_map, List.map_cons,
      List.map_map]
    simp only [Nat.zero_mul, List.drop_zero, List.cons.injEq, true_and]
    apply List.map_congr_left
    intro k _
    simp only [Function.comp, List.drop_drop, Nat.succ_eq_add_one]
    congr 2
    ring

theorem mapM_num (r : List Rat) : (r.map Val.num).mapM Val.num? = some r := by
  induction r with
  | nil => rfl
  | cons a r ih => simp [List.mapM_cons, ih]

theorem mapM_rows (F : Val → Option Val) (rs : List (List Rat))
    (hF : ∀ r ∈ rs, F (.tuple (r.map Val.num)) = some (.num (r.foldl (· + ·) 0 / (r.length : Rat)))) :
    (rs.map (fun r => Val.tuple (r.map Val.num))).mapM F =
      some (rs.map (fun r => Val.num (r.foldl (· + ·) 0 / (r.length : Rat)))) := by
  induction rs with
  | nil => rfl
  | cons r rs ih =>
    rw [List.map_cons, List.mapM_cons, ih (fun r hr => hF r (List.mem_cons_of_mem _ hr)), hF r (by simp)]
    rfl

/-- `rows.mean(axis=1)` on non-empty rows of numbers -/
theorem pyMeanRows_rats (rs : List (List Rat)) (hne : ∀ r ∈ rs, r ≠ []) :
    pyMeanRows (.tuple (rs.map (fun r => Val.tuple (r.map Val.num)))) =
      .val (encRats (rs.map (fun r => r.foldl (· + ·) 0 / (r.length : Rat)))) := by
  unfold pyMeanRows
  dsimp only
  rw [mapM_rows _ rs ?hF]
  case hF =>
    intro r hr
    have h1 : r ≠ [] := hne r hr
    have h2 : r.isEmpty = false := by cases r <;> simp_all
    simp only [mapM_num, h2]
    rfl
  simp only [encRats, List.map_map]
  rfl

/-- `argBest` on numbers keeps the index of a running best value: the fold of "replace when better" -/
theorem argBest_fold (better : Rat → Rat → Bool) (qs : List Rat) : ∀ (pre : List Rat) (j : Nat) (b : Rat),
    pre[j]? = some b →
    ∃ i, argBest better (qs.map Val.num) pre.length (some (j, b)) =
        some (i, qs.foldl (fun b x => if better x b then x else b) b) ∧
      (pre ++ qs)[i]? = some (qs.foldl (fun b x => if better x b then x else b) b) := by
  induction qs with
  | nil => intro pre j b hj; exact ⟨j, rfl, by simpa using hj⟩
  | cons x qs ih =>
    intro pre j b hj
    have hjl : j < pre.length := by
      rcases Nat.lt_or_ge j pre.length with h | h
      · exact h
      · rw [List.getElem?_eq_none h] at hj; cases hj
    simp only [List.map_cons, argBest, num?_num, List.foldl_cons]
    rw [show pre.length + 1 = (pre ++ [x]).length by simp, show pre ++ x :: qs = (pre ++ [x]) ++ qs by simp]
    by_cases hx : better x b = true
    · rw [if_pos hx, if_pos hx]
      exact ih (pre ++ [x]) pre.length x (by simp)
    · rw [if_neg hx, if_neg hx]
      exact ih (pre ++ [x]) j b (by rw [List.getElem?_append_left hjl]; exact hj)

/-- `min(l)` / `max(l)` of a non-empty list of numbers, for any way `pick` of writing the running best -/
theorem pyBestList_rats (better : Rat → Rat → Bool) (pick : Rat → Rat → Rat)
    (hpick : ∀ b x, (if better x b then x else b) = pick b x) (m : Rat) (ms : List Rat) :
    (match argBest better ((m :: ms).map Val.num) 0 Option.none with
      | some (i, _) => (match ((m :: ms).map Val.num)[i]? with | some x => Res.val x | Option.none => .exc)
      | Option.none => .exc) = .val (.num (ms.foldl pick m)) := by
  obtain ⟨i, h1, h2⟩ := argBest_fold better ms [m] 0 m rfl
  have hf : (fun b x => if better x b then x else b) = pick := funext fun b => funext fun x => hpick b x
  rw [hf] at h1 h2
  have h3 : (Val.num m :: ms.map Val.num)[i]? = some (Val.num (ms.foldl pick m)) := by
    rw [← List.map_cons, List.getElem?_map, show m :: ms = [m] ++ ms from rfl, h2]; rfl
  simp only [List.map_cons, argBest, num?_num]
  rw [show 0 + 1 = [m].length from rfl, h1]
  simp only [h3]

/-- `min(means)` of a list of numbers (`ValueError` on the empty list) -/
theorem pyMinList_rats (qs : List Rat) :
    pyMinList (encRats qs) = (match qs with
      | [] => .exc
      | m :: ms => .val (.num (ms.foldl min m))) := by
  cases qs with
  | nil => rfl
  | cons m ms =>
    refine pyBestList_rats _ min (fun b x => ?_) m ms
    by_cases h : x < b
    · rw [decide_eq_true h, if_pos rfl, min_eq_right (le_of_lt h)]
    · rw [decide_eq_false h, if_neg Bool.false_ne_true, min_eq_left (not_lt.mp h)]

/-- `l[:k]` -/
theorem pySlice_rats_to (b : List Rat) (k : Nat) :
    pySlice (encRats b) none (some (Val.ofNat k)) = .val (encRats (b.take k)) := by
  have i0 := optInt_ofNat k
  have i1 : optInt none = .val none := rfl
  simp only [pySlice, i0, i1, bind_val', encRats, sliceList, normBound_nonneg, List.length_map, slice,
    List.drop_zero, Nat.sub_zero, List.map_take]
  congr 2
  rcases Nat.lt_or_ge b.length k with hlt | hge
  · rw [Nat.min_eq_right (Nat.le_of_lt hlt), List.take_of_length_le (by simp),
      List.take_of_length_le (by simp; omega)]
  · rw [Nat.min_eq_left hge]

end PyModeS.Tie.Rtl
namespace PyModeS.Tie
open PyModeS PyModeS.Py PyModeS.CRC PyModeS.Tie.Rtl

/-- `_check_msg(msg)` on any non-empty hex string (the receiver is not read and is returned unchanged) -/
theorem RtlReader__check_msg_tie (self : Val) (m : Msg) (h : IsHex m) (hne : m ≠ []) :
    Gen.rtlreader.RtlReader__check_msg self (.str m) = .val (.tuple [self, .bool (checkMsg m)]) := by
  unfold Gen.rtlreader.RtlReader__check_msg
  have hcm : checkMsg m =
      (if (decide (PyModeS.df m = 17) && decide (m.length = 28)) = true then decide (PyModeS.crc m false = 0)
       else if (decide (PyModeS.df m = 20 ∨ PyModeS.df m = 21) && decide (m.length = 28)) = true then true
       else if (decide (PyModeS.df m = 4 ∨ PyModeS.df m = 5 ∨ PyModeS.df m = 11) && decide (m.length = 14)) = true
         then true else false) := by
    simp only [checkMsg, Bool.and_eq_true, decide_eq_true_eq]
  have hlen : pyLen (.str m) = .val (Val.ofNat m.length) := rfl
  have i2 := pyIn_ofNat2 (PyModeS.df m) 20 21
  have i3 := pyIn_ofNat3 (PyModeS.df m) 4 5 11
  simp only [Nat.cast_ofNat] at i2 i3
  rw [df_str1 m h hne, bind_val', hlen, bind_val', pyEq_ofNat_lit, bind_val', hcm]
  simp only [pyEq_ofNat_lit, i2, i3, bind_val', Res.pure_eq, pyAnd_truth]
  simp only [pyTruth_bool]
  by_cases c1 : (decide (PyModeS.df m = 17) && decide (m.length = 28)) = true
  · have h28 : m.length = 28 := of_decide_eq_true (Bool.and_eq_true_iff.mp c1).2
    simp only [c1, if_true, crc_tie m h (by omega) false, bind_val', pyEq_ofNat_zero, pyTruth_bool]
    cases decide (PyModeS.crc m false = 0) <;> rfl
  · simp only [c1]
    generalize (decide (PyModeS.df m = 20 ∨ PyModeS.df m = 21) && decide (m.length = 28)) = q2
    generalize (decide (PyModeS.df m = 4 ∨ PyModeS.df m = 5 ∨ PyModeS.df m = 11) && decide (m.length = 14)) = q3
    cases q2 <;> cases q3 <;> rfl

/-- `_debug_msg(msg)` (its `print` calls are not modelled) on any non-empty hex string: returns `None`, receiver
    unchanged -/
theorem RtlReader__debug_msg_tie (self : Val) (m : Msg) (h : IsHex m) (hne : m ≠ []) :
    Gen.rtlreader.RtlReader__debug_msg self (.str m) = .val (.tuple [self, .none]) := by
  unfold Gen.rtlreader.RtlReader__debug_msg
  have hlen : pyLen (.str m) = .val (Val.ofNat m.length) := rfl
  have i2 := pyIn_ofNat2 (PyModeS.df m) 20 21
  have i3 := pyIn_ofNat3 (PyModeS.df m) 4 5 11
  simp only [Nat.cast_ofNat] at i2 i3
  rw [df_str1 m h hne, bind_val', hlen, bind_val', pyEq_ofNat_lit, bind_val']
  -- every branch only prints: all arms of the three tests are the same value
  simp only [pyEq_ofNat_lit, i2, i3, bind_val', Res.pure_eq, pyAnd_truth, ite_self]

/-- `_check_preamble(pulses)` on any list of samples (the receiver is not read and is returned unchanged) -/
theorem RtlReader__check_preamble_tie (self : Val) (p : List Rat) :
    Gen.rtlreader.RtlReader__check_preamble self (encRats p) = .val (.tuple [self, .bool (checkPreamble p)]) := by
  unfold Gen.rtlreader.RtlReader__check_preamble checkPreamble
  dsimp only
  rw [pyLen_rats, bind_val', CrcTie.lit16, pyNe_ofNat, bind_val', pyTruth_bool]
  by_cases hl : p.length = 16
  · simp only [hl, decide_true, Bool.not_true, Bool.false_eq_true, if_false, BEq.rfl, Bool.true_and]
    rw [num_zero_ofNat, CrcTie.pyRange_ofNat, bind_val', CrcTie.pyIter_tuple, bind_val']
    refine loop_early (Val.tuple [self, Val.bool false])
      (fun k => !decide (rabs (p.getD k 0 - (Tables.rtlPreamble.getD k 0 : Rat)) > Tables.rtlThAmpDiff)) _
      (List.range 16) _ _ ?step Val.none ?hK
    case step =>
      intro k hk i
      rw [List.mem_range] at hk
      rw [pyIdx_rats p k (by omega), bind_val', preamble_enc, pyIdx_rats _ k (by simpa [Tables.rtlPreamble] using hk),
        bind_val', pySub_num, bind_val', pyAbs_num, bind_val', Gen.rtlreader.th_amp_diff, pyGt_num, bind_val',
        pyTruth_bool, getD_map_cast]
      show (if decide (rabs (p.getD k 0 - (Tables.rtlPreamble.getD k 0 : Rat)) > Tables.rtlThAmpDiff) = true
        then _ else _) = _
      cases decide (rabs (p.getD k 0 - (Tables.rtlPreamble.getD k 0 : Rat)) > Tables.rtlThAmpDiff) <;> rfl
    case hK =>
      intro i'
      dsimp only
      cases (List.range 16).all
        (fun k => !decide (rabs (p.getD k 0 - (Tables.rtlPreamble.getD k 0 : Rat)) > Tables.rtlThAmpDiff)) <;> rfl
  · simp [hl]

/-- `_calc_noise()` on any receiver `l` whose `signal_buffer` attribute holds the samples `buf`: the minimum of the
    window means, `ValueError` (both sides `exc`) when there is no complete window of 200 samples -/
theorem RtlReader__calc_noise_tie (l : List (Val × Val)) (buf : Array Rat)
    (hbuf : dictFind l (attrKey "signal_buffer") = some (encRats buf.toList)) :
    Gen.rtlreader.RtlReader__calc_noise (.dict l) =
      (calcNoise buf >>= fun q => .val (.tuple [.dict l, .num q])) := by
  unfold Gen.rtlreader.RtlReader__calc_noise
  have hb : pyGetAttr (.dict l) "signal_buffer" = .val (encRats buf.toList) := by simp only [pyGetAttr, hbuf]
  have hw : pyMul Gen.rtlreader.smaples_per_microsec (Val.num 100) = .val (Val.ofNat 200) := by
    simp only [Gen.rtlreader.smaples_per_microsec, pyMul_num, Val.ofNat]; norm_num
  have h200 : (Val.ofNat 200).int? = some (Int.ofNat (199 + 1)) := int?_ofNat 200
  dsimp only
  simp only [hw, bind_val', hb, pyLen_rats, pyFloorDiv_ofNat _ 200 (by decide), pyMul_ofNat, pySlice_rats_to]
  rw [encRats, CrcTie.pyList_tuple, bind_val', Demod.calcNoise_list, Demod.calcNoiseL]
  generalize buf.toList = b
  have hle : b.length / 200 * 200 ≤ b.length := Nat.div_mul_le_self _ _
  have hlt : (List.map Val.num (List.take (b.length / 200 * 200) b)).length = b.length / 200 * 200 := by
    rw [List.length_map, List.length_take_of_le hle]
  have hrows : rowsOf 200 (b.length / 200 * 200) ((b.map Val.num).take (b.length / 200 * 200)) =
      ((List.range (b.length / 200)).map (fun k => (b.drop (k * 200)).take 200)).map (fun r => r.map Val.num) := by
    rw [rowsOf_take 200 (by decide) (b.length / 200) _ _ (by omega) (by rw [List.length_map]; exact hle),
      List.map_map]
    apply List.map_congr_left
    intro k _
    simp only [Function.comp, List.map_take, List.map_drop]
  have hresh : pyReshapeRows (Val.tuple (List.map Val.num (List.take (b.length / 200 * 200) b))) (Val.ofNat 200) =
      .val (.tuple (((List.range (b.length / 200)).map (fun k => (b.drop (k * 200)).take 200)).map
        (fun r => Val.tuple (r.map Val.num)))) := by
    simp only [pyReshapeRows, h200, hlt, Nat.reduceAdd, Nat.mul_mod_left, ne_eq, not_true_eq_false, if_false]
    rw [List.map_take, hrows, List.map_map]
    rfl
  have hrow : ∀ k, k < b.length / 200 → ((b.drop (k * 200)).take 200).length = 200 := by
    intro k hk
    have h1 : (k + 1) * 200 ≤ b.length / 200 * 200 := Nat.mul_le_mul_right _ hk
    rw [List.length_take, List.length_drop]
    omega
  rw [hresh, bind_val', pyMeanRows_rats _ ?hne, bind_val', pyMinList_rats]
  case hne =>
    intro r hr
    rw [List.mem_map] at hr
    obtain ⟨k, hk, rfl⟩ := hr
    intro e
    have := hrow k (List.mem_range.mp hk)
    rw [e] at this
    cases this
  have hmeans : (((List.range (b.length / 200)).map (fun k => (b.drop (k * 200)).take 200)).map
      (fun r => r.foldl (· + ·) 0 / (r.length : Rat))) = Demod.meansL b := by
    rw [Demod.meansL, List.map_map]
    apply List.map_congr_left
    intro k hk
    simp only [Function.comp, hrow k (List.mem_range.mp hk)]
    norm_num
  rw [hmeans]
  cases Demod.meansL b <;> rfl

end PyModeS.Tie
