/-
  Tie for `TcpClient.read_skysense_buffer` (extra/tcpclient.py, property C16): the generated method (a `while` loop
  with fuel over `self.buffer`) against `readSkyT`, the framing loop `skyG` of Proofs/Stream/Sky.lean over the
  `[text, ts]` items the source appends.  `readSky` of Model/Stream.lean is its projection on the texts
  (`readSkyT_fst`); the two-chunk lemma `readSkyT_append` is the one of `skyG`.
-/
import PyModeS.Tie.BeastReader
import PyModeS.Proofs.Stream.Sky

open PyModeS PyModeS.Py PyModeS.CRC PyModeS.Tie PyModeS.Tie.Beast
namespace PyModeS.Tie.Sky

/-! ### the hand model's loop, with the time stamps the source attaches to the messages -/

/-- `sec + nano * 1.0e-9` from the six time-stamp bytes at positions 15 … 20 (exact arithmetic) -/
def skyTs (buf : List Byte) : Rat :=
  let t := slice 15 21 buf
  let sec := ((t.getD 0 0 &&& 127) <<< 10) ||| (t.getD 1 0 <<< 2) ||| (t.getD 2 0 >>> 6)
  let nano := ((t.getD 2 0 &&& 63) <<< 24) ||| (t.getD 3 0 <<< 16) ||| (t.getD 4 0 <<< 8) ||| t.getD 5 0
  (sec : Rat) + (nano : Rat) * ((1 : Rat) / 1000000000)

/-- the `[text, ts]` item the source appends for a frame at the head of `buf` -/
def skyItem (buf : List Byte) : Msg × Rat := (Stream.skyPayload buf, skyTs buf)

/-- `readSky` with time stamps: the framing loop `skyG` of Proofs/Stream/Sky.lean over `skyItem` (hand-written, like
    `readSky`; the tie below is against it) -/
def readSkyT (buf : List Byte) : List (Msg × Rat) × List Byte := C16Gen.skyRunG skyItem buf []

theorem readSkyT_fst (buf : List Byte) : readSky buf = ((readSkyT buf).1.map Prod.fst, (readSkyT buf).2) := by
  rw [readSky, Stream.skyLoop_eq]
  exact C16Gen.skyG_map Prod.fst skyItem buf.length buf []

theorem skyItem_local (x e : List Byte) (h : ¬ x.length ≤ 24) : skyItem (x ++ e) = skyItem x := by
  unfold skyItem skyTs
  rw [Stream.skyPayload_local x e h, slice_append_left x e 15 21 (by omega)]

/-- Two-chunk lemma for the Skysense reader WITH time stamps, arbitrary bytes. -/
theorem readSkyT_append (a b : List Byte) :
    readSkyT (a ++ b) = ((readSkyT a).1 ++ (readSkyT ((readSkyT a).2 ++ b)).1, (readSkyT ((readSkyT a).2 ++ b)).2) :=
  C16Gen.skyRunG_append skyItem skyItem_local b a.length a [] (Nat.le_refl _)

theorem readSkyT_suffix (b : List Byte) : (readSkyT b).2 <:+ b := C16Gen.skyG_suffix _ _ _ _

theorem readSkyT_short (b : List Byte) (h : b.length ≤ 24) : readSkyT b = ([], b) :=
  C16Gen.skyRunG_short _ _ _ h

/-! ### the `while` loop -/

def encTS (l : List (Msg × Rat)) : Val := .tuple (l.map fun p => .tuple [.str p.1, .num p.2])

/-- the mutable variables of the loop: `i, payload, msg, tsbin, sec, nano, ts, self, messages` and the fuel flag -/
abbrev S := Val × Val × Val × Val × Val × Val × Val × Val × Val × Bool

/-- what the loop state is required to hold (the seven scratch variables are unconstrained) -/
def Rel (l : List (Val × Val)) (st : S) (buf : List Byte) (msgs : List (Msg × Rat)) (fl : Bool) : Prop :=
  st.2.2.2.2.2.2.2.1 = selfB l buf ∧ st.2.2.2.2.2.2.2.2.1 = encTS msgs ∧ st.2.2.2.2.2.2.2.2.2 = fl

/-- rule for the `while` loop (stated with the rest `K` of the program, so that body and rest are found by unification
    with the goal): a body that stops on a short buffer, appends `skyItem` and drops 24 bytes on a frame, and drops one
    byte otherwise, leaves the state `skyG skyItem` describes -/
theorem sky_loop (l : List (Val × Val)) (f : Nat → S → Res (ForInStep S)) (K : S → Res Val) (R : Res Val)
    (hdone : ∀ x st buf out, Rel l st buf out true → buf.length ≤ 24 →
      ∃ st', f x st = .val (.done st') ∧ Rel l st' buf out false)
    (hmsg : ∀ x st buf out, Rel l st buf out true → 24 < buf.length → (∀ b ∈ buf, b < 256) →
      (buf.getD 0 0 = 36 ∧ buf.getD 24 0 = 36) →
      ∃ st', f x st = .val (.yield st') ∧
        Rel l st' (buf.drop 24) (out ++ [skyItem buf]) true)
    (hskip : ∀ x st buf out, Rel l st buf out true → 24 < buf.length → (∀ b ∈ buf, b < 256) →
      ¬ (buf.getD 0 0 = 36 ∧ buf.getD 24 0 = 36) →
      ∃ st', f x st = .val (.yield st') ∧ Rel l st' (buf.drop 1) out true) :
    ∀ (n : Nat) (buf : List Byte) (out : List (Msg × Rat)), buf.length ≤ n → (∀ b ∈ buf, b < 256) →
      ∀ (a r : Nat), n < r → ∀ st, Rel l st buf out.reverse true →
      (∀ st', Rel l st' (C16Gen.skyG skyItem n buf out).2 (C16Gen.skyG skyItem n buf out).1 false → K st' = R) →
      (forIn (List.range' a r 1) st f >>= K) = R := by
  intro n
  induction n with
  | zero =>
    intro buf out hl hb a r hr st hrel hK
    obtain ⟨r', rfl⟩ : ∃ r', r = r' + 1 := ⟨r - 1, by omega⟩
    obtain ⟨st', h1, h2⟩ := hdone a st buf out.reverse hrel (by omega)
    rw [List.range'_succ, List.forIn_cons, h1, bind_val']
    exact hK st' h2
  | succ n ih =>
    intro buf out hl hb a r hr st hrel hK
    obtain ⟨r', rfl⟩ : ∃ r', r = r' + 1 := ⟨r - 1, by omega⟩
    rw [C16Gen.skyG_succ] at hK
    rw [List.range'_succ, List.forIn_cons]
    by_cases h1 : buf.length ≤ 24
    · obtain ⟨st', e1, e2⟩ := hdone a st buf out.reverse hrel h1
      rw [if_pos h1] at hK
      rw [e1, bind_val']
      exact hK st' e2
    · rw [if_neg h1] at hK
      by_cases h2 : buf.getD 0 0 = 0x24 ∧ buf.getD 24 0 = 0x24
      · rw [if_pos h2] at hK
        obtain ⟨st', e1, e2⟩ := hmsg a st buf out.reverse hrel (by omega) hb h2
        rw [e1, bind_val']
        exact ih (buf.drop 24) _ (by rw [List.length_drop]; omega)
          (fun b hb' => hb b (List.mem_of_mem_drop hb')) (a + 1) r' (by omega) st'
          (by rw [List.reverse_cons]; exact e2) hK
      · rw [if_neg h2] at hK
        obtain ⟨st', e1, e2⟩ := hskip a st buf out.reverse hrel (by omega) hb h2
        rw [e1, bind_val']
        exact ih (buf.drop 1) _ (by rw [List.length_drop]; omega)
          (fun b hb' => hb b (List.mem_of_mem_drop hb')) (a + 1) r' (by omega) st' e2 hK

/-- Short and long frames are treated alike: what the code does with the payload (`T`) is done with 14 bytes or with 7,
    so a relation `Q` between the payload and the outcome need only be shown for a payload `p` with the property `H`
    both have. -/
theorem by_payload {β} (c : Prop) {_ : Decidable c} (T : List Byte → β) (Q : List Byte → β → Prop) (H : List Byte → Prop)
    (p q : List Byte) (hp : H p) (hq : H q) (tail : ∀ p, H p → Q p (T p)) :
    Q (if c then p else q) (if c then T p else T q) := by
  split
  · exact tail p hp
  · exact tail q hq

theorem pyAppend_encTS (out : List (Msg × Rat)) (m : Msg) (t : Rat) :
    pyAppend (encTS out) (.tuple [.str m, .num t]) = .val (encTS (out ++ [(m, t)])) := by
  simp [pyAppend, encTS]

theorem skyLoop_short (n : Nat) (buf : List Byte) (out : List Msg) (h : buf.length ≤ 24) :
    skyLoop n buf out = (out.reverse, buf) := by
  cases n with
  | zero => rfl
  | succ n => rw [skyLoop, if_pos h]

end PyModeS.Tie.Sky
namespace PyModeS.Tie
open PyModeS.Tie.Sky

/-- `read_skysense_buffer()` on any receiver `l` whose `buffer` attribute holds the bytes `buf` (all below 256, as the
    items of a `bytes` chunk are; fewer than `whileFuel` = 2^20 of them, the iterations the generated `while` loop is
    granted): `self.buffer` becomes `(readSky buf).2`, and the method returns `None` when there are at most 24 bytes
    (the hand model has `[]` there) and otherwise the `[msg, ts]` list `readSkyT buf`, whose messages are
    `(readSky buf).1` (`readSkyT_fst`) and whose time stamps are `skyTs` of each frame. -/
theorem TcpClient_read_skysense_buffer_tie (l : List (Val × Val)) (buf : List Byte)
    (hbuf : dictFind l (attrKey "buffer") = some (encBytes buf))
    (hb : ∀ b ∈ buf, b < 256) (hlen : buf.length < whileFuel) :
    Gen.tcpclient.TcpClient_read_skysense_buffer (.dict l) =
      .val (.tuple [.dict (setPair (attrKey "buffer") (encBytes (readSky buf).2) l),
        if buf.length ≤ 24 then .none else encTS (readSkyT buf).1]) := by
  have hself : Val.dict l = selfB l buf := by
    unfold selfB; rw [attrKey] at hbuf ⊢; rw [setPair_of_find hbuf]
  rw [hself]
  unfold Gen.tcpclient.TcpClient_read_skysense_buffer
  simp only [get_buf, len_bytes, le24, bind_val', pyTruth_bool, decide_eq_true_eq]
  by_cases h24 : buf.length ≤ 24
  · rw [if_pos h24, if_pos h24]
    have : (readSky buf).2 = buf := by rw [readSky, skyLoop_short _ _ _ h24]
    rw [this]
    rfl
  · rw [if_neg h24, if_neg h24]
    simp only [Std.Legacy.Range.forIn_eq_forIn_range', Std.Legacy.Range.size]
    simp only [Nat.sub_zero, Nat.add_sub_cancel, Nat.div_one]
    refine sky_loop l _ _ _ ?hdone ?hmsg ?hskip buf.length buf [] (Nat.le_refl _) hb 0 whileFuel hlen _ ⟨rfl, rfl, rfl⟩ ?hK
    case hK =>
      rintro ⟨i0, p0, m0, tb0, s0, n0, t0, self0, msgs0, fl0⟩ ⟨h1, h2, h3⟩
      simp only at h1 h2 h3
      subst h1 h2 h3
      simp only [Bool.false_eq_true, if_false, Res.pure_eq]
      rw [readSkyT_fst]
      rfl
    case hdone =>
      rintro x ⟨i0, p0, m0, tb0, s0, n0, t0, self0, msgs0, fl0⟩ buf' out ⟨h1, h2, h3⟩ hle
      simp only at h1 h2 h3
      subst h1 h2 h3
      have hgt : decide (24 < buf'.length) = false := by simp; omega
      simp only [get_buf, len_bytes, gt24, bind_val', pyTruth_bool, hgt, Bool.not_false, if_true, Res.pure_eq]
      exact ⟨_, rfl, rfl, rfl, rfl⟩
    case hskip =>
      rintro x ⟨i0, p0, m0, tb0, s0, n0, t0, self0, msgs0, fl0⟩ buf' out ⟨h1, h2, h3⟩ hlt hb' hne
      simp only at h1 h2 h3
      subst h1 h2 h3
      have hgt : decide (24 < buf'.length) = true := by simp; omega
      simp only [get_buf, len_bytes, gt24, bind_val', pyTruth_bool, hgt, Bool.not_true, Bool.false_eq_true, if_false,
        Res.pure_eq, num_zero_ofNat, add24, add1, Nat.zero_add, pyIdx_bytes buf' 0 (by omega),
        pyIdx_bytes buf' 24 (by omega), eq36]
      by_cases ha : buf'.getD 0 0 = 36
      · have hb2 : ¬ buf'.getD 24 0 = 36 := fun hb => hne ⟨ha, hb⟩
        simp only [ha, hb2, decide_true, decide_false, if_true, bind_val', pyTruth_bool, Bool.false_eq_true, if_false,
          pySliceN_bytes, set_buf]
        exact ⟨_, rfl, rfl, rfl, rfl⟩
      · simp only [ha, decide_false, bind_val', pyTruth_bool, Bool.false_eq_true, if_false,
          pySliceN_bytes, set_buf]
        exact ⟨_, rfl, rfl, rfl, rfl⟩
    case hmsg =>
      rintro x ⟨i0, p0, m0, tb0, s0, n0, t0, self0, msgs0, fl0⟩ buf' out ⟨h1, h2, h3⟩ hlt hb' ⟨ha, hb24⟩
      simp only at h1 h2 h3
      subst h1 h2 h3
      have hgt : decide (24 < buf'.length) = true := by simp; omega
      have e24 : Val.num 24 = Val.ofNat 24 := rfl
      simp only [get_buf, len_bytes, gt24, bind_val', pyTruth_bool, hgt, Bool.not_true, Bool.false_eq_true, if_false,
        Res.pure_eq, num_zero_ofNat, add24, add1, add14, add6, add3, add7, Nat.zero_add, Nat.reduceAdd,
        pyIdx_bytes buf' 0 (by omega), pyIdx_bytes buf' 24 (by omega), pyIdx_bytes buf' 1 (by omega), eq36, ha, hb24,
        decide_true, if_true, shr7, pyTruth_ofNat, pySlice_bytes]
      have hl6 : (slice 15 21 buf').length = 6 := by simp [slice]; omega
      have h15 := slice_lt hb' 1 15
      have h8 := slice_lt hb' 1 8
      have hitem : skyItem buf' =
          (hexOfBytes (if (buf'.getD 1 0 : Nat) >>> 7 ≠ 0 then slice 1 15 buf' else slice 1 8 buf'), skyTs buf') := rfl
      rw [hitem]
      generalize slice 1 15 buf' = p15 at h15 ⊢
      generalize slice 1 8 buf' = p8 at h8 ⊢
      simp only [decide_eq_true_eq]
      apply by_payload _ _ (fun pay (x : Res (ForInStep S)) => ∃ st', x = .val (.yield st') ∧
        Rel l st' (buf'.drop 24) (out ++ [(hexOfBytes pay, skyTs buf')]) true) (fun p => ∀ b ∈ p, b < 256)
        p15 p8 h15 h8
      intro p hp
      rw [pyComp_fmt2 _ hp]
      simp only [bind_val', pyJoin_hex, pyIdxN_bytes (slice 15 21 buf') 0 (by omega),
        pyIdxN_bytes (slice 15 21 buf') 1 (by omega), pyIdxN_bytes (slice 15 21 buf') 2 (by omega),
        pyIdxN_bytes (slice 15 21 buf') 3 (by omega), pyIdxN_bytes (slice 15 21 buf') 4 (by omega),
        pyIdxN_bytes (slice 15 21 buf') 5 (by omega), and127, shl10, shl2, bitor, shr6, and63, shl16, shl8,
        e24, pySlice_bytes_from, set_buf]
      refine ⟨_, rfl, rfl, ?_, rfl⟩
      simp only [encTS, List.map_append, List.map_cons, List.map_nil]
      rfl

end PyModeS.Tie
namespace PyModeS.Tie.Sky

theorem dictFind_setPair_ne (a b : List Char) (h : a ≠ b) (v : Val) (l : List (Val × Val)) :
    dictFind (setPair (.str a) v l) (.str b) = dictFind l (.str b) := Beast.dictFind_setPair_ne a b h v l
theorem shl24 (a : Nat) : pyShl (Val.ofNat a) (.num 24) = .val (Val.ofNat (a <<< 24)) := Beast.shl24 a
theorem pyMul_ofNat_num (n : Nat) (q : Rat) : pyMul (Val.ofNat n) (.num q) = .val (.num ((n : Rat) * q)) := rfl
theorem pyAdd_ofNat_num (n : Nat) (q : Rat) : pyAdd (Val.ofNat n) (.num q) = .val (.num ((n : Rat) + q)) := rfl

end PyModeS.Tie.Sky
