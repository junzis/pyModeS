/-
  Receivers of the generated methods as attribute dictionaries with string keys (`self.x` is `dictFind l (attrKey "x")`,
  `self.x = v` is `setPair (attrKey "x") v l`), and the rule for a `for` loop whose body keeps a relation to a model
  state.  Used by the stream readers (`Tie/BeastReader.lean`, `Tie/SkyReader.lean`, `Tie/RawReader.lean`,
  `Tie/Source.lean`, `Tie/C16Gen.lean`), by `Tie/RtlBuffer.lean` and, for the aircraft table with `None` among its
  keys, by `Tie/DecodeDirect.lean`; the names are in the readers' namespace `PyModeS.Tie.Beast`.
-/
import PyModeS.Tie.Basic

open PyModeS PyModeS.Py PyModeS.CRC PyModeS.Tie
namespace PyModeS.Tie.Beast

/-! ### dictionaries: look-up and item assignment, for any key equal to itself and for string keys -/

theorem dictFind_cons (k k' v : Val) (l : List (Val × Val)) :
    dictFind ((k', v) :: l) k = if Val.beq k k' then some v else dictFind l k := by
  unfold dictFind
  rw [List.find?_cons]
  by_cases h : Val.beq k k' = true
  · simp [h]
  · simp [h]

theorem setPair_cons (k k' v v' : Val) (l : List (Val × Val)) :
    setPair k v ((k', v') :: l) = if Val.beq k k' then (k', v) :: l else (k', v') :: setPair k v l := rfl

theorem beq_str_str (a b : List Char) : Val.beq (.str a) (.str b) = (a == b) := by simp [Val.beq]

theorem beq_str_iff (a : List Char) (k : Val) : Val.beq (.str a) k = true ↔ k = .str a := by
  cases k with
  | str b => rw [beq_str_str]; simp only [beq_iff_eq, Val.str.injEq]; exact eq_comm
  | none => simp [Val.beq]
  | bool b => simp [Val.beq]
  | num b => simp [Val.beq]
  | tuple b => simp [Val.beq]
  | dict b => simp [Val.beq]

theorem dictFind_setPair_self {k : Val} (hk : Val.beq k k = true) (v : Val) (l : List (Val × Val)) :
    dictFind (setPair k v l) k = some v := by
  induction l with
  | nil => simp [setPair, dictFind_cons, hk]
  | cons kv l ih =>
    obtain ⟨k', v'⟩ := kv
    rw [setPair_cons]
    by_cases h : Val.beq k k' = true
    · rw [if_pos h, dictFind_cons, if_pos h]
    · rw [if_neg h, dictFind_cons, if_neg h, ih]

theorem beq_str_self (a : List Char) : Val.beq (.str a) (.str a) = true := by rw [beq_str_str, beq_self_eq_true]

theorem dictFind_setPair_same (a : List Char) (v : Val) (l : List (Val × Val)) :
    dictFind (setPair (.str a) v l) (.str a) = some v := dictFind_setPair_self (beq_str_self a) v l

theorem dictFind_setPair_ne (a b : List Char) (h : a ≠ b) (v : Val) (l : List (Val × Val)) :
    dictFind (setPair (.str a) v l) (.str b) = dictFind l (.str b) := by
  induction l with
  | nil => simp [setPair, dictFind_cons, beq_str_str, Ne.symm h]
  | cons kv l ih =>
    obtain ⟨k', v'⟩ := kv
    rw [setPair_cons]
    by_cases hb : Val.beq (.str a) k' = true
    · rw [if_pos hb]
      have hk := (beq_str_iff a k').1 hb
      subst hk
      simp [dictFind_cons, beq_str_str, Ne.symm h]
    · rw [if_neg hb, dictFind_cons, dictFind_cons, ih]

theorem setPair_setPair_self {k : Val} (hk : Val.beq k k = true) (v v' : Val) (l : List (Val × Val)) :
    setPair k v' (setPair k v l) = setPair k v' l := by
  induction l with
  | nil => simp [setPair, hk]
  | cons kv l ih =>
    obtain ⟨k', v''⟩ := kv
    rw [setPair_cons]
    by_cases h : Val.beq k k' = true
    · rw [if_pos h, setPair_cons, if_pos h, setPair_cons, if_pos h]
    · rw [if_neg h, setPair_cons, if_neg h, setPair_cons, if_neg h, ih]

theorem setPair_setPair (a : List Char) (v v' : Val) (l : List (Val × Val)) :
    setPair (.str a) v' (setPair (.str a) v l) = setPair (.str a) v' l := setPair_setPair_self (beq_str_self a) v v' l

/-- assigning the value an attribute already has changes nothing -/
theorem setPair_of_find {l : List (Val × Val)} {k v : Val} (h : dictFind l k = some v) : setPair k v l = l := by
  induction l with
  | nil => simp [dictFind] at h
  | cons kv l ih =>
    obtain ⟨k', v'⟩ := kv
    rw [dictFind_cons] at h
    rw [setPair_cons]
    by_cases hb : Val.beq k k' = true
    · rw [if_pos hb] at h ⊢
      cases h; rfl
    · rw [if_neg hb] at h ⊢
      rw [ih h]

theorem dictFind_setPair_of_find {l : List (Val × Val)} {k e : Val} (v : Val) (h : dictFind l k = some e) :
    dictFind (setPair k v l) k = some v := by
  induction l with
  | nil => simp [dictFind] at h
  | cons kv l ih =>
    obtain ⟨k', v'⟩ := kv
    rw [dictFind_cons] at h
    rw [setPair_cons]
    by_cases hb : Val.beq k k' = true
    · rw [if_pos hb, dictFind_cons, if_pos hb]
    · rw [if_neg hb] at h
      rw [if_neg hb, dictFind_cons, if_neg hb, ih h]

/-- attribute names are compared as strings (`simp` decides `"a" = "b"` on literals without unfolding them) -/
theorem beq_toList (a b : String) : Val.beq (.str a.toList) (.str b.toList) = decide (a = b) := by
  rw [Val.beq, Bool.eq_iff_iff]
  simp only [beq_iff_eq, String.toList_inj, decide_eq_true_eq]

theorem attrKey_beq (a b : String) : Val.beq (attrKey a) (attrKey b) = decide (a = b) := beq_toList a b

theorem toList_ne {a b : String} (h : a ≠ b) : a.toList ≠ b.toList := fun e => h (String.toList_inj.1 e)

/-! ### loops -/

/-- loop rule: a `for` over the items `enc a`, `a ∈ l`, whose body keeps the relation `R` between a model state and
    the mutable variables, computes the fold of the model step `g` (stated with the rest `K` of the program, so that
    body and rest are found by unification with the goal) -/
theorem forIn_fold {α σ τ β} (enc : α → Val) (R : τ → σ → Prop) (g : τ → α → τ) (f : Val → σ → Res (ForInStep σ))
    (K : σ → Res β) (r : Res β) (l : List α)
    (hstep : ∀ a ∈ l, ∀ t s, R t s → ∃ s', f (enc a) s = .val (.yield s') ∧ R (g t a) s') :
    ∀ t s, R t s → (∀ s', R (l.foldl g t) s' → K s' = r) → (forIn (l.map enc) s f >>= K) = r := by
  induction l with
  | nil => exact fun t s h hK => hK s h
  | cons a l ih =>
    intro t s h hK
    obtain ⟨s1, e1, h1⟩ := hstep a List.mem_cons_self t s h
    rw [List.map_cons, List.forIn_cons, e1, bind_val']
    exact ih (fun b hb => hstep b (List.mem_cons_of_mem _ hb)) (g t a) s1 h1 hK

end PyModeS.Tie.Beast
