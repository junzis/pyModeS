/-
  Tie: generated `bds05.airborne_position_with_ref` / `bds06.surface_position_with_ref` = hand model (`Model/CPR.lean`).
-/
import PyModeS.Tie.Basic
import PyModeS.Tie.Common
import PyModeS.Generated.Src.bds05
import PyModeS.Generated.Src.bds06
import Mathlib.Tactic.NormNum

namespace PyModeS.Tie
open PyModeS PyModeS.Py PyModeS.CRC

theorem common_floor_num (q : Rat) : Gen.Ext.common_floor (.num q) = .val (.num ((q.floor : Int) : Rat)) := by
  simp only [Gen.Ext.common_floor, num?_num, Val.ofInt]

theorem common_cprNL_num (q : Rat) : Gen.Ext.common_cprNL (.num q) = .val (.num ((cprNL q : Nat) : Rat)) := by
  simp only [Gen.Ext.common_cprNL, num?_num, Val.ofNat]

/-- `bin2int(mb[a:b]) / 2**17`: a 17-bit CPR field as a fraction, the rest of the function as continuation `k` -/
theorem read17 (mb : Bits) (a b : Nat) (k : Val → Res Val) :
    (do let s ← pySliceNN (Val.ofBits mb) a b
        let n ← Gen.py_common.bin2int s
        let c ← pyDiv n (Val.num 131072)
        k c) = (bin2intR (slice a b mb) >>= fun n => k (.num ((n : Rat) / 131072))) := by
  rw [pySliceNN_ofBits, bind_val', bin2int_ofBits, bind_assoc]
  refine bind_congr fun n => ?_
  rw [bind_val', Val.ofNat, pyDiv_num _ _ (by norm_num), bind_val']

/-- both `*_position_with_ref` functions (`base` = 360 airborne, 90 surface) after `mb = hex2bin(msg)[32:]` -/
theorem with_ref_main (base : Rat) (hb : base ≠ 0) (bits : Bits) (la lo : Rat) :
    (do let __do_lift ← pySliceNN (Val.ofBits (bits.drop 32)) 22 39
        let __do_lift ← Gen.py_common.bin2int __do_lift
        let cprlat ← pyDiv __do_lift (Val.num 131072)
        let __do_lift ← pySliceNN (Val.ofBits (bits.drop 32)) 39 56
        let __do_lift ← Gen.py_common.bin2int __do_lift
        let cprlon ← pyDiv __do_lift (Val.num 131072)
        let __do_lift ← pyIdxN (Val.ofBits (bits.drop 32)) 21
        let i ← pyInt1 __do_lift
        let d_lat ← (do if pyTruth i then pyDiv (Val.num base) (Val.num 59) else pyDiv (Val.num base) (Val.num 60))
        let __do_lift ← pyDiv (Val.num la) d_lat
        let __do_lift ← pyAdd (Val.num (1 / 2)) __do_lift
        let __do_lift ← pySub __do_lift cprlat
        let j ← Gen.Ext.common_floor __do_lift
        let __do_lift ← pyAdd j cprlat
        let lat ← pyMul d_lat __do_lift
        let __do_lift ← Gen.Ext.common_cprNL lat
        let ni ← pySub __do_lift i
        let __do_lift ← pyGt ni (Val.num 0)
        have __do_jp : Unit → Val → Res Val := fun __r d_lon => do
          let __do_lift ← pyDiv (Val.num lo) d_lon
          let __do_lift ← pyAdd (Val.num (1 / 2)) __do_lift
          let __do_lift ← pySub __do_lift cprlon
          let m ← Gen.Ext.common_floor __do_lift
          let __do_lift ← pyAdd m cprlon
          let lon ← pyMul d_lon __do_lift
          pure (Val.tuple [lat, lon])
        if pyTruth __do_lift = true then do
            let d_lon ← pyDiv (Val.num base) ni
            __do_jp () d_lon
          else
            have d_lon := Val.num base;
            __do_jp () d_lon) =
      (cprFields bits >>= fun f => .val (.tuple [.num (positionWithRefCore cprNL base f la lo).1,
        .num (positionWithRefCore cprNL base f la lo).2])) := by
  have hA : ∀ l : Bits, bin2intR l ≠ .rte := by
    intro l; unfold bin2intR; split <;> simp
  have hO : ∀ l : Bits, idxR l 21 ≠ .rte := by
    intro l; unfold idxR; split <;> simp
  unfold cprFields
  dsimp only
  generalize bits.drop 32 = mb
  simp only [bind_assoc, pure_bind]
  -- the code reads the format bit last, the model first
  rw [read17, bind_swap (idxR mb 21) _ (hO _) (hA _)]
  refine bind_congr fun a => ?_
  rw [read17, bind_swap (idxR mb 21) _ (hO _) (hA _)]
  refine bind_congr fun b => ?_
  rw [pyIdxN_ofBits, bind_assoc]
  refine bind_congr fun oe => ?_
  have hd : (if oe = true then pyDiv (Val.num base) (Val.num 59) else pyDiv (Val.num base) (Val.num 60)) =
      .val (.num (if oe = true then base / 59 else base / 60)) := by
    cases oe
    · exact pyDiv_lit base 60
    · exact pyDiv_lit base 59
  have hd0 : (if oe = true then base / 59 else base / 60) ≠ 0 := by
    cases oe
    · exact div_ne_zero hb (by norm_num)
    · exact div_ne_zero hb (by norm_num)
  have hi : (if oe = true then (1 : Rat) else 0) = ((if oe = true then 1 else 0 : Nat) : Rat) := by
    cases oe
    · exact Nat.cast_zero.symm
    · exact Nat.cast_one.symm
  unfold positionWithRefCore pfloor two17
  dsimp only
  rw [bind_val', pyInt1_digit, bind_val', pyTruth_num01, hd, bind_val', hi]
  -- the format bit enters only through the zone size `d` and the index `i`: both parities in one computation
  generalize (if oe = true then base / 59 else base / 60) = d at hd0 ⊢
  generalize (if oe = true then 1 else 0 : Nat) = i
  rw [pyDiv_num _ _ hd0, bind_val', pyAdd_num, bind_val', pySub_num, bind_val', common_floor_num, bind_val',
    pyAdd_num, bind_val', pyMul_num, bind_val', common_cprNL_num, bind_val', pySub_num, bind_val', pyGt_num, bind_val',
    pyTruth_bool]
  generalize cprNL (d * (((1 / 2 + la / d - (a : Rat) / 131072).floor : Rat) + (a : Rat) / 131072)) = n
  have hc : (((n : Int) - (i : Int) : Int) : Rat) = (n : Rat) - i := by
    rw [Int.cast_sub, Int.cast_natCast, Int.cast_natCast]
  have hiff : ((n : Int) - (i : Int) > 0) ↔ (0 : Rat) < (n : Rat) - i := by rw [← hc, Int.cast_pos]
  by_cases hpos : (0 : Rat) < (n : Rat) - i
  · rw [if_pos (decide_eq_true hpos), if_pos (hiff.mpr hpos), hc, pyDiv_num _ _ (ne_of_gt hpos), bind_val',
      pyDiv_num _ _ (div_ne_zero hb (ne_of_gt hpos)), bind_val']
    rfl
  · rw [if_neg (by simpa using hpos), if_neg (mt hiff.mp hpos), pyDiv_num _ _ hb, bind_val']
    rfl

/-- `bds05.airborne_position_with_ref(msg, lat_ref, lon_ref)` on any non-empty hex string, references any two numbers -/
theorem airborne_position_with_ref_tie (m : Msg) (h : IsHex m) (hne : m ≠ []) (la lo : Rat) :
    Gen.bds05.airborne_position_with_ref (.str m) (.num la) (.num lo) =
      (airbornePositionWithRef (hex2binM m) la lo >>= fun p => .val (.tuple [.num p.1, .num p.2])) := by
  unfold Gen.bds05.airborne_position_with_ref airbornePositionWithRef
  rw [hex2bin_str m h hne, bind_val', pySliceFrom_ofBits, bind_val', with_ref_main 360 (by norm_num), bind_assoc]
  simp only [pure_bind]

/-- `bds06.surface_position_with_ref(msg, lat_ref, lon_ref)` on any non-empty hex string, references any two numbers -/
theorem surface_position_with_ref_tie (m : Msg) (h : IsHex m) (hne : m ≠ []) (la lo : Rat) :
    Gen.bds06.surface_position_with_ref (.str m) (.num la) (.num lo) =
      (surfacePositionWithRef (hex2binM m) la lo >>= fun p => .val (.tuple [.num p.1, .num p.2])) := by
  unfold Gen.bds06.surface_position_with_ref surfacePositionWithRef
  rw [hex2bin_str m h hne, bind_val', pySliceFrom_ofBits, bind_val', with_ref_main 90 (by norm_num), bind_assoc]
  simp only [pure_bind]

end PyModeS.Tie
