/-
  Ties of four unrelated groups of generated functions.

  1. `py_common.fs`, `py_common.dr`, `py_common.um` (the un-guarded FS / DR / UM readers of `py_common.py`; the
     `surv` module versions, which add a DF check, are in `Tie/Surv.lean` and `Tie/C08Gen.lean`).  The hand model
     (`fsField`, `drField`, `umFields` of `Model/Common.lean`) keeps the numbers only; the text the Python function
     returns next to the number is given by `fsLabel`, `drLabel`, `umLabel` below, transcribed from the Python text.
     NOTE the difference to `surv.fs` / `surv.dr`: in `py_common` the label of a value without text is `None`
     (`surv`: the empty string).
  2. `Decode.get_aircraft`.
  3. The default `handle_messages` of `RtlReader` and `TcpClient`.
  4. `TcpClient.read_beast_buffer_rssi_piaware` against a small functional model defined here (`readBeastRssi`:
     the framing `beastScan` of `Model/Stream.lean`, then per frame the signal level and the checks of
     `beastExtract`), with chunk invariance in the style of `Tie/C16Gen.lean`.
-/
import PyModeS.Tie.Common
import PyModeS.Tie.Surv
import PyModeS.Generated.Src.decode
import PyModeS.Generated.Src.rtlreader
import PyModeS.Generated.Src.tcpclient
import PyModeS.Tie.C16Gen

namespace PyModeS.Tie
open PyModeS PyModeS.Py PyModeS.CRC

/-! ## 1. `py_common.fs`, `py_common.dr`, `py_common.um` -/

/-- the text `py_common.fs` returns next to the FS value (`None` for 6 and 7) -/
def fsLabel (n : Nat) : Val :=
  if n = 0 then .str "no alert, no SPI, aircraft is airborne".toList
  else if n = 1 then .str "no alert, no SPI, aircraft is on-ground".toList
  else if n = 2 then .str "alert, no SPI, aircraft is airborne".toList
  else if n = 3 then .str "alert, no SPI, aircraft is on-ground".toList
  else if n = 4 then .str "alert, SPI, aircraft is airborne or on-ground".toList
  else if n = 5 then .str "no alert, SPI, aircraft is airborne or on-ground".toList
  else .none

/-- the text `py_common.dr` returns next to the DR value (`None` for 2, 3, 6 … 15) -/
def drLabel (n : Nat) : Val :=
  if n = 0 then .str "no downlink request".toList
  else if n = 1 then .str "request to send Comm-B message".toList
  else if n = 4 then .str "Comm-B broadcast 1 available".toList
  else if n = 5 then .str "Comm-B broadcast 2 available".toList
  else if 16 ≤ n then .str ("ELM downlink segments available: ".toList ++ (toString (n - 15)).toList)
  else .none

/-- the text `py_common.um` returns next to IIS and IDS (`None` for IDS = 0) -/
def umLabel (ids : Nat) : Val :=
  if ids = 1 then .str "Comm-B interrogator identifier code".toList
  else if ids = 2 then .str "Comm-C interrogator identifier code".toList
  else if ids = 3 then .str "Comm-D interrogator identifier code".toList
  else .none

/-- `py_common.fs(msg)`: the pair (FS, text), FS = bits 6–8 -/
theorem py_common_fs_tie (m : Msg) (h : IsHex m) (hl : 2 ≤ m.length) :
    Gen.py_common.fs (.str m) =
      .val (.tuple [Val.ofNat (fsField (hex2binM m)), fsLabel (fsField (hex2binM m))]) := by
  unfold Gen.py_common.fs fsField
  have hne : m ≠ [] := by intro e; simp [e] at hl
  have hs : 0 < (slice 5 8 (hex2binM m)).length := by rw [slice_length, hex2binM_length]; omega
  simp only [hex2bin_str m h hne, bind_val', pySliceNN_ofBits, bin2int_ofBits, bin2intR_of_length hs]
  generalize PyModeS.bin2int (slice 5 8 (hex2binM m)) = n
  obtain ⟨e0, e1, e2, e3, e4, e5, -, -⟩ := pyEq_ofNat_lits n
  -- code and `fsLabel` branch alike: with the result tuple pushed into the branches of `fsLabel` the sides coincide
  simp only [bind_val', e0, e1, e2, e3, e4, e5, pyTruth_bool, decide_eq_true_eq, Res.pure_eq, fsLabel,
    apply_ite (fun t => Res.val (Val.tuple [Val.ofNat n, t]))]

/-- `py_common.dr(msg)`: the pair (DR, text), DR = bits 9–13 -/
theorem py_common_dr_tie (m : Msg) (h : IsHex m) (hl : 3 ≤ m.length) :
    Gen.py_common.dr (.str m) =
      .val (.tuple [Val.ofNat (drField (hex2binM m)), drLabel (drField (hex2binM m))]) := by
  unfold Gen.py_common.dr drField
  have hne : m ≠ [] := by intro e; simp [e] at hl
  have hs : 0 < (slice 8 13 (hex2binM m)).length := by rw [slice_length, hex2binM_length]; omega
  simp only [hex2bin_str m h hne, bind_val', pySliceNN_ofBits, bin2int_ofBits, bin2intR_of_length hs]
  generalize PyModeS.bin2int (slice 8 13 (hex2binM m)) = n
  obtain ⟨e0, e1, -, -, e4, e5, -, -⟩ := pyEq_ofNat_lits n
  simp only [bind_val', e0, e1, e4, e5, pyGe_ofNat_lit, pyTruth_bool, decide_eq_true_eq, Res.pure_eq, drLabel]
  by_cases c0 : n = 0
  · simp only [c0, if_true]
  by_cases c1 : n = 1
  · simp only [c1, if_true]; rfl
  by_cases c4 : n = 4
  · simp only [c4, if_true]; rfl
  by_cases c5 : n = 5
  · simp only [c5, if_true]; rfl
  by_cases c16 : 16 ≤ n
  · have hsub : pySub (Val.ofNat n) (Val.num 15) = .val (Val.ofNat (n - 15)) := pySub_ofNat n 15 (by omega)
    simp only [c0, c1, c4, c5, c16, if_true, if_false, bind_val', pyFormat1, hsub, pyStr_ofNat, Tie.pyAdd_str,
      List.append_nil]
  · simp only [c0, c1, c4, c5, c16, if_false]

/-- `py_common.um(msg)`: the triple (IIS, IDS, text), IIS = bits 14–17, IDS = bits 18–19 -/
theorem py_common_um_tie (m : Msg) (h : IsHex m) (hl : 5 ≤ m.length) :
    Gen.py_common.um (.str m) =
      .val (.tuple [Val.ofNat (umFields (hex2binM m)).1, Val.ofNat (umFields (hex2binM m)).2,
        umLabel (umFields (hex2binM m)).2]) := by
  unfold Gen.py_common.um umFields
  have hne : m ≠ [] := by intro e; simp [e] at hl
  have hs1 : 0 < (slice 13 17 (hex2binM m)).length := by rw [slice_length, hex2binM_length]; omega
  have hs2 : 0 < (slice 17 19 (hex2binM m)).length := by rw [slice_length, hex2binM_length]; omega
  simp only [hex2bin_str m h hne, bind_val', pySliceNN_ofBits, bin2int_ofBits, bin2intR_of_length hs1,
    bin2intR_of_length hs2]
  generalize PyModeS.bin2int (slice 13 17 (hex2binM m)) = iis
  generalize PyModeS.bin2int (slice 17 19 (hex2binM m)) = ids
  obtain ⟨e0, e1, e2, e3, -, -, -, -⟩ := pyEq_ofNat_lits ids
  rw [e0, e1, e2, e3, umLabel]
  -- four independent `if`s, each overwriting the text: decide `ids` before running them
  by_cases h1 : ids = 1
  · subst h1; rfl
  by_cases h2 : ids = 2
  · subst h2; rfl
  by_cases h3 : ids = 3
  · subst h3; rfl
  simp only [h1, h2, h3, decide_false, bind_val', pyTruth_bool, Bool.false_eq_true, if_false, ite_self, Res.pure_eq]

/-! ## 2. `Decode.get_aircraft` -/

/-- `get_aircraft()` on any receiver: the attribute `acs`, the receiver unchanged (`AttributeError` is `exc`) -/
theorem Decode_get_aircraft_eq (self : Val) :
    Gen.decode.Decode_get_aircraft self = (pyGetAttr self "acs" >>= fun acs => .val (.tuple [self, acs])) := rfl

/-- `get_aircraft()` on a receiver with the aircraft table `acs`: returns `acs`; the receiver is unchanged -/
theorem Decode_get_aircraft_tie (attrs : List (Val × Val)) (acs : Val)
    (h : dictFind attrs (attrKey "acs") = some acs) :
    Gen.decode.Decode_get_aircraft (.dict attrs) = .val (.tuple [.dict attrs, acs]) := by
  rw [Decode_get_aircraft_eq]
  simp only [pyGetAttr, h, bind_val']

/-- without the attribute `acs`: `AttributeError` -/
theorem Decode_get_aircraft_missing (attrs : List (Val × Val))
    (h : dictFind attrs (attrKey "acs") = none) :
    Gen.decode.Decode_get_aircraft (.dict attrs) = .exc := by
  rw [Decode_get_aircraft_eq]
  simp only [pyGetAttr, h]
  rfl

/-! ## 3. the default `handle_messages` of `RtlReader` and `TcpClient`

  Python: `for msg, t in messages: pass` (`RtlReader`) and `for msg, t in messages: print(...)` (`TcpClient`; the
  `print` is not part of the generated model).  So the call does nothing to the receiver and returns `None`,
  provided `messages` can be iterated and every item unpacks into two. -/

/-- items `msg, t = item` accepts: a two-element list / tuple (or a two-character string) -/
def isPair : Val → Bool
  | .tuple [_, _] => true
  | .str [_, _] => true
  | _ => false

/-- the default `handle_messages`: `self` unchanged and `None`, or the exception of the iteration / unpacking -/
def handleDefault (self messages : Val) : Res Val :=
  pyIter messages >>= fun items => if items.all isPair then .val (.tuple [self, .none]) else .exc

theorem isPair_step (it : Val) :
    (isPair it = true → ∃ a b, pyUnpackCheck it 2 = .val () ∧ pyIdxN it 0 = .val a ∧ pyIdxN it 1 = .val b) ∧
    (isPair it = false → pyUnpackCheck it 2 = .exc) := by
  cases it with
  | tuple l =>
    rcases l with _ | ⟨a, _ | ⟨b, _ | ⟨c, l⟩⟩⟩
    · exact ⟨fun h => by simp [isPair] at h, fun _ => rfl⟩
    · exact ⟨fun h => by simp [isPair] at h, fun _ => rfl⟩
    · exact ⟨fun _ => ⟨a, b, rfl, rfl, rfl⟩, fun h => by simp [isPair] at h⟩
    · refine ⟨fun h => by simp [isPair] at h, fun _ => ?_⟩
      simp [pyUnpackCheck]
  | str l =>
    rcases l with _ | ⟨a, _ | ⟨b, _ | ⟨c, l⟩⟩⟩
    · exact ⟨fun h => by simp [isPair] at h, fun _ => rfl⟩
    · exact ⟨fun h => by simp [isPair] at h, fun _ => rfl⟩
    · exact ⟨fun _ => ⟨_, _, rfl, rfl, rfl⟩, fun h => by simp [isPair] at h⟩
    · refine ⟨fun h => by simp [isPair] at h, fun _ => ?_⟩
      simp [pyUnpackCheck]
  | none => exact ⟨fun h => by simp [isPair] at h, fun _ => rfl⟩
  | bool b => exact ⟨fun h => by simp [isPair] at h, fun _ => rfl⟩
  | num q => exact ⟨fun h => by simp [isPair] at h, fun _ => rfl⟩
  | dict d => exact ⟨fun h => by simp [isPair] at h, fun _ => rfl⟩

/-- The body of the loop of `RtlReader.handle_messages` (that of `TcpClient.handle_messages` is the same term): the
    `F` with `handle_messages self messages = pyIter messages >>= fun items => forIn items init F >>= K`, found by
    unification instead of copied from the generated file. -/
def handleBody : { F : Val → Val × Val → Res (ForInStep (Val × Val)) //
    ∀ self messages, ∃ K, Gen.rtlreader.RtlReader_handle_messages self messages =
      (pyIter messages >>= fun items => forIn items (Val.none, Val.none) F >>= K) } :=
  ⟨_, fun _ _ => ⟨_, rfl⟩⟩

theorem handle_body_ok (it : Val) (st : Val × Val) (h : isPair it = true) :
    ∃ st', handleBody.1 it st = .val (.yield st') := by
  obtain ⟨a, b, e0, e1, e2⟩ := (isPair_step it).1 h
  dsimp only [handleBody]
  exact ⟨(a, b), by simp only [e0, e1, e2, bind_val', Res.pure_eq]⟩

theorem handle_body_bad (it : Val) (st : Val × Val) (h : isPair it = false) : handleBody.1 it st = .exc := by
  dsimp only [handleBody]
  simp only [(isPair_step it).2 h]
  rfl

/-- a loop whose body succeeds exactly on pairs, followed by `return R` -/
theorem pairLoop {σ} (f : Val → σ → Res (ForInStep σ))
    (hok : ∀ it st, isPair it = true → ∃ st', f it st = .val (.yield st'))
    (hbad : ∀ it st, isPair it = false → f it st = .exc) (R : Val) : ∀ (items : List Val) (st : σ),
    (forIn items st f >>= fun _ => (pure R : Res Val)) = if items.all isPair = true then Res.val R else Res.exc
  | [], _ => rfl
  | it :: items, st => by
    rw [List.forIn_cons, List.all_cons]
    cases hp : isPair it with
    | true =>
      obtain ⟨st1, e1⟩ := hok it st hp
      rw [e1, bind_val', Bool.true_and]
      exact pairLoop f hok hbad R items st1
    | false =>
      rw [hbad it st hp, Bool.false_and, if_neg Bool.false_ne_true]
      rfl

/-- `RtlReader.handle_messages(messages)` on any receiver and any argument -/
theorem RtlReader_handle_messages_tie (self messages : Val) :
    Gen.rtlreader.RtlReader_handle_messages self messages = handleDefault self messages := by
  unfold Gen.rtlreader.RtlReader_handle_messages handleDefault
  generalize pyIter messages = r
  rcases r with (items | _ | _)
  swap; · rfl
  swap; · rfl
  rw [bind_val', bind_val']
  exact pairLoop _ handle_body_ok handle_body_bad _ items _

/-- `TcpClient.handle_messages(messages)` on any receiver and any argument (the `print` of the Python body is not
    modelled) -/
theorem TcpClient_handle_messages_tie (self messages : Val) :
    Gen.tcpclient.TcpClient_handle_messages self messages = handleDefault self messages := by
  unfold Gen.tcpclient.TcpClient_handle_messages handleDefault
  generalize pyIter messages = r
  rcases r with (items | _ | _)
  swap; · rfl
  swap; · rfl
  rw [bind_val', bind_val']
  exact pairLoop _ handle_body_ok handle_body_bad _ items _

/-- on a list of `[msg, t]` items: nothing happens -/
theorem handleDefault_pairs (self : Val) (msgs : List (Val × Val)) :
    handleDefault self (.tuple (msgs.map fun p => .tuple [p.1, p.2])) = .val (.tuple [self, .none]) := by
  have hit : pyIter (.tuple (msgs.map fun p => Val.tuple [p.1, p.2])) = .val (msgs.map fun p => Val.tuple [p.1, p.2]) :=
    rfl
  have hall : (msgs.map fun p => Val.tuple [p.1, p.2]).all isPair = true := by
    simp [List.all_map, isPair]
  rw [handleDefault, hit, bind_val', if_pos hall]

end PyModeS.Tie

/-! ## 4. `TcpClient.read_beast_buffer_rssi_piaware`

  The framing loop is the one of `read_beast_buffer` (`beastScan` of `Model/Stream.lean`); the extraction loop
  additionally turns the signal-level byte `mm[7]` of every frame whose text has 14 or 28 digits into
  `10 * log10((mm[7] / 255) ** 2)` — BEFORE the DF / length filter, so a frame that is then filtered out still
  has its signal level computed, and a signal byte `0` makes `math.log10` raise (`rssiDb_zero`): the whole call
  fails.  `log10` is the external `Ext.math_log10` (double precision, opaque here); the model below calls the same
  external on the exact rational `(raw / 255) ^ 2` — which is what the generated code does (`pyDiv`, `pyPow` are
  exact on `Val.num`), whereas Python rounds `raw / 255` and its square to doubles before `log10`.

  * `TcpClient_read_beast_buffer_rssi_piaware_tie`: the generated method = `readBeastRssi` (failures included).
  * `readBeastRssi_val`: whenever the call returns, texts and retained buffer are those of `readBeast`.
  * `readBeastRssi_append`, `feedR_flatten`: two-chunk lemma / chunk invariance of the model reader.
  * `TcpClient_read_beast_buffer_rssi_piaware_chunk_invariant_tie`: chunk invariance of the generated reader. -/

namespace PyModeS.Tie.BeastRssi
open PyModeS PyModeS.Py PyModeS.CRC PyModeS.Tie PyModeS.Tie.Beast

/-- `10 * math.log10((raw / 255) ** 2)` -/
def rssiDb (raw : Byte) : Res Val :=
  Gen.Ext.math_log10 (.num (((raw : Rat) / 255) ^ 2)) >>= fun x => pyMul (.num 10) x

/-- signal byte 0: `ValueError: math domain error` -/
theorem rssiDb_zero : rssiDb 0 = .exc := by
  simp [rssiDb, Gen.Ext.math_log10, Py.Val.num?]

/-- the hex text of an un-escaped Beast frame, before the length / DF checks -/
def beastText (mm : List Byte) : Option Msg :=
  match mm with
  | [] => none
  | t :: _ =>
    if t = 50 then some (hexOfBytes (slice 8 15 mm))
    else if t = 51 then some (hexOfBytes (slice 8 22 mm)) else none

/-- the checks on a candidate text `m` of the frame `mm`: the signal level is computed as soon as the text has 14 or 28
    digits, before the DF / length filter `chk` (`Tie/BeastReader.lean`: the checks of `beastExtract`) -/
def rssiChk (mm : List Byte) (m : Msg) : Res (Option (Msg × Val)) :=
  if m.length ≠ 14 ∧ m.length ≠ 28 then .val none
  else rssiDb (mm.getD 7 0) >>= fun r => .val ((chk m).map fun m => (m, r))

/-- one frame: `none` = skipped -/
def beastExtractRssi (mm : List Byte) : Res (Option (Msg × Val)) :=
  match beastText mm with
  | none => .val none
  | some m => rssiChk mm m

theorem beastExtractRssi_cons (t : Byte) (rest : List Byte) :
    beastExtractRssi (t :: rest) =
      if t = 50 then rssiChk (t :: rest) (hexOfBytes (slice 8 15 (t :: rest)))
      else if t = 51 then rssiChk (t :: rest) (hexOfBytes (slice 8 22 (t :: rest))) else .val none := by
  unfold beastExtractRssi beastText
  by_cases h50 : t = 50
  · simp [h50]
  · by_cases h51 : t = 51
    · simp [h51]
    · simp [h50, h51]

/-- all frames in order; the first failure is the result -/
def extractAll : List (List Byte) → Res (List (Msg × Val))
  | [] => .val []
  | fr :: frs => beastExtractRssi fr >>= fun o => extractAll frs >>= fun l => .val (o.toList ++ l)

/-- `read_beast_buffer_rssi_piaware`: ([msg, rssi] items, new `self.buffer`) -/
def readBeastRssi (buf : List Byte) : Res (List (Msg × Val) × List Byte) :=
  extractAll (beastScan buf [] [] buf).1 >>= fun l => .val (l, (beastScan buf [] [] buf).2)

/-! ### the model reader: it frames like `readBeast`, never raises `RuntimeError`, and obeys the two-chunk equation -/

/-- a program that returns, returns from each of its parts -/
theorem bind_eq_val {α β} {x : Res α} {f : α → Res β} {b : β} (h : (x >>= f) = .val b) :
    ∃ a, x = .val a ∧ f a = .val b := by
  rcases x with (a | _ | _)
  · exact ⟨a, rfl, h⟩
  · cases h
  · cases h

theorem rssiChk_val (mm : List Byte) (m : Msg) (o : Option (Msg × Val)) (h : rssiChk mm m = .val o) :
    o.map Prod.fst = chk m := by
  unfold rssiChk at h
  by_cases hl : m.length ≠ 14 ∧ m.length ≠ 28
  · rw [if_pos hl] at h
    cases h
    simp [chk, hl]
  · rw [if_neg hl] at h
    obtain ⟨x, _, h⟩ := bind_eq_val h
    cases h
    cases chk m <;> rfl

/-- when the signal level of a frame can be computed, the message is the one of `beastExtract` -/
theorem beastExtractRssi_val (mm : List Byte) (o : Option (Msg × Val)) (h : beastExtractRssi mm = .val o) :
    o.map Prod.fst = beastExtract mm := by
  cases mm with
  | nil => cases h; rfl
  | cons t rest =>
    rw [beastExtractRssi_cons] at h
    rw [beastExtract_cons]
    by_cases h50 : t = 50
    · rw [if_pos h50] at h ⊢; exact rssiChk_val _ _ _ h
    · rw [if_neg h50] at h ⊢
      by_cases h51 : t = 51
      · rw [if_pos h51] at h ⊢; exact rssiChk_val _ _ _ h
      · rw [if_neg h51] at h ⊢; cases h; rfl

theorem extractAll_val : ∀ (frames : List (List Byte)) (l : List (Msg × Val)), extractAll frames = .val l →
    l.map Prod.fst = frames.filterMap beastExtract
  | [], l, h => by cases h; rfl
  | fr :: frs, l, h => by
    obtain ⟨o, ho, h⟩ := bind_eq_val h
    obtain ⟨l2, hl2, h⟩ := bind_eq_val h
    cases h
    rw [List.map_append, extractAll_val frs l2 hl2, List.filterMap_cons, ← beastExtractRssi_val fr o ho]
    cases o <;> rfl

/-- **The RSSI reader frames like the plain reader.**  Whenever the call returns, its message texts are those of
    `readBeast` and the retained buffer is the same. -/
theorem readBeastRssi_val (buf : List Byte) (p : List (Msg × Val) × List Byte) (h : readBeastRssi buf = .val p) :
    p.1.map Prod.fst = (readBeast buf).1 ∧ p.2 = (readBeast buf).2 := by
  obtain ⟨l, hl, h⟩ := bind_eq_val h
  cases h
  exact ⟨extractAll_val _ _ hl, rfl⟩

/-- the signal level never fails with `RuntimeError` (only with the exception of `log10`) -/
theorem rssiDb_ne_rte (b : Byte) : rssiDb b ≠ .rte := by
  unfold rssiDb Gen.Ext.math_log10 Gen.Ext.float1
  simp only [Py.Val.num?]
  split_ifs
  · intro h; cases h
  · intro h; cases h
  · rw [bind_val']
    intro h
    simp [pyMul, arith, Py.Val.num?] at h

/-- a program whose parts do not raise `RuntimeError` does not -/
theorem bind_ne_rte {α β} {x : Res α} {f : α → Res β} (hx : x ≠ .rte) (hf : ∀ a, f a ≠ .rte) : (x >>= f) ≠ .rte := by
  rcases x with (a | _ | _)
  · exact hf a
  · exact absurd rfl hx
  · nofun

theorem rssiChk_ne_rte (mm : List Byte) (m : Msg) : rssiChk mm m ≠ .rte := by
  unfold rssiChk
  split
  · nofun
  · exact bind_ne_rte (rssiDb_ne_rte _) fun _ => nofun

/-- a frame whose text has 14 or 28 digits and whose signal byte is `0`: the call fails, whatever the DF -/
theorem rssiChk_zero (mm : List Byte) (m : Msg) (h0 : mm.getD 7 0 = 0) (hl : m.length = 14 ∨ m.length = 28) :
    rssiChk mm m = .exc := by
  unfold rssiChk
  rw [if_neg (by omega), h0, rssiDb_zero]
  rfl

theorem beastExtractRssi_ne_rte (mm : List Byte) : beastExtractRssi mm ≠ .rte := by
  unfold beastExtractRssi
  cases beastText mm with
  | none => intro h; cases h
  | some m => exact rssiChk_ne_rte mm m

theorem extractAll_ne_rte : ∀ frames : List (List Byte), extractAll frames ≠ .rte
  | [] => nofun
  | fr :: frs =>
    bind_ne_rte (beastExtractRssi_ne_rte fr) fun _ => bind_ne_rte (extractAll_ne_rte frs) fun _ => nofun

/-- the reader never raises `RuntimeError` -/
theorem readBeastRssi_ne_rte (buf : List Byte) : readBeastRssi buf ≠ .rte :=
  bind_ne_rte (extractAll_ne_rte _) fun _ => nofun

theorem extractAll_append : ∀ (a b : List (List Byte)),
    extractAll (a ++ b) = (extractAll a >>= fun l1 => extractAll b >>= fun l2 => .val (l1 ++ l2))
  | [], b => by simp only [List.nil_append, extractAll, bind_val', bind_val_id]
  | fr :: a, b => by
    simp only [List.cons_append, extractAll, extractAll_append a b, bind_assoc, bind_val', List.append_assoc]

theorem readBeastRssi_nil : readBeastRssi [] = .val ([], []) := by
  simp [readBeastRssi, PyModeS.Stream.beastScan_nil, extractAll]

/-- two-chunk lemma for the RSSI reader, arbitrary bytes, failures included -/
theorem readBeastRssi_append (a b : List Byte) :
    readBeastRssi (a ++ b) =
      (readBeastRssi a >>= fun p => readBeastRssi (p.2 ++ b) >>= fun q => .val (p.1 ++ q.1, q.2)) := by
  have h := PyModeS.Stream.beastScan_append a [] [] a (PyModeS.Stream.Resume.init a) b
  unfold readBeastRssi
  rw [h]
  simp only [extractAll_append, bind_assoc, bind_val']

theorem readBeastRssi_snd (buf : List Byte) (p : List (Msg × Val) × List Byte) (h : readBeastRssi buf = .val p) :
    p.2 <:+ buf := by
  rw [(readBeastRssi_val buf p h).2]
  exact C16Gen.readBeast_suffix buf

/-- `[msg, dbfs_rssi, ts]` items (`ts` is the `0` of `Ext.time_time`) -/
def encR (l : List (Msg × Val)) : Val := .tuple (l.map fun p => .tuple [.str p.1, p.2, .num 0])


/-! ### the extraction loop -/

abbrev S3 := Val × Val × Val × Val × Val × Val × Val × Val × Val × Val

/-- one iteration against `beastExtractRssi`: the same failure, or `messages` extended by the item -/
def StepRel (r : Res (Option (Msg × Val))) (x : Res (ForInStep S3)) (msgs : List (Msg × Val)) : Prop :=
  match r with
  | .val o => ∃ st', x = .val (.yield st') ∧ st'.2.2.2.2.2.2.2.2.2 = encR (msgs ++ o.toList)
  | .rte => x = .rte
  | .exc => x = .exc

theorem loop3 (f : Val → S3 → Res (ForInStep S3))
    (hstep : ∀ frame : List Byte, frame ≠ [] → (∀ b ∈ frame, b < 256) → ∀ (st : S3) (msgs : List (Msg × Val)),
      st.2.2.2.2.2.2.2.2.2 = encR msgs → StepRel (beastExtractRssi frame) (f (encBytes frame) st) msgs)
    (K : S3 → Res Val) (R : List (Msg × Val) → Res Val)
    (hK : ∀ (st' : S3) (l : List (Msg × Val)), st'.2.2.2.2.2.2.2.2.2 = encR l → K st' = R l) :
    ∀ (frames : List (List Byte)), (∀ fr ∈ frames, fr ≠ [] ∧ ∀ b ∈ fr, b < 256) →
      ∀ (st : S3) (msgs : List (Msg × Val)), st.2.2.2.2.2.2.2.2.2 = encR msgs →
      (forIn (frames.map encBytes) st f >>= K) = (extractAll frames >>= fun l => R (msgs ++ l)) := by
  intro frames
  induction frames with
  | nil =>
    intro _ st msgs h
    rw [extractAll, bind_val', List.append_nil, ← hK st msgs h]
    rfl
  | cons fr frames ih =>
    intro hfr st msgs h
    have hs := hstep fr (hfr fr (by simp)).1 (hfr fr (by simp)).2 st msgs h
    rw [List.map_cons, List.forIn_cons, extractAll]
    generalize beastExtractRssi fr = r at hs
    rcases r with (o | _ | _)
    · obtain ⟨st1, e1, e2⟩ := hs
      rw [e1, bind_val', bind_val']
      simp only []
      rw [ih (fun x hx => hfr x (List.mem_cons_of_mem _ hx)) st1 _ e2]
      generalize extractAll frames = r2
      rcases r2 with (l2 | _ | _)
      · simp only [bind_val', List.append_assoc]
      · rfl
      · rfl
    · rw [show f (encBytes fr) st = .rte from hs]; rfl
    · rw [show f (encBytes fr) st = .exc from hs]; rfl

theorem appR (msgs : List (Msg × Val)) (m : Msg) (r : Val) :
    pyAppend (encR msgs) (.tuple [.str m, r, .num 0]) = .val (encR (msgs ++ [(m, r)])) := by
  simp [pyAppend, encR]

theorem div255 (n : Nat) : pyDiv (Val.ofNat n) (.num 255) = .val (.num ((n : Rat) / 255)) := by
  simp [pyDiv, Val.ofNat, Py.Val.num?]

theorem pow2 (q : Rat) : pyPow (.num q) (.num 2) = .val (.num (q ^ 2)) := by
  have : (Val.num 2).int? = some (Int.ofNat 2) := int?_ofNat 2
  simp only [pyPow, Py.Val.num?, this]

end PyModeS.Tie.BeastRssi
namespace PyModeS.Tie
open PyModeS PyModeS.Py PyModeS.CRC PyModeS.Tie.Beast PyModeS.Tie.BeastRssi

/-- `TcpClient.read_beast_buffer_rssi_piaware` on a receiver whose `buffer` holds `buf` (bytes below 256, shorter than the
    loop fuel): the receiver with the unread rest of the buffer, and the frames of `readBeastRssi buf` -/
theorem TcpClient_read_beast_buffer_rssi_piaware_tie (l : List (Val × Val)) (buf : List Byte)
    (hbuf : dictFind l (attrKey "buffer") = some (encBytes buf))
    (hb : ∀ b ∈ buf, b < 256) (hlen : buf.length < whileFuel) :
    Gen.tcpclient.TcpClient_read_beast_buffer_rssi_piaware (.dict l) =
      (readBeastRssi buf >>= fun p =>
        .val (.tuple [.dict (setPair (attrKey "buffer") (encBytes p.2) l), encR p.1])) := by
  have hg : pyGetAttr (.dict l) "buffer" = .val (encBytes buf) := by simp only [pyGetAttr, hbuf]
  obtain ⟨B, hrun, hscan, hgood⟩ := while_run l buf hg hb hlen
  unfold Gen.tcpclient.TcpClient_read_beast_buffer_rssi_piaware
  simp only [Std.Legacy.Range.forIn_eq_forIn_range', Std.Legacy.Range.size, Nat.sub_zero, Nat.add_sub_cancel,
    Nat.div_one]
  refine (hrun _).trans ?_
  rw [readBeastRssi, hscan]
  have hit : pyIter (encMlat B.out.reverse) = .val (B.out.reverse.map encBytes) := rfl
  have hset : ∀ v, pySetAttr (Val.dict l) "buffer" v = .val (.dict (setPair (attrKey "buffer") v l)) := fun _ => rfl
  simp only [encS, Bool.false_eq_true, if_false, hg, bind_val', pySlice_bytes_from, hset, hit, bind_assoc]
  refine loop3 _ ?step _
    (fun l'' => (.val (.tuple [.dict (setPair (attrKey "buffer") (encBytes (buf.drop B.start)) l), encR l'']) : Res Val))
    ?hK B.out.reverse hgood _ [] rfl
  case hK =>
    intro st' l h
    simp only [h, Res.pure_eq]
  case step =>
    intro frame hne hlt st msgs hst
    obtain ⟨mm0, ts0, mt0, df0, rr0, ra0, sl0, db0, msg0, messages0⟩ := st
    simp only at hst
    subst hst
    obtain ⟨t, rest, rfl⟩ := List.exists_cons_of_ne_nil hne
    have htime : Gen.Ext.time_time = .val (.num 0) := rfl
    -- a text of 14 or 28 digits comes from a frame that has its signal-level byte
    have h7 : ∀ (c : Nat) (fr : List Byte), ¬ ((hexOfBytes (slice 8 c fr)).length ≠ 14 ∧
        (hexOfBytes (slice 8 c fr)).length ≠ 28) → 7 < fr.length := by
      intro c fr hc
      rw [hexOfBytes_length, slice_length] at hc
      omega
    rw [beastExtractRssi_cons]
    simp only [htime, bind_val', pyIdxN_bytes (t :: rest) 0 (by simp), List.getD_cons_zero, pyEq_ofNat_lit, pyTruth_bool,
      pySliceNN_bytes, decide_eq_true_eq]
    simp only [Res.pure_eq, pyComp_fmt2 _ (slice_lt hlt 8 15), pyComp_fmt2 _ (slice_lt hlt 8 22), bind_val', pyJoin_hex]
    have h15 := And.intro (isHex_hexOfBytes (slice 8 15 (t :: rest))) (h7 15 (t :: rest))
    have h22 := And.intro (isHex_hexOfBytes (slice 8 22 (t :: rest))) (h7 22 (t :: rest))
    generalize hexOfBytes (slice 8 15 (t :: rest)) = m15 at h15 ⊢
    generalize hexOfBytes (slice 8 22 (t :: rest)) = m22 at h22 ⊢
    apply by_text t (rssiChk (t :: rest)) (.val none) _ _ (fun r (x : Res (ForInStep S3)) => StepRel r x msgs)
      (fun m => IsHex m ∧ (¬ (m.length ≠ 14 ∧ m.length ≠ 28) → 7 < (t :: rest).length)) m15 m22 h15 h22
    case skip => exact ⟨_, rfl, by simp⟩
    intro m hx
    simp only [pyLen_chars, notin1428, bind_val', pyTruth_bool, decide_eq_true_eq, rssiChk, chk]
    by_cases hnl : m.length ≠ 14 ∧ m.length ≠ 28
    · rw [if_pos hnl, if_pos hnl]; exact ⟨_, rfl, by simp⟩
    simp only [if_neg hnl, df_str m hx.1 (by omega), bind_val', pyIdxN_bytes _ 7 (hx.2 hnl), div255, pow2, rssiDb]
    generalize Gen.Ext.math_log10 _ = r1
    rcases r1 with (x | _ | _)
    rotate_left
    · rfl
    · rfl
    simp only [bind_val']
    generalize pyMul (Val.num 10) x = r2
    rcases r2 with (db | _ | _)
    rotate_left
    · rfl
    · rfl
    simp only [bind_val', inShort, inLong, ne14, ne28, pyTruth_bool, decide_eq_true_eq, Res.pure_eq, and_sc,
      Bool.and_eq_true, Bool.not_eq_true', decide_eq_false_iff_not, appR, List.mem_cons, List.not_mem_nil, or_false,
      ne_eq, StepRel]
    by_cases hs : (PyModeS.df m = 0 ∨ PyModeS.df m = 4 ∨ PyModeS.df m = 5 ∨ PyModeS.df m = 11) ∧ ¬ m.length = 14
    · rw [if_pos hs, if_pos hs]; exact ⟨_, rfl, by simp⟩
    rw [if_neg hs, if_neg hs]
    by_cases hL : (PyModeS.df m = 16 ∨ PyModeS.df m = 17 ∨ PyModeS.df m = 18 ∨ PyModeS.df m = 19 ∨ PyModeS.df m = 20 ∨
        PyModeS.df m = 21 ∨ PyModeS.df m = 24) ∧ ¬ m.length = 28
    · rw [if_pos hL, if_pos hL]; exact ⟨_, rfl, by simp⟩
    rw [if_neg hL, if_neg hL]; exact ⟨_, rfl, rfl⟩

end PyModeS.Tie

/-! ### chunk invariance -/

namespace PyModeS.Tie.BeastRssi
open PyModeS PyModeS.Py PyModeS.CRC PyModeS.Tie PyModeS.Tie.Beast PyModeS.C16Gen

/-- the client loop on the model side: read after every chunk; the first failure ends it -/
def feedR : List (List Byte) → List Byte → Res (List (Msg × Val) × List Byte)
  | [], b => .val ([], b)
  | c :: cs, b => readBeastRssi (b ++ c) >>= fun p => feedR cs p.2 >>= fun q => .val (p.1 ++ q.1, q.2)

theorem feedR_resume : ∀ (cs : List (List Byte)) (s0 : List Byte),
    (readBeastRssi s0 >>= fun p => feedR cs p.2 >>= fun q => .val (p.1 ++ q.1, q.2)) =
      readBeastRssi (s0 ++ cs.flatten)
  | [], s0 => by
    simp only [feedR, bind_val', List.flatten_nil, List.append_nil, Prod.mk.eta, bind_val_id]
  | c :: cs, s0 => by
    rw [List.flatten_cons, ← List.append_assoc, ← feedR_resume cs (s0 ++ c), readBeastRssi_append s0 c]
    simp only [feedR, bind_assoc, bind_val', List.append_assoc]

/-- **Chunk invariance of the model reader**, arbitrary bytes, failures included -/
theorem feedR_flatten (cs : List (List Byte)) : feedR cs [] = readBeastRssi cs.flatten := by
  have := feedR_resume cs []
  rw [readBeastRssi_nil, bind_val'] at this
  simpa only [List.nil_append, Prod.mk.eta, bind_val_id] using this

/-- the `[msg, dbfs_rssi, ts]` items -/
def itemsR (l : List (Msg × Val)) : List Val := l.map fun p => .tuple [.str p.1, p.2, .num 0]

/-- one call of the generated reader on the receiver `l` with `self.buffer = b` -/
theorem rssi_call (l : List (Val × Val)) (b : List Byte) (hs : Small b) :
    Gen.tcpclient.TcpClient_read_beast_buffer_rssi_piaware (withBuf l b) =
      (readBeastRssi b >>= fun p => .val (.tuple [withBuf l p.2, .tuple (itemsR p.1)])) := by
  have h := TcpClient_read_beast_buffer_rssi_piaware_tie (setPair (attrKey "buffer") (bytesVal b) l) b
    (withBuf_find l b) hs.1 hs.2
  rw [withBuf, h]
  simp only [attrKey, Beast.setPair_setPair]
  rfl

theorem rssi_feed (l : List (Val × Val)) : ∀ (cs : List (List Byte)) (b : List Byte) (out : List Val),
    Small (b ++ cs.flatten) →
    genFeedFrom Gen.tcpclient.TcpClient_read_beast_buffer_rssi_piaware (withBuf l b) cs out =
      (feedR cs b >>= fun q => .val (withBuf l q.2, out ++ itemsR q.1))
  | [], b, out, _ => by simp [genFeedFrom, feedR, itemsR]
  | c :: cs, b, out, hs => by
    have hs' : Small ((b ++ c) ++ cs.flatten) := by simpa [List.append_assoc] using hs
    have hset : Val.dict (setPair (attrKey "buffer") (bytesVal (b ++ c)) l) = withBuf l (b ++ c) := rfl
    rw [genFeedFrom, withBuf_get, bind_val', pyExtend_bytes, bind_val', withBuf_set, bind_val', hset,
      rssi_call l (b ++ c) (Small_pre _ _ hs'), feedR]
    rcases hr : readBeastRssi (b ++ c) with (p | _ | _)
    · have hu : ∀ a r, unpack2 (.tuple [a, r]) = .val (a, r) := fun _ _ => rfl
      simp only [bind_val', hu]
      have hm : msgsOf (.tuple (itemsR p.1)) = itemsR p.1 := rfl
      rw [hm, rssi_feed l cs p.2 _ (Small_next _ _ _ (readBeastRssi_snd _ _ hr) hs')]
      rcases feedR cs p.2 with (q | _ | _)
      · simp only [bind_val', itemsR, List.map_append, List.append_assoc]
      · rfl
      · rfl
    · rfl
    · rfl

end PyModeS.Tie.BeastRssi
namespace PyModeS.Tie
open PyModeS PyModeS.Py PyModeS.CRC PyModeS.Tie.Beast PyModeS.Tie.BeastRssi PyModeS.C16Gen

/-- **Chunk invariance, generated RSSI Beast reader, arbitrary byte content, failures included.**  `l` is any
    receiver whose `buffer` is empty, `cs` any chunking of any stream of fewer than 2^20 bytes.  The client loop over
    the chunks (`genFeed`: `self.buffer.extend(chunk)`, then the reader) gives the same result as ONE call of the
    generated reader on the receiver holding the whole stream: the same `[msg, dbfs_rssi, ts]` items and final
    receiver, or the same failure (a signal byte `0` on a frame with 14 / 28 digits, see `rssiDb_zero`).  Both are
    the model reader `readBeastRssi` on the whole stream. -/
theorem TcpClient_read_beast_buffer_rssi_piaware_chunk_invariant_tie (l : List (Val × Val))
    (hbuf : dictFind l (attrKey "buffer") = some (bytesVal []))
    (cs : List (List Byte)) (hb : ∀ c ∈ cs, ∀ x ∈ c, x < 256) (hlen : cs.flatten.length < whileFuel) :
    genFeed Gen.tcpclient.TcpClient_read_beast_buffer_rssi_piaware (.dict l) cs =
      (readBeastRssi cs.flatten >>= fun p =>
        .val (.dict (setPair (attrKey "buffer") (bytesVal p.2) l), itemsR p.1)) ∧
    (Gen.tcpclient.TcpClient_read_beast_buffer_rssi_piaware
        (.dict (setPair (attrKey "buffer") (bytesVal cs.flatten) l)) >>= fun r =>
      unpack2 r >>= fun p => .val (p.1, msgsOf p.2)) =
      genFeed Gen.tcpclient.TcpClient_read_beast_buffer_rssi_piaware (.dict l) cs := by
  have hs := Small_of_chunks cs hb hlen
  have h1 : genFeed Gen.tcpclient.TcpClient_read_beast_buffer_rssi_piaware (.dict l) cs =
      (readBeastRssi cs.flatten >>= fun p =>
        .val (.dict (setPair (attrKey "buffer") (bytesVal p.2) l), itemsR p.1)) := by
    rw [genFeed, withBuf_of_find l [] hbuf, rssi_feed l cs [] [] (by simpa using hs), feedR_flatten]
    rcases readBeastRssi cs.flatten with (p | _ | _)
    · simp only [bind_val', List.nil_append]; rfl
    · rfl
    · rfl
  refine ⟨h1, ?_⟩
  rw [h1]
  have := rssi_call l cs.flatten hs
  rw [withBuf] at this
  rw [this]
  rcases readBeastRssi cs.flatten with (p | _ | _)
  · simp only [bind_val']; rfl
  · rfl
  · rfl

end PyModeS.Tie

