/-
  C10 stated about the source-generated definitions of bds08.py / bds20.py: the callsign / cs20 round trips, the
  independence of the eight characters and the category specification stated about `Gen.bds08.callsign`,
  `Gen.bds08.category` and `Gen.bds20.cs20` (the Lean text py2lean.py produces from the Python source, table
  literal included).  Each statement composes a tie theorem (`Tie/Callsign.lean`, `Tie/Bds08.lean`, `Tie/Bds20.lean`)
  with a theorem of `Properties/C10.lean`; of the hand model only the bit-level readers occur.  The last section
  feeds the generated functions with the hex digits of an identification frame / a BDS 2,0 reply built by an encoder.
-/
import PyModeS.Properties.C10
import PyModeS.Proofs.Fields.Frame
import PyModeS.Tie.Callsign
import PyModeS.Tie.Bds08
import PyModeS.Tie.Bds20

namespace PyModeS.C10Gen
open PyModeS PyModeS.Py PyModeS.CRC PyModeS.C10 PyModeS.Spec

/-! ### bds08.callsign -/

/-- **Round trip** (frames of any length, in particular 28 hex digits): any eight legal codes placed in ME bits 9–56
    of a TC 1–4 frame come back from the generated `callsign` as the eight Annex 10 characters (`_` for space),
    whatever the other bits are. -/
theorem callsign_roundtrip_tie (m : Msg) (h : IsHex m) (hl : 10 ≤ m.length) (tc : Nat)
    (htc : tcB (hex2binM m) = some tc) (h14 : 1 ≤ tc ∧ tc ≤ 4) (c0 c1 c2 c3 c4 c5 c6 c7 : Nat)
    (hc : ∀ c ∈ [c0, c1, c2, c3, c4, c5, c6, c7], (idChar c).isSome)
    (hf : slice 40 88 (hex2binM m) = build (eight c0 c1 c2 c3 c4 c5 c6 c7)) :
    Gen.bds08.callsign (.str m) =
      .val (.str ([c0, c1, c2, c3, c4, c5, c6, c7].map (fun c => (idChar c).getD '#'))) := by
  rw [Tie.callsign_tie m h hl, callsign_roundtrip_frame _ tc htc h14 c0 c1 c2 c3 c4 c5 c6 c7 hc hf]
  rfl

/-- outside TC 1–4 (or outside DF 17/18) the generated `callsign` raises RuntimeError -/
theorem callsign_guard_tie (m : Msg) (h : IsHex m) (hl : 10 ≤ m.length)
    (hg : ∀ tc, tcB (hex2binM m) = some tc → tc < 1 ∨ tc > 4) :
    Gen.bds08.callsign (.str m) = .rte := by
  rw [Tie.callsign_tie m h hl]
  unfold PyModeS.callsign
  cases htc : tcB (hex2binM m) with
  | none => rfl
  | some tc =>
    show ((if tc < 1 ∨ tc > 4 then Res.rte else _) >>= _) = _
    rw [if_pos (hg tc htc)]
    rfl

/-- **Independence.** Two identification messages whose eight codes differ only in code `k`: the generated `callsign`
    decodes both to eight characters, output position `j` is the Annex 10 character of code `j` of the respective
    frame, the two callsigns agree at every position `j ≠ k`, and position `k` holds the character of `c_k` resp. `c'`. -/
theorem callsign_char_independent_tie (m m' : Msg) (h : IsHex m) (h' : IsHex m') (hl : 10 ≤ m.length)
    (hl' : 10 ≤ m'.length) (tc tc' : Nat)
    (htc : tcB (hex2binM m) = some tc) (h14 : 1 ≤ tc ∧ tc ≤ 4)
    (htc' : tcB (hex2binM m') = some tc') (h14' : 1 ≤ tc' ∧ tc' ≤ 4)
    (c0 c1 c2 c3 c4 c5 c6 c7 d0 d1 d2 d3 d4 d5 d6 d7 : Nat)
    (hc : ∀ c ∈ [c0, c1, c2, c3, c4, c5, c6, c7], (idChar c).isSome)
    (hf : slice 40 88 (hex2binM m) = build (eight c0 c1 c2 c3 c4 c5 c6 c7))
    (hf' : slice 40 88 (hex2binM m') = build (eight d0 d1 d2 d3 d4 d5 d6 d7))
    (k c' : Nat) (hc' : (idChar c').isSome)
    (hd : [d0, d1, d2, d3, d4, d5, d6, d7] = [c0, c1, c2, c3, c4, c5, c6, c7].set k c') :
    ∃ s s' : List Char, Gen.bds08.callsign (.str m) = .val (.str s) ∧ Gen.bds08.callsign (.str m') = .val (.str s') ∧
      s.length = 8 ∧ s'.length = 8 ∧
      (∀ j : Nat, s[j]? = ([c0, c1, c2, c3, c4, c5, c6, c7][j]?).map (fun c => (idChar c).getD '#')) ∧
      (∀ j : Nat, s'[j]? = ([d0, d1, d2, d3, d4, d5, d6, d7][j]?).map (fun c => (idChar c).getD '#')) ∧
      s' = s.set k ((idChar c').getD '#') ∧
      (∀ j : Nat, j ≠ k → s[j]? = s'[j]?) ∧
      (k < 8 → s[k]? = ([c0, c1, c2, c3, c4, c5, c6, c7][k]?).map (fun c => (idChar c).getD '#') ∧
        s'[k]? = some ((idChar c').getD '#')) := by
  obtain ⟨s, s', r, r', rest⟩ := callsign_char_independent (hex2binM m) (hex2binM m') tc tc' htc h14 htc' h14'
    c0 c1 c2 c3 c4 c5 c6 c7 d0 d1 d2 d3 d4 d5 d6 d7 hc hf hf' k c' hc' hd
  refine ⟨s, s', ?_, ?_, rest⟩
  · rw [Tie.callsign_tie m h hl, r]; rfl
  · rw [Tie.callsign_tie m' h' hl', r']; rfl

/-! ### bds08.category -/

/-- the generated `category` is ME bits 6–8 for TC 1–4, RuntimeError otherwise (28-digit frames) -/
theorem category_spec_tie (m : Msg) (h : IsHex m) (hl : m.length = 28) :
    Gen.bds08.category (.str m) = match tcB (hex2binM m) with
      | some tc => if 1 ≤ tc ∧ tc ≤ 4 then .val (Val.ofNat (bin2int (slice 37 40 (hex2binM m)))) else .rte
      | none => .rte := by
  rw [Tie.category_tie m h (by omega), category_spec _ (Tie.frame_bits m hl)]
  cases tcB (hex2binM m) with
  | none => rfl
  | some tc => by_cases c : 1 ≤ tc ∧ tc ≤ 4 <;> simp [c]

/-! ### bds20.cs20 -/

/-- **Round trip.** The generated `cs20` returns the eight characters of MB bits 9–56 for any eight codes `< 64`
    (`#` for codes outside the alphabet), each output position depending on its own code only. -/
theorem cs20_roundtrip_tie (m : Msg) (h : IsHex m) (hl : m.length = 28) (c0 c1 c2 c3 c4 c5 c6 c7 : Nat)
    (h0 : c0 < 64) (h1 : c1 < 64) (h2 : c2 < 64) (h3 : c3 < 64) (h4 : c4 < 64) (h5 : c5 < 64)
    (h6 : c6 < 64) (h7 : c7 < 64)
    (hf : slice 8 56 (slice 32 88 (hex2binM m)) = build (eight c0 c1 c2 c3 c4 c5 c6 c7)) :
    Gen.bds20.cs20 (.str m) =
      .val (.str ([c0, c1, c2, c3, c4, c5, c6, c7].map (fun c => Tables.cs20Chars.getD c '#'))) := by
  rw [Tie.cs20_tie m h hl, cs20_roundtrip _ _ (Tie.dataR_hex m hl) c0 c1 c2 c3 c4 c5 c6 c7 h0 h1 h2 h3 h4 h5 h6 h7 hf]
  rfl

/-- … and on legal codes the looked-up character is the Annex 10 character (never `#`) -/
theorem cs20_roundtrip_legal_tie (m : Msg) (h : IsHex m) (hl : m.length = 28) (c0 c1 c2 c3 c4 c5 c6 c7 : Nat)
    (hc : ∀ c ∈ [c0, c1, c2, c3, c4, c5, c6, c7], (idChar c).isSome)
    (hf : slice 8 56 (slice 32 88 (hex2binM m)) = build (eight c0 c1 c2 c3 c4 c5 c6 c7)) :
    Gen.bds20.cs20 (.str m) =
      .val (.str ([c0, c1, c2, c3, c4, c5, c6, c7].map (fun c => (idChar c).getD '#'))) := by
  have hall := all_range_imp chars_table_spec.1
  have key : ∀ c, (idChar c).isSome → c < 64 ∧ Tables.cs20Chars.getD c '#' = (idChar c).getD '#' := by
    intro c hs
    have hlt : c < 64 := by
      unfold idChar at hs
      split at hs
      · omega
      · split at hs
        · omega
        · split at hs
          · omega
          · simp at hs
    have := hall c hlt
    cases hi : idChar c with
    | none => rw [hi] at hs; simp at hs
    | some ch =>
      rw [hi] at this
      simp only [Bool.and_eq_true, beq_iff_eq, bne_iff_ne] at this
      exact ⟨hlt, by simp [List.getD, this.1.2]⟩
  rw [cs20_roundtrip_tie m h hl c0 c1 c2 c3 c4 c5 c6 c7 (key c0 (hc c0 (by simp))).1 (key c1 (hc c1 (by simp))).1
    (key c2 (hc c2 (by simp))).1 (key c3 (hc c3 (by simp))).1 (key c4 (hc c4 (by simp))).1
    (key c5 (hc c5 (by simp))).1 (key c6 (hc c6 (by simp))).1 (key c7 (hc c7 (by simp))).1 hf]
  simp only [List.map_cons, List.map_nil]
  rw [(key c0 (hc c0 (by simp))).2, (key c1 (hc c1 (by simp))).2, (key c2 (hc c2 (by simp))).2,
    (key c3 (hc c3 (by simp))).2, (key c4 (hc c4 (by simp))).2, (key c5 (hc c5 (by simp))).2,
    (key c6 (hc c6 (by simp))).2, (key c7 (hc c7 (by simp))).2]

/-- **Independence** for the generated `cs20` (any codes `< 64`). -/
theorem cs20_char_independent_tie (m m' : Msg) (h : IsHex m) (h' : IsHex m') (hl : m.length = 28)
    (hl' : m'.length = 28)
    (c0 c1 c2 c3 c4 c5 c6 c7 d0 d1 d2 d3 d4 d5 d6 d7 : Nat)
    (hc : ∀ c ∈ [c0, c1, c2, c3, c4, c5, c6, c7], c < 64)
    (hf : slice 8 56 (slice 32 88 (hex2binM m)) = build (eight c0 c1 c2 c3 c4 c5 c6 c7))
    (hf' : slice 8 56 (slice 32 88 (hex2binM m')) = build (eight d0 d1 d2 d3 d4 d5 d6 d7))
    (k c' : Nat) (hc' : c' < 64)
    (hd : [d0, d1, d2, d3, d4, d5, d6, d7] = [c0, c1, c2, c3, c4, c5, c6, c7].set k c') :
    ∃ s s' : List Char, Gen.bds20.cs20 (.str m) = .val (.str s) ∧ Gen.bds20.cs20 (.str m') = .val (.str s') ∧
      s.length = 8 ∧ s'.length = 8 ∧
      (∀ j : Nat, s[j]? = ([c0, c1, c2, c3, c4, c5, c6, c7][j]?).map (fun c => Tables.cs20Chars.getD c '#')) ∧
      (∀ j : Nat, s'[j]? = ([d0, d1, d2, d3, d4, d5, d6, d7][j]?).map (fun c => Tables.cs20Chars.getD c '#')) ∧
      s' = s.set k (Tables.cs20Chars.getD c' '#') ∧
      (∀ j : Nat, j ≠ k → s[j]? = s'[j]?) ∧
      (k < 8 → s[k]? = ([c0, c1, c2, c3, c4, c5, c6, c7][k]?).map (fun c => Tables.cs20Chars.getD c '#') ∧
        s'[k]? = some (Tables.cs20Chars.getD c' '#')) := by
  obtain ⟨s, s', r, r', rest⟩ := cs20_char_independent (hex2binM m) (hex2binM m') _ _ (Tie.dataR_hex m hl)
    (Tie.dataR_hex m' hl') c0 c1 c2 c3 c4 c5 c6 c7 d0 d1 d2 d3 d4 d5 d6 d7 hc hf hf' k c' hc' hd
  refine ⟨s, s', ?_, ?_, rest⟩
  · rw [Tie.cs20_tie m h hl, r]; rfl
  · rw [Tie.cs20_tie m' h' hl', r']; rfl

/-! ### encoder round trips: the generated decoders applied to the hex digits of an encoded frame -/

/-- DF 17/18 identification frame: DF, CA, ICAO | TC, category | eight 6-bit character codes | parity -/
def idFrame (df ca icao tc cat c0 c1 c2 c3 c4 c5 c6 c7 parity : Nat) : Bits :=
  build [(5, df), (3, ca), (24, icao), (5, tc), (3, cat)] ++ build (eight c0 c1 c2 c3 c4 c5 c6 c7) ++
    natToBits 24 parity

/-- **Identification round trip.** For every DF 17/18 identification frame (TC 1–4, any CA, address, parity) carrying
    a category `< 8` and eight legal character codes, the generated `callsign` applied to the 28 hex digits returns the
    eight Annex 10 characters and the generated `category` returns the category. -/
theorem identification_roundtrip_tie (df ca icao tc cat c0 c1 c2 c3 c4 c5 c6 c7 parity : Nat)
    (hdf : df = 17 ∨ df = 18) (h14 : 1 ≤ tc ∧ tc ≤ 4) (hcat : cat < 8)
    (hc : ∀ c ∈ [c0, c1, c2, c3, c4, c5, c6, c7], (idChar c).isSome) :
    Gen.bds08.callsign (.str (hexOfBits (idFrame df ca icao tc cat c0 c1 c2 c3 c4 c5 c6 c7 parity))) =
      .val (.str ([c0, c1, c2, c3, c4, c5, c6, c7].map (fun c => (idChar c).getD '#'))) ∧
    Gen.bds08.category (.str (hexOfBits (idFrame df ca icao tc cat c0 c1 c2 c3 c4 c5 c6 c7 parity))) =
      .val (Val.ofNat cat) := by
  have hpre : (build [(5, df), (3, ca), (24, icao), (5, tc), (3, cat)]).length = 40 := by simp [build_length]
  have hmid : (build (eight c0 c1 c2 c3 c4 c5 c6 c7)).length = 48 := by simp [build_length, eight]
  have hlen : (idFrame df ca icao tc cat c0 c1 c2 c3 c4 c5 c6 c7 parity).length = 112 := by
    simp only [idFrame, List.length_append, hpre, hmid, natToBits_length]
  have hm : slice 40 88 (idFrame df ca icao tc cat c0 c1 c2 c3 c4 c5 c6 c7 parity) =
      build (eight c0 c1 c2 c3 c4 c5 c6 c7) := by
    have := slice_append_mid (build [(5, df), (3, ca), (24, icao), (5, tc), (3, cat)])
      (build (eight c0 c1 c2 c3 c4 c5 c6 c7)) (natToBits 24 parity)
    rw [hpre, hmid] at this
    exact this
  have hhead : ∀ a b, b ≤ 40 → slice a b (idFrame df ca icao tc cat c0 c1 c2 c3 c4 c5 c6 c7 parity) =
      slice a b (build [(5, df), (3, ca), (24, icao), (5, tc), (3, cat)]) := by
    intro a b hb
    unfold idFrame
    rw [List.append_assoc, slice_append_left _ _ _ _ (by omega)]
  have sb := slice_build [(5, df), (3, ca), (24, icao), (5, tc), (3, cat)]
  have f0 : slice 0 5 (idFrame df ca icao tc cat c0 c1 c2 c3 c4 c5 c6 c7 parity) = natToBits 5 df := by
    rw [hhead 0 5 (by omega)]; simpa [offset] using sb 0 (by simp)
  have f3 : slice 32 37 (idFrame df ca icao tc cat c0 c1 c2 c3 c4 c5 c6 c7 parity) = natToBits 5 tc := by
    rw [hhead 32 37 (by omega)]; simpa [offset] using sb 3 (by simp)
  have f4 : slice 37 40 (idFrame df ca icao tc cat c0 c1 c2 c3 c4 c5 c6 c7 parity) = natToBits 3 cat := by
    rw [hhead 37 40 (by omega)]; simpa [offset] using sb 4 (by simp)
  have htc : tcB (idFrame df ca icao tc cat c0 c1 c2 c3 c4 c5 c6 c7 parity) = some tc :=
    Fields.tcB_of_slices hdf (by omega) f0 f3
  have hhex := hexOfBits_isHex (idFrame df ca icao tc cat c0 c1 c2 c3 c4 c5 c6 c7 parity)
  have hl : (hexOfBits (idFrame df ca icao tc cat c0 c1 c2 c3 c4 c5 c6 c7 parity)).length = 28 := by
    rw [hexOfBits_length, hlen]
  have hback := hex2binM_hexOfBits (idFrame df ca icao tc cat c0 c1 c2 c3 c4 c5 c6 c7 parity) (by rw [hlen])
  constructor
  · exact callsign_roundtrip_tie _ hhex (by omega) tc (by rw [hback]; exact htc) h14 c0 c1 c2 c3 c4 c5 c6 c7 hc
      (by rw [hback]; exact hm)
  · rw [category_spec_tie _ hhex hl, hback, htc, f4, bin2int_natToBits_of_lt (by omega : cat < 2 ^ 3)]
    simp [h14]

/-- a 112-bit Comm-B reply whose MB field is BDS 2,0: 32 header bits | `0x20` (or any first MB byte `b1`) |
    eight 6-bit character codes | parity -/
def cs20Frame (hdr b1 c0 c1 c2 c3 c4 c5 c6 c7 parity : Nat) : Bits :=
  natToBits 32 hdr ++ (natToBits 8 b1 ++ build (eight c0 c1 c2 c3 c4 c5 c6 c7)) ++ natToBits 24 parity

/-- **BDS 2,0 round trip.** For every header, first MB byte and parity, the generated `cs20` applied to the 28 hex
    digits of the reply returns the Annex 10 characters of the eight legal codes in MB bits 9–56. -/
theorem cs20_frame_roundtrip_tie (hdr b1 c0 c1 c2 c3 c4 c5 c6 c7 parity : Nat)
    (hc : ∀ c ∈ [c0, c1, c2, c3, c4, c5, c6, c7], (idChar c).isSome) :
    Gen.bds20.cs20 (.str (hexOfBits (cs20Frame hdr b1 c0 c1 c2 c3 c4 c5 c6 c7 parity))) =
      .val (.str ([c0, c1, c2, c3, c4, c5, c6, c7].map (fun c => (idChar c).getD '#'))) := by
  have hmid : (build (eight c0 c1 c2 c3 c4 c5 c6 c7)).length = 48 := by simp [build_length, eight]
  have hlen : (cs20Frame hdr b1 c0 c1 c2 c3 c4 c5 c6 c7 parity).length = 112 := by
    simp only [cs20Frame, List.length_append, hmid, natToBits_length]
  have hmb : slice 32 88 (cs20Frame hdr b1 c0 c1 c2 c3 c4 c5 c6 c7 parity) =
      natToBits 8 b1 ++ build (eight c0 c1 c2 c3 c4 c5 c6 c7) := by
    have := slice_append_mid (natToBits 32 hdr) (natToBits 8 b1 ++ build (eight c0 c1 c2 c3 c4 c5 c6 c7))
      (natToBits 24 parity)
    simp only [List.length_append, hmid, natToBits_length] at this
    exact this
  have hcs : slice 8 56 (natToBits 8 b1 ++ build (eight c0 c1 c2 c3 c4 c5 c6 c7)) =
      build (eight c0 c1 c2 c3 c4 c5 c6 c7) := by
    have := slice_append_mid (natToBits 8 b1) (build (eight c0 c1 c2 c3 c4 c5 c6 c7)) []
    simp only [hmid, natToBits_length, List.append_nil] at this
    exact this
  have hhex := hexOfBits_isHex (cs20Frame hdr b1 c0 c1 c2 c3 c4 c5 c6 c7 parity)
  have hl : (hexOfBits (cs20Frame hdr b1 c0 c1 c2 c3 c4 c5 c6 c7 parity)).length = 28 := by
    rw [hexOfBits_length, hlen]
  have hback := hex2binM_hexOfBits (cs20Frame hdr b1 c0 c1 c2 c3 c4 c5 c6 c7 parity) (by rw [hlen])
  exact cs20_roundtrip_legal_tie _ hhex hl c0 c1 c2 c3 c4 c5 c6 c7 hc (by rw [hback, hmb, hcs])

end PyModeS.C10Gen
