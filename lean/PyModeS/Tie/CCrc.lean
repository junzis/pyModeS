/-
  Tie: generated `c_common.crc` / `c_common.icao` (Cython module `src/pyModeS/c_common.pyx`) = hand-written
  C-semantics model `C.crc` / `C.icao` (`Model/CCommon.lean`), then the transports to the generated Python functions.

  Route for `crc`: the byte array `bytearray(hex2bin(msg).encode())` is `natList (O.map byteOf)` for a list
  `O : List (Option Bool)` (`none` = a byte zeroed by the `encode` loop, which decodes to chr(0), whose `char_to_int`
  is 0); the comprehension gives the model's byte list; the two nested loops are those of `Tie/Crc.lean` with two more
  `long` conversions of values ≤ 128; all bytes stay below 256, so the final `long` conversion does not wrap.

  Helper lemmas live in `PyModeS.Tie.CCrcTie`; the results in `PyModeS.Tie`.
-/
import PyModeS.Tie.CBasic
import PyModeS.Tie.Icao
namespace PyModeS.Tie.CCrcTie
open PyModeS PyModeS.Py PyModeS.CRC PyModeS.CC CrcTie CB

/-! ### primitives -/

theorem cConvBint_bool (e : Bool) : cConvBint (.bool e) = .val (.bool e) := rfl

/-- `range(a, b)` for `a ≤ b` -/
theorem pyRange_ofNat2 (a b : Nat) (h : a ≤ b) :
    pyRange (Val.ofNat a) (Val.ofNat b) = .val (.tuple ((List.range (b - a)).map (fun i => Val.ofNat (a + i)))) := by
  simp only [pyRange, int?_ofNat]
  have : ((b : Int) - (a : Int)).toNat = b - a := by omega
  rw [this]
  simp [Val.ofNat]

/-- `l[a:b]` on a list of numbers, bounds inside the list -/
theorem pySlice_repr (l : List Nat) (a b : Nat) (ha : a ≤ l.length) (hb : b ≤ l.length) :
    pySlice (natList l) (some (Val.ofNat a)) (some (Val.ofNat b)) = .val (natList (slice a b l)) := by
  have hna : ¬ ((a : Int) < 0) := by omega
  have hnb : ¬ ((b : Int) < 0) := by omega
  simp only [pySlice, optInt_ofNat, bind_val', natList, sliceList, normBound, hna, hnb, if_false, Int.toNat_natCast,
    List.length_map, Nat.min_eq_left ha, Nat.min_eq_left hb, slice_map]

theorem compList_map (f : Val → Res (Option Val)) (enc : Nat → Val) (g : Nat → Val) (l : List Nat)
    (h : ∀ i ∈ l, f (enc i) = .val (some (g i))) : compList f (l.map enc) = .val (l.map g) := by
  induction l with
  | nil => rfl
  | cons i l ih =>
    have h1 := h i (by simp)
    have h2 := ih (fun j hj => h j (List.mem_cons_of_mem _ hj))
    simp only [List.map_cons, compList, h1, h2]

/-! ### the byte array: bit characters and zeroed bytes -/

def byteOf : Option Bool → Nat
  | none => 0
  | some b => b.toDigit.toNat
def charOf : Option Bool → Char
  | none => Char.ofNat 0
  | some b => b.toDigit
def valOf : Option Bool → Bool
  | none => false
  | some b => b

theorem mapM_obits (g : Val → Option Char) (hg : ∀ x : Option Bool, g (Val.ofNat (byteOf x)) = some (charOf x))
    (o : List (Option Bool)) : (List.map Val.ofNat (o.map byteOf)).mapM g = some (o.map charOf) := by
  induction o with
  | nil => rfl
  | cons x o ih => simp only [List.map_cons, List.mapM_cons, ih, hg]; rfl

/-- `b.decode()` of a byte array of '0'/'1'/NUL bytes -/
theorem pyDecode_obits (o : List (Option Bool)) :
    pyDecode (natList (o.map byteOf)) = .val (.str (o.map charOf)) := by
  unfold pyDecode natList
  simp only []
  rw [mapM_obits _ ?_ o]
  intro x
  rcases x with _ | b
  · rfl
  · cases b <;> rfl

theorem isAscii_obits (o : List (Option Bool)) : IsAscii (o.map charOf) := by
  intro c hc
  rw [List.mem_map] at hc
  obtain ⟨x, _, rfl⟩ := hc
  rcases x with _ | b
  · decide
  · cases b <;> decide

theorem accC_obits (o : List (Option Bool)) : accC 2 (o.map charOf) = C.bin2int (o.map valOf) := by
  unfold accC C.bin2int
  rw [List.foldl_map, List.foldl_map]
  congr 1
  funext acc x
  rcases x with _ | b
  · rfl
  · cases b <;> rfl

/-- `bin2int(_msgbin[a:b].decode())` -/
theorem chunk_obits {β} (o : List (Option Bool)) (a b : Nat) (ha : a ≤ o.length) (hb : b ≤ o.length) (hab : b ≤ a + 8)
    (k : Val → Res β) :
    (pySlice (natList (o.map byteOf)) (some (Val.ofNat a)) (some (Val.ofNat b)) >>= fun s =>
      pyDecode s >>= fun d => Gen.c_common.bin2int d >>= k) =
      k (Val.ofNat (C.bin2int (slice a b (o.map valOf))).toNat) := by
  have hl : (slice a b o).length ≤ 8 := by rw [slice_length]; omega
  rw [pySlice_repr _ _ _ (by simpa using ha) (by simpa using hb), bind_val', slice_map, pyDecode_obits, bind_val',
    c_bin2int_str _ (isAscii_obits _) (by rw [List.length_map]; omega), bind_val', accC_obits, slice_map,
    c_bin2int_eq _ (by rw [List.length_map]; omega), ofInt_natCast, Int.toNat_natCast]

theorem pyEncode_ofBits (b : Bits) : pyEncode (Val.ofBits b) = .val (natList ((b.map some).map byteOf)) := by
  rw [Val.ofBits, pyEncode_ascii _ (isAscii_bits b), List.map_map, List.map_map]
  rfl

/-! ### bytes stay below 256 -/

def Bdd (l : List Nat) : Prop := ∀ x ∈ l, x < 256

theorem Bdd.getD {l : List Nat} (h : Bdd l) (i : Nat) : l.getD i 0 < 256 := by
  rw [List.getD_eq_getElem?_getD]
  rcases hi : l[i]? with _ | x
  · simp
  · simpa using h x (List.mem_of_getElem? hi)

theorem xorAt_bdd (l : List Nat) (i v : Nat) (hl : Bdd l) (hv : v < 256) : Bdd (xorAt l i v) := by
  intro x hx
  rcases List.mem_or_eq_of_mem_set hx with hx | rfl
  · exact hl x hx
  · exact Nat.xor_lt_two_pow (n := 8) (hl.getD i) hv

theorem crcInner_bdd (mb : List Nat) (i j : Nat) (h : Bdd mb) : Bdd (crcInner Tables.crcG mb i j) := by
  have hand : ∀ x, 255 &&& x < 256 := fun x => Nat.lt_succ_of_le Nat.and_le_left
  unfold crcInner
  simp only [crcG_0, crcG_1, crcG_2, crcG_3]
  split
  · refine xorAt_bdd _ _ _ (xorAt_bdd _ _ _ (xorAt_bdd _ _ _ (xorAt_bdd _ _ _ h ?_) (hand _)) (hand _)) (hand _)
    exact Nat.lt_of_le_of_lt (Nat.shiftRight_le _ _) (by decide)
  · exact h

theorem crcLoop_bdd (mb : List Nat) (h : Bdd mb) : Bdd (crcLoop Tables.crcG mb) := by
  unfold crcLoop
  generalize List.range (mb.length - 3) = l
  induction l generalizing mb with
  | nil => exact h
  | cons a l ih =>
    rw [List.foldl_cons]
    apply ih
    generalize List.range 8 = l8
    induction l8 generalizing mb with
    | nil => exact h
    | cons b l8 ih8 => rw [List.foldl_cons]; exact ih8 _ (crcInner_bdd _ _ _ h)

theorem last3_lt (l : List Nat) (h : Bdd l) : last3 l < 2 ^ 24 := by
  unfold last3
  have a := h.getD (l.length - 3)
  have b := h.getD (l.length - 2)
  have c := h.getD (l.length - 1)
  refine Nat.or_lt_two_pow (Nat.or_lt_two_pow ?_ ?_) (by omega)
  · rw [Nat.shiftLeft_eq]; omega
  · rw [Nat.shiftLeft_eq]; omega

/-- the byte list of the C model -/
def mbytesOf (bits : Bits) : List Nat :=
  (List.range (bits.length / 8)).map (fun i => (C.bin2int (slice (8 * i) (8 * i + 8) bits)).toNat)

theorem mbytesOf_length (bits : Bits) : (mbytesOf bits).length = bits.length / 8 := by
  simp [mbytesOf]

theorem mbytesOf_bdd (bits : Bits) : Bdd (mbytesOf bits) := by
  intro x hx
  simp only [mbytesOf, List.mem_map] at hx
  obtain ⟨i, _, rfl⟩ := hx
  have hl : (slice (8 * i) (8 * i + 8) bits).length ≤ 8 := by rw [slice_length]; omega
  rw [c_bin2int_eq _ (by omega), Int.toNat_natCast]
  exact bin2int_lt_of_length_le _ 8 hl

theorem crc_false_eq (m : Msg) : C.crc m false = (last3 (crcLoop Tables.crcG (mbytesOf (C.hex2bin m))) : Int) := rfl
theorem crc_true_eq (m : Msg) :
    C.crc m true = (last3 (crcLoop Tables.crcG
      (mbytesOf (dropLast 24 (C.hex2bin m) ++ List.replicate 24 false))) : Int) := rfl

/-! ### the `encode` loop -/

theorem set_zero (O0 : List (Option Bool)) (a k : Nat) (h : a + k < O0.length) :
    ((O0.take a ++ List.replicate k none ++ O0.drop (a + k)).map byteOf).set (a + k) 0 =
      (O0.take a ++ List.replicate (k + 1) none ++ O0.drop (a + k + 1)).map byteOf := by
  have e0 : (0 : Nat) = byteOf none := rfl
  rw [e0, ← List.map_set]
  congr 1
  have hA : (O0.take a ++ List.replicate k none).length = a + k := by
    rw [List.length_append, List.length_take, List.length_replicate]; omega
  rw [List.replicate_succ', ← List.append_assoc (O0.take a), List.drop_eq_getElem_cons h]
  generalize O0.take a ++ List.replicate k none = A at hA ⊢
  generalize O0[a + k] = x
  generalize O0.drop (a + k + 1) = D
  rw [← hA]
  simp

theorem c_df_lt (m : Msg) : C.df m < 256 := by
  unfold C.df
  simp only []
  split_ifs
  · decide
  · have : (C.bin2int (slice 0 5 (C.hex2bin (List.take 2 m))) % 256) < 256 := Int.emod_lt_of_pos _ (by decide)
    omega

theorem c_crc_nat (m : Msg) (e : Bool) : C.crc m e = ((C.crc m e).toNat : Int) ∧ (C.crc m e).toNat < 2 ^ 24 := by
  have key : ∀ bits, last3 (crcLoop Tables.crcG (mbytesOf bits)) < 2 ^ 24 :=
    fun bits => last3_lt _ (crcLoop_bdd _ (mbytesOf_bdd bits))
  cases e
  · rw [crc_false_eq, Int.toNat_natCast]; exact ⟨rfl, key _⟩
  · rw [crc_true_eq, Int.toNat_natCast]; exact ⟨rfl, key _⟩

theorem is_none_str (s : Msg) : pyIs (.str s) Val.none = .val (.bool false) := rfl
theorem isinstance_str (s : Msg) : pyIsInstance (.str s) (Val.str ['s', 't', 'r']) = .val (.bool true) := rfl

/-- the value of a six-character address fits a C `long` -/
theorem cConvLong_hex6 (s : Msg) (h : IsAscii s) (hl : s.length = 6) :
    cConvLong (Val.ofInt (C.hex2int s)) = .val (Val.ofNat (C.hex2int s).toNat) := by
  have hb := hexToNatM_lt s
  rw [hl] at hb
  rw [c_hex2int_eq_of_ascii _ h (by omega), Int.toNat_natCast, ofInt_natCast, cConvLong_ofNat _ (by omega)]

end PyModeS.Tie.CCrcTie

namespace PyModeS.Tie
open PyModeS PyModeS.Py PyModeS.CRC PyModeS.CC CrcTie CB CCrcTie

/-- `c_common.crc(msg, encode)` on an ASCII string of at least six characters (any parity: both sides use
    `len // 8` bytes).  `m.length < 2 ^ 61` is forced by `cdef Py_ssize_t len_msgbin = len(_msgbin)` (4 bytes per
    character, converted to a 64-bit signed integer). -/
theorem c_crc_tie (m : Msg) (h : IsAscii m) (hl : 6 ≤ m.length) (hlen : m.length < 2 ^ 61) (e : Bool) :
    Gen.c_common.crc (.str m) (.bool e) = .val (Val.ofInt (C.crc m e)) := by
  apply Post.eq
  unfold Gen.c_common.crc
  have h63 : 4 * m.length < 2 ^ 63 := by omega
  have hbl := c_hex2bin_length m
  extract_lets msg enc G i0
  simp -zeta only [msg, enc, cConvStr_str, cConvBint_bool, bind_val', c_hex2bin_tie m h (by omega), pyEncode_ofBits,
    pyBytearray_repr, cConvObj_eq, pyLen_repr, List.length_map, hbl, cConvSsize_ofNat _ h63, num_lit,
    pyFloorDiv_ofNat _ 8 (by decide), cConvSsize_ofNat _ (by omega : 4 * m.length / 8 < 2 ^ 63), pyTruth_bool]
  -- what follows the `encode` loop is a local function of the `do` translation, called on both branches of
  -- `if encode`: it is kept as a definition `rest` (hence `-zeta` above) and the two nested loops are walked once
  extract_lets rest
  have key : ∀ (O : List (Option Bool)) (i : Val), O.length = 4 * m.length →
      Post (rest () (natList (O.map byteOf)) i)
        (fun x => x = Val.ofInt (last3 (crcLoop Tables.crcG (mbytesOf (O.map valOf))) : Nat)) := by
    intro O i hO
    have hmbl : (mbytesOf (O.map valOf)).length = 4 * m.length / 8 := by rw [mbytesOf_length, List.length_map, hO]
    have hG : Gen.c_common._G = Val.tuple [Val.ofNat 255, Val.ofNat 250, Val.ofNat 4, Val.ofNat 128] := by
      simp [Gen.c_common._G, Val.ofNat]
    simp only [rest, i0, G, hG]
    rw [pyRange_ofNat, bind_val']
    simp only [pyComp, pyIter_tuple, bind_val']
    rw [compList_map _ Val.ofNat (fun i => Val.ofNat (C.bin2int (slice (8 * i) (8 * i + 8) (O.map valOf))).toNat) _ ?hc]
    case hc =>
      intro i hi
      rw [List.mem_range] at hi
      simp only [pyMul_ofNat, bind_val', pyAdd_ofNat]
      rw [chunk_obits O _ _ (by omega) (by omega) (by omega)]
      rfl
    have hmb : Val.tuple ((List.range (4 * m.length / 8)).map
        (fun i => Val.ofNat (C.bin2int (slice (8 * i) (8 * i + 8) (O.map valOf))).toNat)) =
        natList (mbytesOf (O.map valOf)) := by
      simp only [natList, mbytesOf, List.map_map, List.length_map, hO]
      rfl
    rw [bind_val', Res.pure_eq, bind_val', hmb, pyList_repr, bind_val']
    have hbd := mbytesOf_bdd (O.map valOf)
    generalize mbytesOf (O.map valOf) = mb0 at hmbl hbd ⊢
    have hlen : 3 ≤ mb0.length := by omega
    rw [← hmbl, pySub_ofNat _ _ hlen, bind_val', pyRange_ofNat, bind_val', pyIter_tuple, bind_val']
    refine Post.bind (Post.forIn Val.ofNat
        (fun (t : List Nat) (s : Val × Val × Val × Val × Val) => t.length = mb0.length ∧ s.1 = natList t)
        (fun mb ibyte => (List.range 8).foldl (fun mb ibit => crcInner Tables.crcG mb ibyte ibit) mb)
        _ _ mb0 _ ⟨rfl, rfl⟩ ?step) ?final
    case step =>
      rintro ibyte hib mb ⟨s1, s2, s3, s4, s5⟩ ⟨hmbl', rfl⟩
      have hib' : ibyte + 3 < mb.length := by rw [List.mem_range] at hib; omega
      simp only []
      rw [pyRange_ofNat, bind_val', pyIter_tuple, bind_val']
      refine Post.bind (Post.forIn Val.ofNat
         (fun (t : List Nat) (s : Val × Val × Val × Val) => t.length = mb.length ∧ s.1 = natList t)
         (fun mb ibit => crcInner Tables.crcG mb ibyte ibit) _ _ mb _ ⟨rfl, rfl⟩ ?inner) ?_
      case inner =>
        rintro ibit hibit t ⟨s1, s2, s3, s4⟩ ⟨htl, rfl⟩
        simp only []
        have hi8 : ibit ≤ 8 := Nat.le_of_lt (List.mem_range.mp hibit)
        have hmask : 128 >>> ibit ≤ 128 := Nat.shiftRight_le _ _
        have hbits : t.getD ibyte 0 &&& 128 >>> ibit ≤ 128 >>> ibit := Nat.and_le_right
        rw [pyShr_ofNat, bind_val', cConvLong_ofNat _ (by omega), bind_val']
        rw (occs := .pos [1]) [pyIdx_repr _ _ (by omega)]
        rw [bind_val', pyBitAnd_ofNat, bind_val', cConvLong_ofNat _ (by omega), bind_val',
          crc_bit_step t ibyte ibit (by omega) hi8 _ _ _ rfl rfl rfl]
        exact Post.val ⟨_, rfl, by rw [crcInner_length, htl], rfl⟩
      · rintro ⟨a1, a2, a3, a4⟩ ⟨-, rfl⟩
        refine Post.val ⟨_, rfl, ?_, rfl⟩
        rw [foldl_crcInner_length, hmbl']
    case final =>
      rintro ⟨a1, a2, a3, a4, a5⟩ ⟨hfl, rfl⟩
      simp only []
      have hloop : crcLoop Tables.crcG mb0 = (List.range (mb0.length - 3)).foldl
          (fun mb ibyte => (List.range 8).foldl (fun mb ibit => crcInner Tables.crcG mb ibyte ibit) mb) mb0 := rfl
      rw [← hloop] at hfl ⊢
      have hbr := crcLoop_bdd mb0 hbd
      generalize crcLoop Tables.crcG mb0 = r at hfl hbr ⊢
      have hlt := last3_lt r hbr
      have hlast : last3 r = (r.getD (r.length - 3) 0 <<< 16) ||| (r.getD (r.length - 2) 0 <<< 8) |||
          r.getD (r.length - 1) 0 := rfl
      rw [← hfl, pySub_ofNat _ _ (by omega), bind_val', pyIdx_repr _ _ (by omega), bind_val', pyShl_ofNat, bind_val',
        pySub_ofNat _ _ (by omega), bind_val', pyIdx_repr _ _ (by omega), bind_val', pyShl_ofNat, bind_val',
        pyBitOr_ofNat, bind_val', bind_val', pyIdx_repr _ _ (by omega), bind_val',
        pyBitOr_ofNat, bind_val', ← hlast, cConvLong_ofNat _ (by omega), bind_val', cConvLong_ofNat _ (by omega),
        ofInt_natCast]
      exact Post.val rfl

  have hv0 : ((C.hex2bin m).map some).map valOf = C.hex2bin m := by
    rw [List.map_map]; exact List.map_id _
  have hO0 : ((C.hex2bin m).map some).length = 4 * m.length := by rw [List.length_map, hbl]
  cases e
  · simp only [Bool.false_eq_true, if_false, crc_false_eq]
    have := key _ i0 hO0
    rwa [hv0] at this
  · simp only [if_true, crc_true_eq]
    have h24 : 24 ≤ 4 * m.length := by omega
    have e24 : 4 * m.length - (4 * m.length - 24) = 24 := by omega
    rw [pySub_ofNat _ _ h24, bind_val', pyRange_ofNat2 _ _ (by omega), bind_val', pyIter_tuple, bind_val', e24]
    generalize (C.hex2bin m).map some = O0 at hv0 hO0 ⊢
    generalize ha : 4 * m.length - 24 = a
    refine Post.bind (Post.forRange (fun i => Val.ofNat (a + i))
      (fun k (s : Val × Val) => s.1 = natList ((O0.take a ++ List.replicate k none ++ O0.drop (a + k)).map byteOf))
      _ 24 _ ?init ?step) ?fin
    case init => simp
    case step =>
      rintro i hi ⟨s1, s2⟩ rfl
      simp only []
      have hlt : a + i < O0.length := by omega
      rw [pySetItem_repr _ _ _ (by
        simp only [List.length_map, List.length_append, List.length_take, List.length_replicate, List.length_drop]
        omega), bind_val', set_zero O0 a i hlt]
      exact Post.val ⟨_, rfl, rfl⟩
    case fin =>
      rintro ⟨s1, s2⟩ rfl
      simp only []
      have hd : O0.drop (a + 24) = [] := List.drop_eq_nil_of_le (by omega)
      have hv : (O0.take a ++ List.replicate 24 none).map valOf =
          dropLast 24 (C.hex2bin m) ++ List.replicate 24 false := by
        rw [List.map_append, List.map_take, hv0, List.map_replicate, dropLast, hbl, ha]
        rfl
      have := key (O0.take a ++ List.replicate 24 none) (Val.ofNat (a + 23))
        (by simp only [List.length_append, List.length_take, List.length_replicate]; omega)
      rwa [hd, List.append_nil, ← hv]

/-- `c_common.icao(msg)`: `None` or the 6-character address -/
theorem c_icao_tie (m : Msg) (h : IsAscii m) (hl : 6 ≤ m.length) (hlen : m.length < 2 ^ 61) :
    Gen.c_common.icao (.str m) = .val (Val.ofOptStr (C.icao m)) := by
  unfold Gen.c_common.icao C.icao
  have hin1 := pyIn_ofNat (C.df m) [11, 17, 18]
  have hin2 := pyIn_ofNat (C.df m) [0, 4, 5, 16, 20, 21]
  simp only [List.map_cons, List.map_nil, Nat.cast_ofNat, Nat.cast_zero, List.mem_cons, List.not_mem_nil,
    or_false] at hin1 hin2
  have hn : cConvStr Val.none = .val Val.none := rfl
  have hsl : pySliceNN (Val.str m) 2 8 = .val (.str (slice 2 8 m)) := rfl
  have hup : ∀ s : Msg, pyUpper (.str s) = .val (.str (s.map Char.toUpper)) := fun _ => rfl
  have hlast : (takeLast 6 m).length ≤ 15 := by simp [takeLast]; omega
  have ha6 : IsAscii (takeLast 6 m) := isAscii_drop h _
  obtain ⟨hc, hclt⟩ := c_crc_nat m true
  have hc0 : cConvLong (Val.ofInt (C.crc m true)) = .val (Val.ofNat (C.crc m true).toNat) := by
    rw [hc, Int.toNat_natCast, ofInt_natCast, cConvLong_ofNat _ (by omega)]
  have hc1 : cConvLong (Val.ofInt (C.hex2int (takeLast 6 m))) = .val (Val.ofNat (C.hex2int (takeLast 6 m)).toNat) := by
    have hb := hexToNatM_lt (takeLast 6 m)
    have h2 : 16 ^ (takeLast 6 m).length ≤ 16 ^ 15 := Nat.pow_le_pow_right (by decide) hlast
    have h3 : (16 : Nat) ^ 15 = 1152921504606846976 := by decide
    rw [c_hex2int_eq_of_ascii _ ha6 hlast, Int.toNat_natCast, ofInt_natCast, cConvLong_ofNat _ (by omega)]
  simp only [cConvStr_str, bind_val', c_df_tie m h, cConvUchar_ofNat, Nat.mod_eq_of_lt (c_df_lt m), hin1, hin2,
    pyTruth_bool, decide_eq_true_eq, hsl, hup, c_crc_tie m h hl hlen true, hc0, pySlice_last6,
    c_hex2int_tie _ ha6 (by omega), hc1, pyBitXor_ofNat, pyFmtHexU6_ofNat, hn, cConvStr_str,
    -- the result encoder is pushed to the leaves: both sides are then the same conditional
    apply_ite Val.ofOptStr, apply_ite (Res.val (α := Val)), Val.ofOptStr.eq_1, Val.ofOptStr.eq_2]

/-! ### transports: generated C function = generated Python function -/

/-- on hex frames of whole bytes (at least three) the Cython `crc` returns what the Python `crc` returns -/
theorem c_crc_eq_py_tie (m : Msg) (h : IsHex m) (h2 : m.length % 2 = 0) (hl : 6 ≤ m.length) (hlen : m.length < 2 ^ 61)
    (e : Bool) : Gen.c_common.crc (.str m) (.bool e) = Gen.py_common.crc (.str m) (.bool e) := by
  rw [c_crc_tie m (isAscii_of_isHex h) hl hlen e, crc_tie m h hl e, C15.c_crc_eq m e h h2 hl, ofInt_natCast]

/-- …and the Cython `icao` what the Python `icao` returns -/
theorem c_icao_eq_py_tie (m : Msg) (h : IsHex m) (h2 : m.length % 2 = 0) (hl : 6 ≤ m.length) (hlen : m.length < 2 ^ 61) :
    Gen.c_common.icao (.str m) = Gen.py_common.icao (.str m) := by
  rw [c_icao_tie m (isAscii_of_isHex h) hl hlen, icao_tie m h hl, C15.c_icao_eq m h h2 hl]

/-- the unassigned blocks of `is_icao_assigned` (there is no hand model of this function in `Model/`; this is its
    closed form on the integer value of the address) -/
def icaoAssignedN (n : Nat) : Bool :=
  if 2097152 < n ∧ n < 2621439 then false
  else if 2621440 < n ∧ n < 2686975 then false
  else if 5242880 < n ∧ n < 6291455 then false
  else if 6291456 < n ∧ n < 6815743 then false
  else if 6815744 < n ∧ n < 7274496 then false
  else if 9437184 < n ∧ n < 10485759 then false
  else if 11534336 < n ∧ n < 12582911 then false
  else if 13631488 < n ∧ n < 14680063 then false
  else if 15728640 < n ∧ n < 16777215 then false
  else true

/-- `c_common.is_icao_assigned(icao)` on a string: `False` unless it has six characters, else the block test on
    `hex2int(icao)` (ASCII is needed only for the `encode()` inside `hex2int`) -/
theorem c_is_icao_assigned_tie (s : Msg) (h : IsAscii s) :
    Gen.c_common.is_icao_assigned (.str s) =
      .val (.bool (decide (s.length = 6) && icaoAssignedN (C.hex2int s).toNat)) := by
  unfold Gen.c_common.is_icao_assigned
  simp only [cConvStr_str, bind_val', is_none_str, isinstance_str, pyLen_chars, pyTruth_bool, pyNot_bool, Res.pure_eq,
    Bool.false_eq_true, if_false, Bool.not_true, num_lit, pyNe_ofNat, cConvBint_bool]
  by_cases hl : s.length = 6
  · simp only [hl, decide_true, Bool.not_true, Bool.false_eq_true, if_false, c_hex2int_tie s h (by omega), bind_val',
      cConvLong_hex6 s h hl, Bool.true_and, chain_lt, pyTruth_bool, decide_eq_true_eq]
    -- both sides are now the same chain of tests, with `Res.val (Val.bool ·)` at the leaves or around it
    simp only [icaoAssignedN, apply_ite (fun b => Res.val (Val.bool b))]
  · simp only [hl, decide_false, Bool.not_false, if_true, Bool.false_and]

theorem c_is_icao_assigned_eq_py_tie (s : Msg) (h : IsHex s) :
    Gen.c_common.is_icao_assigned (.str s) = Gen.py_common.is_icao_assigned (.str s) := by
  unfold Gen.c_common.is_icao_assigned Gen.py_common.is_icao_assigned
  simp only [cConvStr_str, bind_val', is_none_str, isinstance_str, pyLen_chars, pyTruth_bool, pyNot_bool, Res.pure_eq,
    Bool.false_eq_true, if_false, Bool.not_true, num_lit, pyNe_ofNat, cConvBint_bool]
  by_cases hl : s.length = 6
  · have hne : s ≠ [] := List.ne_nil_of_length_pos (by omega)
    have hn : (C.hex2int s).toNat = hexToNatM s := by
      rw [c_hex2int_eq_of_ascii _ (isAscii_of_isHex h) (by omega), Int.toNat_natCast]
    simp only [hl, decide_true, Bool.not_true, Bool.false_eq_true, if_false,
      c_hex2int_tie s (isAscii_of_isHex h) (by omega), bind_val', cConvLong_hex6 s (isAscii_of_isHex h) hl, hn,
      ← num_lit 16, pyInt2_hex s h hne]
  · simp only [hl, decide_false, Bool.not_false, if_true]

end PyModeS.Tie
