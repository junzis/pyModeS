/-
  Tie: generated `bds40.py` = hand model (`Model/Commb.lean`) on every 28-digit hex frame.
-/
import PyModeS.Tie.Commb
import PyModeS.Generated.Src.bds40

namespace PyModeS.Tie
open PyModeS PyModeS.Py PyModeS.CRC

theorem selalt40mcp_tie (m : Msg) (h : IsHex m) (hl : m.length = 28) :
    Gen.bds40.selalt40mcp (.str m) = (PyModeS.selalt40mcp (hex2binM m) >>= fun o => .val (Val.ofOptRat o)) := by
  unfold Gen.bds40.selalt40mcp PyModeS.selalt40mcp
  refine field_open m h hl _ _ _ fun d _ => ufield_step d 0 1 13 16 0 _ fun v => ?_
  simp only [Val.ofNat, pyMul_num, add_zero]

theorem selalt40fms_tie (m : Msg) (h : IsHex m) (hl : m.length = 28) :
    Gen.bds40.selalt40fms (.str m) = (PyModeS.selalt40fms (hex2binM m) >>= fun o => .val (Val.ofOptRat o)) := by
  unfold Gen.bds40.selalt40fms PyModeS.selalt40fms
  refine field_open m h hl _ _ _ fun d _ => ufield_step d 13 14 26 16 0 _ fun v => ?_
  simp only [Val.ofNat, pyMul_num, add_zero]

theorem p40baro_tie (m : Msg) (h : IsHex m) (hl : m.length = 28) :
    Gen.bds40.p40baro (.str m) = (PyModeS.p40baro (hex2binM m) >>= fun o => .val (Val.ofOptRat o)) := by
  unfold Gen.bds40.p40baro PyModeS.p40baro
  refine field_open m h hl _ _ _ fun d _ => ufield_step d 26 27 39 (1 / 10) 800 _ fun v => ?_
  simp only [Val.ofNat, pyMul_num, Res.bind_val, pyAdd_num]

/-- deprecated wrapper: `alt40mcp(msg)` just calls `selalt40mcp(msg)` -/
theorem alt40mcp_tie (m : Msg) (h : IsHex m) (hl : m.length = 28) :
    Gen.bds40.alt40mcp (.str m) = (PyModeS.selalt40mcp (hex2binM m) >>= fun o => .val (Val.ofOptRat o)) := by
  unfold Gen.bds40.alt40mcp
  rw [selalt40mcp_tie m h hl]

/-- deprecated wrapper: `alt40fms(msg)` just calls `selalt40fms(msg)` -/
theorem alt40fms_tie (m : Msg) (h : IsHex m) (hl : m.length = 28) :
    Gen.bds40.alt40fms (.str m) = (PyModeS.selalt40fms (hex2binM m) >>= fun o => .val (Val.ofOptRat o)) := by
  unfold Gen.bds40.alt40fms
  rw [selalt40fms_tie m h hl]

theorem is40_tie (m : Msg) (h : IsHex m) (hl : m.length = 28) :
    Gen.bds40.is40 (.str m) = (PyModeS.is40 (hex2binM m) >>= fun b => .val (.bool b)) := by
  unfold Gen.bds40.is40 PyModeS.is40
  refine pred_open m h hl _ _ fun d _ => ?_
  refine status_step d [(1, 2, 13), (14, 15, 26), (27, 28, 39), (48, 49, 51), (54, 55, 56)] (by decide) _ _ ?_
  refine guardInt_step d 39 47 pyNe_ofNat_zero _ _ ?_
  simp only [pySliceNN_ofBits, bin2int_ofBits, Res.bind_val, bind_assoc, pyNe_ofNat_zero, pyTruth_bool]
  rcases bin2intR (slice 51 53 d) with (r | _ | _)
  · by_cases hr : r = 0 <;> simp [hr]
  · rfl
  · rfl

end PyModeS.Tie
