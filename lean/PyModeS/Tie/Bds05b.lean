/-
  Tie: generated `bds05.altitude` = hand model `altitude05`, and generated `bds06.surface_velocity` =
  hand model `surfaceVelocity` (`Model/Adsb.lean`).
-/
import PyModeS.Tie.Basic
import PyModeS.Tie.Common
import PyModeS.Generated.Src.bds05
import PyModeS.Generated.Src.bds06
import Mathlib.Tactic.NormNum

namespace PyModeS.Tie
open PyModeS PyModeS.Py PyModeS.CRC

/-! ### bds05.altitude -/

/-- `common.altitude` never returns the sentinel `-999999` the source tests for -/
theorem altitude13_ne_sentinel (b : Bits) : altitude13 b ≠ .val (some (-999999)) := by
  intro h
  unfold altitude13 at h
  split at h
  · split_ifs at h
    · cases h
    · injection h with h; injection h with h; omega
    · -- Gillham altitudes are multiples of 100
      injection h with h
      unfold gray2alt at h
      dsimp only at h
      split_ifs at h <;> injection h with h <;> omega
    · injection h with h; injection h with h; unfold m2ft at h; omega
  · cases h

/-- the type-code guard `tc is None or tc < 9 or tc == 19 or tc > 22` once the type code is known -/
theorem altitude_guard_tc (tc : Nat) :
    (do let b__1 ← pyIs (Val.ofOptNat (some tc)) Val.none
        if pyTruth b__1 then pure b__1 else (do
          let b__2 ← pyLt (Val.ofOptNat (some tc)) (Val.num 9)
          if pyTruth b__2 then pure b__2 else (do
            let b__3 ← pyEq (Val.ofOptNat (some tc)) (Val.num 19)
            if pyTruth b__3 then pure b__3 else pyGt (Val.ofOptNat (some tc)) (Val.num 22)))) =
      .val (.bool (decide (tc < 9 ∨ tc = 19 ∨ tc > 22))) := by
  rw [show Val.ofOptNat (some tc) = Val.ofNat tc from rfl, Val.ofNat, pyIs_none_num, bind_val', pyTruth_bool,
    if_neg Bool.false_ne_true, ← Val.ofNat, pyLt_ofNat_lit, pyEq_ofNat_lit, pyGt_ofNat_lit]
  exact or_link _ _ _ (or_link _ _ _ rfl)

/-- `bds05.altitude(msg)`: barometric altitude (an `int` or `None`) for TC 9-18, GNSS height for TC 20-22.
    (Named `bds05_altitude_tie` because `altitude_tie` is the tie of `common.altitude` in `Tie/Common.lean`.) -/
theorem bds05_altitude_tie (m : Msg) (h : IsHex m) (hl : 10 ≤ m.length) :
    Gen.bds05.altitude (.str m) = (altitude05 (hex2binM m) >>= fun o => .val (Val.ofOptRat o)) := by
  unfold Gen.bds05.altitude altitude05
  have hne : m ≠ [] := by intro e; rw [e] at hl; simp at hl
  rw [typecode_str m h hl, typecode_eq, bind_val']
  generalize tcB (hex2binM m) = o
  rcases o with _ | tc
  · rfl
  · rw [altitude_guard_tc, bind_val']
    by_cases hg : tc < 9 ∨ tc = 19 ∨ tc > 22
    · simp only [hg, decide_true, pyTruth_bool, if_true, bind_rte']
    · simp only [hg, decide_false, pyTruth_bool, Bool.false_eq_true, if_false]
      rw [hex2bin_str m h hne, bind_val', pySliceFrom_ofBits, bind_val', pySliceNN_ofBits, bind_val']
      generalize slice 8 20 ((hex2binM m).drop 32) = altbin
      have hof : Val.ofOptNat (some tc) = Val.ofNat tc := rfl
      rw [hof]
      rw [pyLt_ofNat_lit, bind_val']
      by_cases h19 : tc < 19
      · simp only [h19, decide_true, pyTruth_bool, if_true]
        have h0 : Val.str ['0'] = Val.ofBits [false] := rfl
        rw [pySliceNN_ofBits, bind_val', h0, pyAdd_ofBits, bind_val', pySliceFrom_ofBits, bind_val', pyAdd_ofBits,
          bind_val', altitude_tie]
        have hs := altitude13_ne_sentinel (slice 0 6 altbin ++ [false] ++ List.drop 6 altbin)
        generalize altitude13 (slice 0 6 altbin ++ [false] ++ List.drop 6 altbin) = r at hs ⊢
        rcases r with ((_ | a) | _ | _)
        · rfl
        · have hne' : ¬ ((a : Rat) = -999999) := by
            intro e
            apply hs
            have : a = -999999 := by exact_mod_cast e
            rw [this]
          have hb : ((a : Rat) == -999999) = false := by simpa using hne'
          simp only [bind_val', Val.ofOptInt, pyNe_num, hb, Bool.not_false, pyTruth_bool, if_true, Res.pure_eq]
          rfl
        · rfl
        · rfl
      · simp only [h19, decide_false, pyTruth_bool, Bool.false_eq_true, if_false, bin2int_ofBits]
        rcases bin2intR altbin with (n | _ | _)
        · simp only [bind_val', Val.ofNat, pyMul_num, Res.pure_eq, Val.ofOptRat]
          congr 2
          ring
        · rfl
        · rfl

/-! ### bds06.surface_velocity -/

/-- the type-code guard `tc is None or tc < 5 or tc > 8` once the type code is known -/
theorem surfvel_guard_tc (tc : Nat) :
    (do let b__1 ← pyIs (Val.ofOptNat (some tc)) Val.none
        if pyTruth b__1 then pure b__1 else (do
          let b__2 ← pyLt (Val.ofOptNat (some tc)) (Val.num 5)
          if pyTruth b__2 then pure b__2 else pyGt (Val.ofOptNat (some tc)) (Val.num 8))) =
      .val (.bool (decide (tc < 5 ∨ tc > 8))) := by
  rw [show Val.ofOptNat (some tc) = Val.ofNat tc from rfl, Val.ofNat, pyIs_none_num, bind_val', pyTruth_bool,
    if_neg Bool.false_ne_true, ← Val.ofNat, pyLt_ofNat_lit, pyGt_ofNat_lit]
  exact or_link _ _ _ rfl

/-- `t[j]` for a list literal and an integer value (possibly negative) = the hand model's `pyIdx` -/
theorem pyIdx_tuple_int {α} (g : α → Val) (l : List α) (j : Int) :
    Py.pyIdx (.tuple (l.map g)) (.num (j : Rat)) = (PyModeS.pyIdx l j >>= fun a => .val (g a)) := by
  have hi : (Val.num (j : Rat)).int? = some j := by simp [Val.int?]
  have hmask : ∀ mask, Val.num (j : Rat) ≠ Val.tuple mask := fun _ e => by cases e
  unfold Py.pyIdx
  simp only [hi, idxList, PyModeS.pyIdx, idxR, List.length_map, List.getElem?_map]
  by_cases hj : j < 0
  · simp only [hj, if_true]
    by_cases hle : (-j).toNat ≤ l.length
    · have h2 : ¬ (j + (l.length : Int) < 0) := by omega
      have h3 : (j + (l.length : Int)).toNat = l.length - (-j).toNat := by omega
      simp only [hle, if_true, h2, if_false, h3]
      cases l[l.length - (-j).toNat]? <;> rfl
    · have h2 : (j + (l.length : Int) < 0) := by omega
      simp only [hle, if_false, h2, if_true]
      rfl
  · simp only [hj, if_false]
    cases l[j.toNat]? <;> rfl

/-- the indices (from `s`) of the members of `l` greater than `n`: the value of the generator expression -/
def gtIdx (n : Nat) : Nat → List Nat → List Val
  | _, [] => []
  | s, k :: ks => if n < k then Val.ofNat s :: gtIdx n (s + 1) ks else gtIdx n (s + 1) ks

theorem pyGt_lit_ofNat (k n : Nat) : pyGt (Val.num (k : Rat)) (Val.ofNat n) = .val (.bool (decide (n < k))) := by
  rw [Val.ofNat, pyGt_num]
  exact congrArg _ (congrArg _ (decide_eq_decide.mpr Nat.cast_lt))

theorem compList_gt (n : Nat) (l : List Nat) (s : Nat) :
    compList (fun x__4 => do
        let __do_lift ← pyIdxN x__4 1
        let __do_lift ← pyGt __do_lift (Val.ofNat n)
        if (!pyTruth __do_lift) = true then pure none
          else do
            let __do_lift ← pyIdxN x__4 0
            pure (some __do_lift)) (enumFrom s (l.map fun (k : Nat) => Val.num (k : Rat))) = .val (gtIdx n s l) := by
  induction l generalizing s with
  | nil => rfl
  | cons k ks ih =>
    have h1 : pyIdxN (Val.tuple [Val.ofNat s, Val.num (k : Rat)]) 1 = .val (Val.num (k : Rat)) := rfl
    have h0 : pyIdxN (Val.tuple [Val.ofNat s, Val.num (k : Rat)]) 0 = .val (Val.ofNat s) := rfl
    simp only [List.map_cons, enumFrom, compList, ih, h1, h0, bind_val', pyGt_lit_ofNat, pyTruth_bool, gtIdx]
    by_cases h : n < k <;> simp [h]

theorem pyNext_gtIdx (n : Nat) (l : List Nat) (s : Nat) :
    pyNext (.tuple (gtIdx n s l)) =
      (match l.findIdx? (fun m => decide (m > n)) with
       | some i => .val (Val.ofNat (s + i))
       | none => .exc) := by
  induction l generalizing s with
  | nil => rfl
  | cons k ks ih =>
    simp only [gtIdx, List.findIdx?_cons]
    by_cases h : n < k
    · simp [h, pyNext]
    · simp only [h, if_false, ih, decide_false, Bool.false_eq_true, gt_iff_lt]
      cases List.findIdx? (fun m => decide (n < m)) ks with
      | none => rfl
      | some i =>
        simp only [Option.map_some]
        rw [show s + 1 + i = s + (i + 1) by omega]

/-- `next(m[0] for m in enumerate(l) if m[1] > n)` on a literal list of numbers -/
theorem next_enum_gt (n : Nat) (l : List Nat) :
    (do let e ← pyEnumerate (.tuple (l.map fun (k : Nat) => Val.num (k : Rat)))
        let c ← pyComp e (fun x__4 => do
          let __do_lift ← pyIdxN x__4 1
          let __do_lift ← pyGt __do_lift (Val.ofNat n)
          if (!pyTruth __do_lift) = true then pure none
            else do
              let __do_lift ← pyIdxN x__4 0
              pure (some __do_lift))
        pyNext c) = (firstGreater l n >>= fun i => .val (Val.ofNat i)) := by
  have he : ∀ l, pyEnumerate (.tuple l) = .val (.tuple (enumFrom 0 l)) := fun _ => rfl
  have hc : ∀ l f, pyComp (.tuple l) f = (compList f l >>= fun r => .val (.tuple r)) := fun _ _ => rfl
  rw [he, bind_val', hc, compList_gt, bind_val', bind_val', pyNext_gtIdx]
  simp only [firstGreater, Nat.zero_add]
  cases List.findIdx? (fun m => decide (m > n)) l <;> rfl


theorem next_enum_gt_k (n : Nat) (l : List Nat) (R : Val → Res Val) :
    (do let e ← pyEnumerate (.tuple (l.map fun (k : Nat) => Val.num (k : Rat)))
        let c ← pyComp e (fun x__4 => do
          let __do_lift ← pyIdxN x__4 1
          let __do_lift ← pyGt __do_lift (Val.ofNat n)
          if (!pyTruth __do_lift) = true then pure none
            else do
              let __do_lift ← pyIdxN x__4 0
              pure (some __do_lift))
        let i ← pyNext c
        R i) = (firstGreater l n >>= fun i => R (Val.ofNat i)) := by
  have := congrArg (fun x => x >>= R) (next_enum_gt n l)
  simp only [bind_assoc] at this
  rw [this]
  rcases firstGreater l n with (i | _ | _) <;> rfl

theorem surface_velocity_tie (m : Msg) (h : IsHex m) (hl : 10 ≤ m.length) (src : Bool) :
    Gen.bds06.surface_velocity (.str m) (.bool src) =
      (surfaceVelocity (hex2binM m) >>= fun p => .val (.tuple ([Val.ofOptRat p.1, Val.ofOptRat p.2, .num 0,
        .str ['G', 'S']] ++ if src then [.str ['T', 'R', 'U', 'E', '_', 'N', 'O', 'R', 'T', 'H'], .none] else []))) := by
  unfold Gen.bds06.surface_velocity surfaceVelocity
  have hne : m ≠ [] := by intro e; rw [e] at hl; simp at hl
  rw [typecode_str m h hl, typecode_eq, bind_val']
  generalize tcB (hex2binM m) = o
  rcases o with _ | tc
  · rfl
  · rw [surfvel_guard_tc, bind_val']
    -- the literals and tables of the speed part, the function after the type-code guard, and the model's
    -- "movement to speed, then pair with the track"
    extract_lets vNone v0 v175 movLb ktsLb stepLb body mb tailM
    by_cases hg : tc < 5 ∨ tc > 8
    · rw [decide_eq_true hg, pyTruth_bool, if_pos rfl, bind_rte']
      dsimp only
      rw [if_pos hg]
      rfl
    · rw [decide_eq_false hg, pyTruth_bool, if_neg Bool.false_ne_true]
      dsimp only
      rw [if_neg hg]
      unfold body
      rw [hex2bin_str m h hne, bind_val', pySliceFrom_ofBits, bind_val', pyIdxN_ofBits, bind_assoc, bind_assoc]
      refine bind_congr fun st => ?_
      have e : pyEq (Val.num (if st = true then 1 else 0)) (Val.num 1) = .val (.bool st) := by cases st <;> simp
      rw [bind_val', pyInt1_digit, bind_val', e, bind_val', pyTruth_bool]
      -- the join point after the track: everything from the movement field on, for a track `t` already decided
      extract_lets jp
      have hjp : ∀ t : Option ℚ, jp () (Val.ofOptRat t) = (tailM t >>= fun p => .val (.tuple ([Val.ofOptRat p.1,
          Val.ofOptRat p.2, .num 0, .str ['G', 'S']] ++
            if src then [.str ['T', 'R', 'U', 'E', '_', 'N', 'O', 'R', 'T', 'H'], .none] else []))) := by
        intro t
        unfold jp tailM
        rw [pySliceNN_ofBits, bind_val', bin2int_ofBits, bind_assoc, bind_assoc]
        refine bind_congr fun n => ?_
        rw [bind_val']
        -- the join point after the speed: the returned tuple
        extract_lets out
        have hout : ∀ spd a b c d, out () spd a b c d = .val (.tuple ([spd, Val.ofOptRat t, .num 0, .str ['G', 'S']] ++
            if src then [.str ['T', 'R', 'U', 'E', '_', 'N', 'O', 'R', 'T', 'H'], .none] else [])) := by
          intro spd a b c d; unfold out; cases src <;> rfl
        simp only [hout]
        conv_rhs => rw [bind_assoc]; simp only [pure_bind]
        dsimp only [vNone, v0, v175, movLb, ktsLb, stepLb]
        have e0 := pyEq_ofNat n 0
        have e1 := pyEq_ofNat n 1
        rw [Nat.cast_zero] at e0
        rw [Nat.cast_one] at e1
        unfold movSpeed
        rw [e0, pyGt_ofNat_lit, or_link _ _ _ rfl, bind_val', pyTruth_bool]
        by_cases hA : n = 0 ∨ n > 124
        · rw [if_pos (decide_eq_true hA), if_pos hA]
          rfl
        rw [if_neg (by simpa using hA), if_neg hA, e1, bind_val', pyTruth_bool]
        by_cases h1 : n = 1
        · rw [if_pos (decide_eq_true h1), if_pos h1]
          rfl
        rw [if_neg (by simpa using h1), if_neg h1, pyEq_ofNat_lit, bind_val', pyTruth_bool]
        by_cases h124 : n = 124
        · rw [if_pos (decide_eq_true h124), if_pos h124]
          rfl
        rw [if_neg (by simpa using h124), if_neg h124]
        have hn := next_enum_gt_k n Tables.movLb
        simp only [Tables.movLb, List.map_cons, List.map_nil, Nat.cast_ofNat] at hn
        rw [hn, bind_assoc]
        simp only [Tables.movLb, Tables.ktsLb, Tables.movStep]
        generalize firstGreater [2, 9, 13, 39, 94, 109, 124] n = ri
        rcases ri with (i | _ | _)
        swap
        · rfl
        swap
        · rfl
        have hsub : pySub (Val.ofNat i) (Val.num 1) = .val (.num (((i : Int) - 1 : Int) : Rat)) := by
          simp [Val.ofNat]
        have hk := pyIdx_tuple_int Val.num Tables.ktsLb ((i : Int) - 1)
        have hl := pyIdx_tuple_int (fun (k : Nat) => Val.num (k : Rat)) Tables.movLb ((i : Int) - 1)
        have hs := pyIdx_tuple_int Val.num Tables.movStep ((i : Int) - 1)
        simp only [Tables.movLb, Tables.ktsLb, Tables.movStep, List.map_cons, List.map_nil, Nat.cast_ofNat] at hk hl hs
        simp only [bind_val', hsub, hk, hl, hs, bind_assoc]
        generalize PyModeS.pyIdx [(1 : Rat) / 8, 1, 2, 15, 70, 100, 175] ((i : Int) - 1) = rk
        generalize PyModeS.pyIdx [2, 9, 13, 39, 94, 109, 124] ((i : Int) - 1) = rl
        generalize PyModeS.pyIdx [(1 : Rat) / 8, 1 / 4, 1 / 2, 1, 2, 5] ((i : Int) - 1) = rs
        rcases rk with (k | _ | _)
        swap
        · rfl
        swap
        · rfl
        rcases rl with (lb | _ | _)
        swap
        · rfl
        swap
        · rfl
        rcases rs with (st | _ | _)
        swap
        · rfl
        swap
        · rfl
        simp only [bind_val', Val.ofNat, pySub_num, pyMul_num, pyAdd_num, Res.pure_eq, Val.ofOptRat]
        push_cast
        rfl
      cases st
      · exact hjp none
      · rw [pyTruth_bool, if_pos rfl, if_pos rfl, pySliceNN_ofBits, bind_val', bin2int_ofBits, bind_assoc, bind_assoc]
        refine bind_congr fun v => ?_
        have hmul : pyMul (Val.ofNat v) (Val.num 360) = .val (.num ((v : Rat) * 360)) := rfl
        rw [bind_val', hmul, bind_val', pyDiv_lit, bind_val']
        exact hjp (some _)

end PyModeS.Tie
