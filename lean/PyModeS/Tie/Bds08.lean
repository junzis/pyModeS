/-
  Tie: generated `bds08.category` and `bds09.altitude_diff` = hand model (`Model/Adsb.lean`), and the lemmas on string
  concatenation, `replace` and `Res.mapM` that the tie of `bds08.callsign` (`Tie/Callsign.lean`) uses.
-/
import PyModeS.Tie.Basic
import PyModeS.Generated.Src.bds08
import PyModeS.Generated.Src.bds09

namespace PyModeS.Tie
open PyModeS PyModeS.Py PyModeS.CRC

/-- `common.typecode(msg)` in terms of the bit-level type code of the hand model -/
theorem typecode_str' (m : Msg) (h : IsHex m) (hl : 10 ≤ m.length) :
    Gen.py_common.typecode (.str m) = .val (Val.ofOptNat (tcB (hex2binM m))) :=
  typecode_hex m h hl

theorem category_tie (m : Msg) (h : IsHex m) (hl : 10 ≤ m.length) :
    Gen.bds08.category (.str m) = (PyModeS.category (hex2binM m) >>= fun n => .val (Val.ofNat n)) := by
  unfold Gen.bds08.category PyModeS.category
  simp only [typecode_str' m h hl, Res.bind_val, hex2bin_str m h (ne_nil_of_le hl)]
  generalize tcB (hex2binM m) = o
  rcases o with _ | tc
  · rfl
  · -- the guard `tc is None or tc < 1 or tc > 4`
    simp only [Val.ofOptNat, pyIs_none_num, Res.bind_val, pyTruth_bool, Bool.false_eq_true, if_false, pyLt_num,
      pyGt_num, Nat.cast_lt_one, Nat.ofNat_lt_cast, Res.pure_eq, decide_eq_true_eq, or_block]
    -- under it both sides fail, otherwise both read the same bits
    simp only [Res.bind_rte, Res.bind_val, pySliceNN_ofBits, bin2int_ofBits, Nat.lt_one_iff, gt_iff_lt, Res.ite_bind]

theorem altitude_diff_tie (m : Msg) (h : IsHex m) (hl : 10 ≤ m.length) :
    Gen.bds09.altitude_diff (.str m) =
      (PyModeS.altitudeDiff (hex2binM m) >>= fun o => .val (Val.ofOptInt o)) := by
  unfold Gen.bds09.altitude_diff PyModeS.altitudeDiff
  simp only [typecode_str' m h hl, Res.bind_val, hex2bin_str m h (ne_nil_of_le hl)]
  generalize tcB (hex2binM m) = o
  generalize hex2binM m = d
  rcases o with _ | tc
  · rfl
  -- the guard `tc is None or tc != 19`
  have hg : pyNe (Val.num (tc : Rat)) (Val.num 19) = .val (.bool (!decide (tc = 19))) := pyNe_ofNat tc 19
  simp only [Val.ofOptNat, pyIs_none_num, Res.bind_val, pyTruth_bool, Bool.false_eq_true, if_false, hg,
    Bool.not_eq_true', decide_eq_false_iff_not, ne_eq, Option.some.injEq]
  by_cases h19 : tc ≠ 19
  · simp only [if_pos h19, Res.bind_rte]
  -- the sign bit and the 7-bit value; a failed read fails both sides
  simp only [if_neg h19, pyIdxN_ofBits, pySliceNN_ofBits, bin2int_ofBits, bind_assoc, Res.bind_val, pyInt1_digit,
    pyTruth_num01, Res.pure_eq, Res.ite_val, ← apply_ite Val.num]
  rcases idxR d 80 with (s | _ | _)
  · simp only [Res.bind_val]
    rcases bin2intR (slice 81 88 d) with (v | _ | _)
    · simp only [Res.bind_val, pyEq_ofNat_zero, pyEq_ofNat_lit, pyTruth_bool, decide_eq_true_eq, or_block]
      by_cases hv : v = 0 ∨ v = 127
      · rw [if_pos hv, if_pos hv]
        rfl
      rw [if_neg hv, if_neg hv]
      simp only [Val.ofNat, pySub_num, pyMul_num, Res.bind_val, Val.ofOptInt, Int.cast_mul, Int.cast_sub,
        apply_ite (Int.cast : Int → Rat), Int.cast_neg, Int.cast_one, Int.cast_natCast, Int.cast_ofNat]
    · rfl
    · rfl
  · rfl
  · rfl

@[simp] theorem pyAdd_str (x y : List Char) : pyAdd (.str x) (.str y) = .val (.str (x ++ y)) := rfl

theorem mapM_cons {α β} (f : α → Res β) (a : α) (as : List α) :
    Res.mapM f (a :: as) = (f a >>= fun b => Res.mapM f as >>= fun bs => .val (b :: bs)) := by
  simp only [Res.mapM]
  cases f a with
  | val b => cases Res.mapM f as <;> rfl
  | rte => rfl
  | exc => rfl

theorem mapM_nil {α β} (f : α → Res β) : Res.mapM f [] = .val [] := rfl

theorem flatMap_remove (x : Char) (l : List Char) :
    l.flatMap (fun c => if c = x then [] else [c]) = l.filter (fun c => decide (c ≠ x)) := by
  induction l with
  | nil => rfl
  | cons a l ih =>
    simp only [List.flatMap_cons, ih, List.filter_cons]
    by_cases hx : a = x <;> simp [hx]

theorem pyReplace_remove (s : List Char) (x : Char) :
    pyReplace (.str s) (.str [x]) (.str []) = .val (.str (s.filter (fun c => decide (c ≠ x)))) := by
  simp only [pyReplace, flatMap_remove]

end PyModeS.Tie
