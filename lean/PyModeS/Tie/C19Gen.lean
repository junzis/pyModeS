/-
  C19 transported to the source-generated definition of `RtlReader._process_buffer` (extra/rtlreader.py): the
  statements of `Properties/C19.lean` about `processBuffer` restated about `Gen.rtlreader.RtlReader__process_buffer`
  on a receiver dictionary, by composing `Tie.RtlReader__process_buffer_tie(_model)` with the property theorems.

  The receiver is any attribute dictionary `l` whose `signal_buffer` holds the samples, `noise_floor` a number and
  `debug` any value; the generated method returns `[self', messages]` with `messages` a list of `[msg, ts]`
  (`ts` = the `0` of `Ext.time_time`).  Acceptance by `_check_msg`, the DF and the CRC are read through the GENERATED
  `_check_msg`, `df` and `crc`; only the specification side (`Spec.remH`, the modulator `Demod.modulate`) is hand
  written.
-/
import PyModeS.Properties.C19
import PyModeS.Tie.RtlBuffer
import PyModeS.Tie.Crc

namespace PyModeS.C19Gen
open PyModeS PyModeS.Py PyModeS.CRC PyModeS.Tie PyModeS.Tie.Rtl PyModeS.Tie.RtlBuf
open PyModeS.Demod (modulate)

/-- the returned `[msg, ts]` list -/
def stamped (msgs : List Msg) : Val := .tuple (msgs.map fun m => .tuple [.str m, .num 0])

theorem stamped_eq (msgs : List Msg) : stamped msgs = encStamped msgs := rfl

/-- the receiver after a call: `signal_buffer` emptied, `noise_floor` replaced -/
def selfAfter (l : List (Val × Val)) (nf : Rat) : Val :=
  .dict (setPair (attrKey "signal_buffer") (.tuple []) (setPair (attrKey "noise_floor") (.num nf) l))

/-! ### every message of the output is `bin2hex` of a bit list, hence a non-empty hex string -/

theorem processBuffer_hex (nf0 : Rat) (buf : Array Rat) (msgs : List Msg) (nf : Rat) (rest : Nat)
    (h : processBuffer nf0 buf = .val (msgs, nf, rest)) : ∀ m ∈ msgs, IsHex m ∧ m ≠ [] := by
  obtain ⟨c, i, _, _, hd, _⟩ := C19.processBuffer_val nf0 buf msgs nf rest h
  rw [Demod.demodLoop_eq_scan] at hd
  exact Demod.scan_inv (fun m => IsHex m ∧ m ≠ []) (fun b _ => ⟨isHex_bin2hexNoPad b, bin2hexNoPad_ne_nil b⟩)
    _ _ _ _ _ _ _ (by simp) hd

/-- a value result of the generated method is a value result of `processBuffer`, and determines it -/
theorem process_buffer_val (l : List (Val × Val)) (buf : Array Rat) (nf0 : Rat) (dbg : Val)
    (hbuf : dictFind l (attrKey "signal_buffer") = some (encRats buf.toList))
    (hnf : dictFind l (attrKey "noise_floor") = some (.num nf0))
    (hdbg : dictFind l (attrKey "debug") = some dbg)
    (hlen : buf.size + 1 < whileFuel) (r : Val)
    (h : Gen.rtlreader.RtlReader__process_buffer (.dict l) = .val r) :
    ∃ msgs nf, processBuffer nf0 buf = .val (msgs, nf, 0) ∧ r = .tuple [selfAfter l nf, stamped msgs] := by
  rw [RtlReader__process_buffer_tie_model l buf nf0 dbg hbuf hnf hdbg hlen] at h
  cases hp : processBuffer nf0 buf with
  | rte => rw [hp] at h; cases h
  | exc => rw [hp] at h; cases h
  | val p =>
    obtain ⟨msgs, nf, rest⟩ := p
    have h0 : rest = 0 := (C19.processBuffer_rest nf0 buf msgs nf rest hp).1
    subst h0
    rw [hp, bind_val'] at h
    refine ⟨msgs, nf, rfl, ?_⟩
    have := Res.val.inj h
    rw [← this]
    simp only [takeLast, Nat.sub_zero, List.drop_length]
    rfl

/-- `checkMsg` of the hand model read through the generated `_check_msg` -/
theorem check_msg_gen (self : Val) (m : Msg) (hx : IsHex m) (hne : m ≠ []) :
    Gen.rtlreader.RtlReader__check_msg self (.str m) = .val (.tuple [self, .bool true]) ↔ checkMsg m = true := by
  rw [RtlReader__check_msg_tie self m hx hne]
  constructor
  · intro h
    have h1 := Res.val.inj h
    simp only [Val.tuple.injEq, List.cons.injEq, Val.bool.injEq, and_true, true_and] at h1
    exact h1
  · intro h; rw [h]

theorem df_gen (m : Msg) (hx : IsHex m) (hne : m ≠ []) (k : Nat) :
    Gen.py_common.df (.str m) = .val (.num (k : Rat)) ↔ df m = k := by
  rw [df_str1 m hx hne]
  constructor
  · intro h
    have h1 := Res.val.inj h
    simp only [Val.ofNat, Val.num.injEq, Nat.cast_inj] at h1
    exact h1
  · intro h; rw [h]; rfl

/-! ### No DF17 frame with a non-zero checksum is ever returned (unconditional) -/

/-- **never_bad_df17** for the generated `_process_buffer`: for every receiver (any previous noise floor, any sample
    buffer of fewer than `whileFuel - 1` = 2^20 - 1 samples), whatever the method returns is `[self', messages]` with
    `messages` a list of `[msg, 0]`; every `msg` is a non-empty hex string that the generated `_check_msg` accepts, and
    if the generated `df` gives 17 it has 28 digits, the generated `crc(msg)` is 0, and the true remainder of the frame
    polynomial modulo the Mode S generator is 0. -/
theorem never_bad_df17_tie (l : List (Val × Val)) (buf : Array Rat) (nf0 : Rat) (dbg : Val)
    (hbuf : dictFind l (attrKey "signal_buffer") = some (encRats buf.toList))
    (hnf : dictFind l (attrKey "noise_floor") = some (.num nf0))
    (hdbg : dictFind l (attrKey "debug") = some dbg)
    (hlen : buf.size + 1 < whileFuel) (r : Val)
    (h : Gen.rtlreader.RtlReader__process_buffer (.dict l) = .val r) :
    ∃ (self' : Val) (msgs : List Msg), r = .tuple [self', stamped msgs] ∧
      ∀ m ∈ msgs, IsHex m ∧ m ≠ [] ∧
        Gen.rtlreader.RtlReader__check_msg self' (.str m) = .val (.tuple [self', .bool true]) ∧
        (Gen.py_common.df (.str m) = .val (.num 17) →
          m.length = 28 ∧ Gen.py_common.crc (.str m) (.bool false) = .val (.num 0) ∧
          Spec.remH (hex2binM m) = 0) := by
  obtain ⟨msgs, nf, hp, hr⟩ := process_buffer_val l buf nf0 dbg hbuf hnf hdbg hlen r h
  refine ⟨selfAfter l nf, msgs, hr, ?_⟩
  intro m hm
  obtain ⟨hx, hne⟩ := processBuffer_hex nf0 buf msgs nf 0 hp m hm
  obtain ⟨hok, h17⟩ := C19.never_bad_df17 nf0 buf msgs nf 0 hp m hm
  refine ⟨hx, hne, (check_msg_gen _ m hx hne).2 hok, ?_⟩
  intro hdf
  have hdf' : df m = 17 := (df_gen m hx hne 17).1 (by simpa using hdf)
  obtain ⟨hl, hc, hrem⟩ := h17 hdf'
  refine ⟨hl, ?_, hrem⟩
  rw [crc_tie m hx (by omega) false, hc]
  rfl

/-! ### The loop consumes the whole buffer; the noise floor never increases -/

/-- **processBuffer_rest** for the generated method: after a successful call `signal_buffer` is empty, the new
    `noise_floor` is `min(c, old)` with `c` the value of the generated `_calc_noise` (so it never increases), and no
    other attribute changes. -/
theorem process_buffer_rest_tie (l : List (Val × Val)) (buf : Array Rat) (nf0 : Rat) (dbg : Val)
    (hbuf : dictFind l (attrKey "signal_buffer") = some (encRats buf.toList))
    (hnf : dictFind l (attrKey "noise_floor") = some (.num nf0))
    (hdbg : dictFind l (attrKey "debug") = some dbg)
    (hlen : buf.size + 1 < whileFuel) (r : Val)
    (h : Gen.rtlreader.RtlReader__process_buffer (.dict l) = .val r) :
    ∃ (c nf : Rat) (msgs : Val),
      Gen.rtlreader.RtlReader__calc_noise (.dict l) = .val (.tuple [.dict l, .num c]) ∧
      nf = min c nf0 ∧ nf ≤ nf0 ∧
      r = .tuple [.dict (setPair (attrKey "signal_buffer") (.tuple [])
        (setPair (attrKey "noise_floor") (.num nf) l)), msgs] := by
  obtain ⟨msgs, nf, hp, hr⟩ := process_buffer_val l buf nf0 dbg hbuf hnf hdbg hlen r h
  obtain ⟨_, hle, c, i, hc, hmin, _, _, _⟩ := C19.processBuffer_rest nf0 buf msgs nf 0 hp
  refine ⟨c, nf, stamped msgs, ?_, hmin, hle, hr⟩
  rw [RtlReader__calc_noise_tie l buf hbuf, hc, bind_val']

/-! ### A cleanly modulated frame is recovered -/

/-- transport of a closed-form result of `processBuffer` (nothing left in the buffer) to the generated method -/
theorem process_buffer_of_model (l : List (Val × Val)) (samples : List Rat) (nf0 : Rat) (dbg : Val)
    (hbuf : dictFind l (attrKey "signal_buffer") = some (encRats samples))
    (hnf : dictFind l (attrKey "noise_floor") = some (.num nf0))
    (hdbg : dictFind l (attrKey "debug") = some dbg)
    (hlen : samples.length + 1 < whileFuel) (msgs : List Msg) (c : Rat)
    (hc : calcNoise samples.toArray = .val c)
    (hp : processBuffer nf0 samples.toArray = .val (msgs, min c nf0, 0)) :
    Gen.rtlreader.RtlReader__calc_noise (.dict l) = .val (.tuple [.dict l, .num c]) ∧
    Gen.rtlreader.RtlReader__process_buffer (.dict l) = .val (.tuple [selfAfter l (min c nf0), stamped msgs]) := by
  have hbuf' : dictFind l (attrKey "signal_buffer") = some (encRats samples.toArray.toList) := by
    simpa using hbuf
  have hlen' : samples.toArray.size + 1 < whileFuel := by simpa using hlen
  constructor
  · rw [RtlReader__calc_noise_tie l _ hbuf', hc, bind_val']
  · rw [RtlReader__process_buffer_tie_model l _ nf0 dbg hbuf' hnf hdbg hlen', hp, bind_val']
    simp only [takeLast, Nat.sub_zero, List.drop_length]
    rfl

/-- **clean_signal_recovered_partial** for the generated `_process_buffer` — ONE frame.  `m` is a non-empty upper-case
    hex frame that the generated `_check_msg` accepts, modulated with pulse amplitude `a ∈ [0.3, 1.4]` behind ≥ 200
    samples of lead-in and followed by any amount of noise; every non-pulse sample is `< a/5` and `< 1/5` (lows inside
    the transmission also `≥ 0`); the receiver's `signal_buffer` holds these samples (fewer than 2^20 - 1).  Then for
    EVERY previous noise floor `nf0` the generated method returns exactly `[[m, 0]]`, sets `noise_floor` to
    `min(c, nf0)` (`c` = the generated `_calc_noise`) and empties `signal_buffer`.
    (Partial w.r.t. the property only in the noise hypothesis, 14 dB instead of 10 dB: `C19.snr_10dB_insufficient`.) -/
theorem clean_signal_recovered_partial_tie (l : List (Val × Val)) (dbg : Val)
    (nf0 a : Rat) (lo : Nat → Rat) (pre post : List Rat) (m : Msg)
    (hbuf : dictFind l (attrKey "signal_buffer") = some (encRats (pre ++ modulate a lo (hex2binM m) ++ post)))
    (hnf : dictFind l (attrKey "noise_floor") = some (.num nf0))
    (hdbg : dictFind l (attrKey "debug") = some dbg)
    (hlen : (pre ++ modulate a lo (hex2binM m) ++ post).length + 1 < whileFuel)
    (hup : ∀ c ∈ m, c ∈ "0123456789ABCDEF".toList) (hne : m ≠ [])
    (hok : Gen.rtlreader.RtlReader__check_msg (.dict l) (.str m) = .val (.tuple [.dict l, .bool true]))
    (ha : 3 / 10 ≤ a ∧ a ≤ 14 / 10)
    (hlo : ∀ k, 0 ≤ lo k ∧ lo k < a / 5)
    (hpre : ∀ x ∈ pre, x < a / 5 ∧ x < 1 / 5) (hpost : ∀ x ∈ post, x < a / 5 ∧ x < 1 / 5)
    (hprelen : 200 ≤ pre.length) :
    ∃ c, Gen.rtlreader.RtlReader__calc_noise (.dict l) = .val (.tuple [.dict l, .num c]) ∧
      Gen.rtlreader.RtlReader__process_buffer (.dict l) =
        .val (.tuple [.dict (setPair (attrKey "signal_buffer") (.tuple [])
            (setPair (attrKey "noise_floor") (.num (min c nf0)) l)),
          .tuple [.tuple [.str m, .num 0]]]) := by
  have hok' : checkMsg m = true := (check_msg_gen _ m (Demod.upper_isHex m hup) hne).1 hok
  obtain ⟨c, hc, hp⟩ := C19.clean_signal_recovered_partial nf0 a lo pre post m hup hok' ha hlo hpre hpost hprelen
  exact ⟨c, process_buffer_of_model l _ nf0 dbg hbuf hnf hdbg hlen [m] c hc hp⟩

/-- **clean_frames_recovered_partial** for the generated `_process_buffer` — ANY NUMBER of frames with one shared
    amplitude and low-sample pattern: each `(m, gap)` is a non-empty upper-case frame accepted by the generated
    `_check_msg`, followed by ≥ 114 samples of noise (`< a/5`, `< 1/5`).  The frames come back exactly, in order. -/
theorem clean_frames_recovered_partial_tie (l : List (Val × Val)) (dbg : Val)
    (nf0 a : Rat) (lo : Nat → Rat) (pre : List Rat) (frames : List (Msg × List Rat))
    (hbuf : dictFind l (attrKey "signal_buffer") =
      some (encRats (pre ++ (frames.flatMap fun f => modulate a lo (hex2binM f.1) ++ f.2))))
    (hnf : dictFind l (attrKey "noise_floor") = some (.num nf0))
    (hdbg : dictFind l (attrKey "debug") = some dbg)
    (hlen : (pre ++ (frames.flatMap fun f => modulate a lo (hex2binM f.1) ++ f.2)).length + 1 < whileFuel)
    (ha : 3 / 10 ≤ a ∧ a ≤ 14 / 10)
    (hlo : ∀ k, 0 ≤ lo k ∧ lo k < a / 5)
    (hpre : ∀ x ∈ pre, x < a / 5 ∧ x < 1 / 5) (hprelen : 200 ≤ pre.length)
    (hframes : ∀ f ∈ frames, (∀ c ∈ f.1, c ∈ "0123456789ABCDEF".toList) ∧ f.1 ≠ [] ∧
      Gen.rtlreader.RtlReader__check_msg (.dict l) (.str f.1) = .val (.tuple [.dict l, .bool true]) ∧
      114 ≤ f.2.length ∧ ∀ x ∈ f.2, x < a / 5 ∧ x < 1 / 5) :
    ∃ c, Gen.rtlreader.RtlReader__calc_noise (.dict l) = .val (.tuple [.dict l, .num c]) ∧
      Gen.rtlreader.RtlReader__process_buffer (.dict l) =
        .val (.tuple [.dict (setPair (attrKey "signal_buffer") (.tuple [])
            (setPair (attrKey "noise_floor") (.num (min c nf0)) l)),
          .tuple (frames.map fun f => .tuple [.str f.1, .num 0])]) := by
  have hframes' : ∀ f ∈ frames, (∀ c ∈ f.1, c ∈ "0123456789ABCDEF".toList) ∧ checkMsg f.1 = true ∧
      114 ≤ f.2.length ∧ ∀ x ∈ f.2, x < a / 5 ∧ x < 1 / 5 := by
    intro f hf
    obtain ⟨h1, h2, h3, h4, h5⟩ := hframes f hf
    exact ⟨h1, (check_msg_gen _ f.1 (Demod.upper_isHex f.1 h1) h2).1 h3, h4, h5⟩
  obtain ⟨c, hc, hp⟩ := C19.clean_frames_recovered_partial nf0 a lo pre frames ha hlo hpre hprelen hframes'
  obtain ⟨h1, h2⟩ := process_buffer_of_model l _ nf0 dbg hbuf hnf hdbg hlen (frames.map (·.1)) c hc hp
  refine ⟨c, h1, ?_⟩
  rw [h2]
  simp only [selfAfter, stamped, List.map_map]
  rfl

/-- **clean_frames_recovered_multi_partial** for the generated `_process_buffer` — the sequence statement with
    PER-TRANSMISSION pulse amplitude and low samples: `tx` lists `(a, lo, m, gap)`; each amplitude in [0.3, 1.4], lows
    in `[0, a/5)`, `m` a non-empty upper-case frame accepted by the generated `_check_msg`, `gap` ≥ 114 samples of noise
    below `1/5` and below that transmission's `a/5`; lead-in ≥ 200 samples below `1/5` and below every `a/5`.
    The generated method returns exactly the frames, in order, for every previous noise floor. -/
theorem clean_frames_recovered_multi_partial_tie (l : List (Val × Val)) (dbg : Val)
    (nf0 : Rat) (pre : List Rat) (tx : List (Rat × (Nat → Rat) × Msg × List Rat))
    (hbuf : dictFind l (attrKey "signal_buffer") =
      some (encRats (pre ++ (tx.flatMap fun t => modulate t.1 t.2.1 (hex2binM t.2.2.1) ++ t.2.2.2))))
    (hnf : dictFind l (attrKey "noise_floor") = some (.num nf0))
    (hdbg : dictFind l (attrKey "debug") = some dbg)
    (hlen : (pre ++ (tx.flatMap fun t => modulate t.1 t.2.1 (hex2binM t.2.2.1) ++ t.2.2.2)).length + 1 < whileFuel)
    (hprelen : 200 ≤ pre.length)
    (hpre : ∀ x ∈ pre, x < 1 / 5 ∧ ∀ t ∈ tx, x < t.1 / 5)
    (htx : ∀ t ∈ tx, (3 / 10 ≤ t.1 ∧ t.1 ≤ 14 / 10) ∧ (∀ j, 0 ≤ t.2.1 j ∧ t.2.1 j < t.1 / 5) ∧
      (∀ c ∈ t.2.2.1, c ∈ "0123456789ABCDEF".toList) ∧ t.2.2.1 ≠ [] ∧
      Gen.rtlreader.RtlReader__check_msg (.dict l) (.str t.2.2.1) = .val (.tuple [.dict l, .bool true]) ∧
      114 ≤ t.2.2.2.length ∧ ∀ x ∈ t.2.2.2, x < t.1 / 5 ∧ x < 1 / 5) :
    ∃ c, Gen.rtlreader.RtlReader__calc_noise (.dict l) = .val (.tuple [.dict l, .num c]) ∧
      Gen.rtlreader.RtlReader__process_buffer (.dict l) =
        .val (.tuple [.dict (setPair (attrKey "signal_buffer") (.tuple [])
            (setPair (attrKey "noise_floor") (.num (min c nf0)) l)),
          .tuple (tx.map fun t => .tuple [.str t.2.2.1, .num 0])]) := by
  have htx' : ∀ t ∈ tx, (3 / 10 ≤ t.1 ∧ t.1 ≤ 14 / 10) ∧ (∀ j, 0 ≤ t.2.1 j ∧ t.2.1 j < t.1 / 5) ∧
      (∀ c ∈ t.2.2.1, c ∈ "0123456789ABCDEF".toList) ∧ checkMsg t.2.2.1 = true ∧
      114 ≤ t.2.2.2.length ∧ ∀ x ∈ t.2.2.2, x < t.1 / 5 ∧ x < 1 / 5 := by
    intro t ht
    obtain ⟨h1, h2, h3, h4, h5, h6, h7⟩ := htx t ht
    exact ⟨h1, h2, h3, (check_msg_gen _ t.2.2.1 (Demod.upper_isHex _ h3) h4).1 h5, h6, h7⟩
  obtain ⟨c, hc, hp⟩ := C19.clean_frames_recovered_multi_partial nf0 pre tx hprelen hpre htx'
  obtain ⟨h1, h2⟩ := process_buffer_of_model l _ nf0 dbg hbuf hnf hdbg hlen (tx.map (·.2.2.1)) c hc hp
  refine ⟨c, h1, ?_⟩
  rw [h2]
  simp only [selfAfter, stamped, List.map_map]
  rfl

/-- **snr_10dB_insufficient** for the generated method: the buffer `Demod.noisyBuf` meets the wording of the property
    with 10.46 dB (see `C19.snr_10dB_insufficient`), and the generated `_process_buffer` returns no message for it. -/
theorem snr_10dB_insufficient_tie (l : List (Val × Val)) (dbg : Val)
    (hbuf : dictFind l (attrKey "signal_buffer") = some (encRats Demod.noisyBuf))
    (hnf : dictFind l (attrKey "noise_floor") = some (.num 1000000))
    (hdbg : dictFind l (attrKey "debug") = some dbg) :
    Gen.rtlreader.RtlReader__process_buffer (.dict l) =
      .val (.tuple [.dict (setPair (attrKey "signal_buffer") (.tuple [])
        (setPair (attrKey "noise_floor") (.num (3 / 20)) l)), .tuple []]) := by
  have hbuf' : dictFind l (attrKey "signal_buffer") = some (encRats Demod.noisyBuf.toArray.toList) := by
    simpa using hbuf
  have hlen : Demod.noisyBuf.toArray.size + 1 < whileFuel := by
    have h112 : (hex2binM "8D406B902015A678D4D220AA4BDA".toList).length = 112 := by
      rw [hex2binM_length]; rfl
    simp only [Demod.noisyBuf, List.size_toArray, List.length_append, List.length_replicate,
      Demod.modulate_length, h112, whileFuel]
    decide
  rw [RtlReader__process_buffer_tie_model l _ 1000000 dbg hbuf' hnf hdbg hlen, C19.snr_10dB_insufficient.2.2,
    bind_val']
  simp only [takeLast, Nat.sub_zero, List.drop_length]
  rfl

end PyModeS.C19Gen
