/-
  Tie: generated `py_common.crc` (the Mode S CRC of `src/pyModeS/py_common.py`, two nested `for` loops with
  item assignments on a Python list) = hand model `PyModeS.crc` (`Model/Common.lean`), the function all C01
  theorems are about.

  Route: a small Hoare logic for `Res` (`Post`) with a loop rule for `forIn`; the Python list of
  bytes is `natList l`; one pass of the inner body on `natList mb` gives `natList (crcInner Tables.crcG mb ibyte ibit)`
  (`crc_bit_step`, used by `Tie/CCrc.lean` too); the two loops are the two `List.foldl` of `crcLoop`; the last line is
  `last3`.

  Helper lemmas live in `PyModeS.Tie.CrcTie`; the results `crc_tie`, `crc_tie_14_28`, `crc_encode` in `PyModeS.Tie`.
-/
import PyModeS.Tie.Common

namespace PyModeS.Tie.CrcTie
open PyModeS PyModeS.Py PyModeS.CRC

/-! ### a small Hoare logic for `Res` -/

/-- `r` returns a value satisfying `P` (the same predicate as `Tot` of `Tie/DecodeTotal.lean` and `Tracker.OkP` of
    `Proofs/Tracker/NoCrash.lean`) -/
def Post {α} (r : Res α) (P : α → Prop) : Prop := ∃ a, r = .val a ∧ P a

theorem Post.val {α} {P : α → Prop} {a : α} (h : P a) : Post (.val a) P := ⟨a, rfl, h⟩

theorem Post.bind {α β} {x : Res α} {k : α → Res β} {Q : α → Prop} {P : β → Prop}
    (hx : Post x Q) (hk : ∀ a, Q a → Post (k a) P) : Post (x >>= k) P := by
  obtain ⟨a, rfl, ha⟩ := hx
  rw [bind_val']
  exact hk a ha

theorem Post.eq {α} {r : Res α} {a : α} (h : Post r (fun x => x = a)) : r = .val a := by
  obtain ⟨_, rfl, rfl⟩ := h
  rfl

/-- loop rule: a `for` over the items `enc a`, `a ∈ l`, with an invariant indexed by the number of completed
    iterations -/
theorem Post.forIdx {α σ} (enc : α → Val) (f : Val → σ → Res (ForInStep σ)) (l : List α) :
    ∀ (Inv : Nat → σ → Prop) (s0 : σ), Inv 0 s0 →
    (∀ k (hk : k < l.length) s, Inv k s → Post (f (enc l[k]) s) (fun r => ∃ s', r = .yield s' ∧ Inv (k + 1) s')) →
    Post (forIn (l.map enc) s0 f) (Inv l.length) := by
  induction l with
  | nil => exact fun _ s0 h0 _ => ⟨s0, rfl, h0⟩
  | cons a l ih =>
    intro Inv s0 h0 hstep
    rw [List.map_cons, List.forIn_cons]
    refine Post.bind (hstep 0 (Nat.zero_lt_succ _) s0 h0) ?_
    rintro _ ⟨s', rfl, hs'⟩
    exact ih (fun k => Inv (k + 1)) s' hs' (fun k hk => hstep (k + 1) (Nat.succ_lt_succ hk))

/-- the same rule with the invariant a relation `R` to a model state that the body advances by `g`: the loop
    computes the fold of `g` -/
theorem Post.forIn {σ τ} (enc : Nat → Val) (R : τ → σ → Prop) (g : τ → Nat → τ)
    (f : Val → σ → Res (ForInStep σ)) (l : List Nat) (t0 : τ) (s0 : σ) (h0 : R t0 s0)
    (hstep : ∀ i ∈ l, ∀ t s, R t s → Post (f (enc i) s) (fun r => ∃ s', r = .yield s' ∧ R (g t i) s')) :
    Post (forIn (l.map enc) s0 f) (fun s => R (l.foldl g t0) s) := by
  have := Post.forIdx enc f l (fun k s => R ((l.take k).foldl g t0) s) s0 h0 (fun k hk s hs => by
    rw [List.take_add_one, List.getElem?_eq_getElem hk, List.foldl_append]
    exact hstep _ (List.getElem_mem hk) _ s hs)
  rwa [List.take_length] at this

/-! ### lists of numbers -/

/-- a Python list of non-negative integers -/
def natList (l : List Nat) : Val := .tuple (l.map Val.ofNat)

theorem pyIdx_repr (l : List Nat) (i : Nat) (h : i < l.length) :
    Py.pyIdx (natList l) (Val.ofNat i) = .val (Val.ofNat (l.getD i 0)) := by
  have hn : ¬ ((i : Int) < 0) := by omega
  simp only [Py.pyIdx, natList, int?_ofNat, idxList, hn, if_false, Int.toNat_natCast, List.getElem?_map,
    List.getElem?_eq_getElem h, Option.map_some, List.getD_eq_getElem?_getD, Option.getD_some]
  rfl

theorem pySetItem_repr (l : List Nat) (i v : Nat) (h : i < l.length) :
    pySetItem (natList l) (Val.ofNat i) (Val.ofNat v) = .val (natList (l.set i v)) := by
  have hn : ¬ ((i : Int) < 0) := by omega
  simp [pySetItem, natList, int?_ofNat, hn, h, List.map_set]

/-! ### the prefix of `crc`: generator bytes, `msg[:-6] + "000000"`, the byte list -/

theorem g0_lit : pyInt2 (Val.str ['1', '1', '1', '1', '1', '1', '1', '1']) (Val.ofNat 2) = .val (Val.ofNat 255) := by
  rfl
theorem g1_lit : pyInt2 (Val.str ['1', '1', '1', '1', '1', '0', '1', '0']) (Val.ofNat 2) = .val (Val.ofNat 250) := by
  rfl
theorem g2_lit : pyInt2 (Val.str ['0', '0', '0', '0', '0', '1', '0', '0']) (Val.ofNat 2) = .val (Val.ofNat 4) := by
  rfl
theorem g3_lit : pyInt2 (Val.str ['1', '0', '0', '0', '0', '0', '0', '0']) (Val.ofNat 2) = .val (Val.ofNat 128) := by
  rfl

theorem zeros6 : "000000".toList = ['0', '0', '0', '0', '0', '0'] := by decide

theorem bytesOfBits_cons (b : Bool) (bs : Bits) :
    bytesOfBits (b :: bs) = PyModeS.bin2int ((b :: bs).take 8) :: bytesOfBits ((b :: bs).drop 8) := by
  rw [bytesOfBits]

/-- `[bin2int(x) for x in wrap(bits, 8)]` (steps of the comprehension; `fuel` bounds the number of chunks) -/
theorem compList_bytes (fuel : Nat) : ∀ bits : Bits, bits.length ≤ fuel →
    compList (fun x__1 => do
        let r ← Gen.py_common.bin2int x__1
        pure (some r)) ((chunks 8 fuel (bits.map Bool.toDigit)).map .str) =
      .val ((bytesOfBits bits).map Val.ofNat) := by
  induction fuel with
  | zero =>
    intro bits h
    have : bits = [] := List.eq_nil_of_length_eq_zero (by omega)
    subst this
    rw [bytesOfBits]
    rfl
  | succ fuel ih =>
    intro bits h
    cases bits with
    | nil => rw [bytesOfBits]; rfl
    | cons b bs =>
      have hd : ((b :: bs).drop 8).length ≤ fuel := by
        rw [List.length_drop]; simp only [List.length_cons] at h ⊢; omega
      have ht : 0 < ((b :: bs).take 8).length := by simp
      have e : Val.str (((b :: bs).map Bool.toDigit).take 8) = Val.ofBits ((b :: bs).take 8) := by
        simp only [Val.ofBits, List.map_take]
      have := ih _ hd
      rw [List.map_drop] at this
      rw [bytesOfBits_cons]
      simp only [List.map_cons] at e this ⊢
      simp only [chunks, List.map_cons, compList, e, this]
      simp only [bin2int_ofBits, bin2intR_of_length ht, Res.bind_val, Res.pure_eq]

/-! ### numbers -/

theorem pyGt_ofNat_zero (b : Nat) : pyGt (Val.ofNat b) (Val.ofNat 0) = .val (.bool (decide (b > 0))) := pyGt_ofNat b 0

theorem pyLen_repr (l : List Nat) : pyLen (natList l) = .val (Val.ofNat l.length) := by
  simp [pyLen, natList]

theorem pyRange_ofNat (n : Nat) :
    pyRange (Val.ofNat 0) (Val.ofNat n) = .val (.tuple ((List.range n).map Val.ofNat)) := by
  simp only [pyRange, int?_ofNat]
  simp [Val.ofNat]

theorem pyIter_tuple (l : List Val) : pyIter (.tuple l) = .val l := rfl
theorem pyList_tuple (l : List Val) : pyList (.tuple l) = .val (.tuple l) := rfl

/-- `wrap(bits, 8)` then `[bin2int(x) for x in …]` -/
theorem bytes_comp (bits : Bits) :
    (pyWrap (Val.ofBits bits) (Val.num 8) >>= fun sp => pyComp sp (fun x__1 => do
        let r ← Gen.py_common.bin2int x__1
        pure (some r))) = .val (natList (bytesOfBits bits)) := by
  have h8 : (Val.num 8).int? = some (Int.ofNat (7 + 1)) := by simpa using int?_natLit 8
  simp only [pyWrap, Val.ofBits, h8, List.length_map, Res.bind_val, pyComp, pyIter, Nat.reduceAdd]
  rw [compList_bytes _ _ (Nat.le_refl _)]
  rfl

theorem idx4_0 (a b c d : Val) : pyIdxN (Val.tuple [a, b, c, d]) 0 = .val a := rfl
theorem idx4_1 (a b c d : Val) : pyIdxN (Val.tuple [a, b, c, d]) 1 = .val b := rfl
theorem idx4_2 (a b c d : Val) : pyIdxN (Val.tuple [a, b, c, d]) 2 = .val c := rfl
theorem idx4_3 (a b c d : Val) : pyIdxN (Val.tuple [a, b, c, d]) 3 = .val d := rfl
theorem lit16 : Val.num 16 = Val.ofNat 16 := num_lit 16

/-- `l[-k]` -/
theorem pyIdx_repr_neg (l : List Nat) (k : Nat) (q : Rat) (hq : q = ((-(k : Int) : Int) : Rat)) (hk : 0 < k)
    (h : k ≤ l.length) :
    Py.pyIdx (natList l) (Val.num q) = .val (Val.ofNat (l.getD (l.length - k) 0)) := by
  subst hq
  have hi : (Val.num ((-(k : Int) : Int) : Rat)).int? = some (-(k : Int)) := by
    simp only [Val.int?, Rat.den_intCast, Rat.num_intCast, if_true]
  have hn : (-(k : Int)) < 0 := by omega
  have hlt : l.length - k < l.length := by omega
  simp only [Py.pyIdx, natList, hi, idxList, hn, if_true, Int.neg_neg, Int.toNat_natCast, List.length_map, h,
    List.getElem?_map, List.getElem?_eq_getElem hlt, Option.map_some, List.getD_eq_getElem?_getD, Option.getD_some]

theorem pyList_repr (l : List Nat) : pyList (natList l) = .val (natList l) := rfl

theorem bytesOfBits_length : ∀ (k : Nat) (bits : Bits), bits.length ≤ 8 * k →
    (bytesOfBits bits).length = (bits.length + 7) / 8 := by
  intro k
  induction k with
  | zero =>
    intro bits h
    have : bits = [] := List.eq_nil_of_length_eq_zero (by omega)
    subst this
    rw [bytesOfBits]; rfl
  | succ k ih =>
    intro bits h
    cases bits with
    | nil => rw [bytesOfBits]; rfl
    | cons b bs =>
      rw [bytesOfBits_cons, List.length_cons, ih _ (by rw [List.length_drop]; omega), List.length_drop]
      simp only [List.length_cons] at h ⊢
      omega

theorem crcInner_length (g mb : List Nat) (i j : Nat) : (crcInner g mb i j).length = mb.length := by
  unfold crcInner xorAt
  dsimp only
  split
  · simp only [List.length_set]
  · rfl

theorem foldl_crcInner_length (g : List Nat) (i : Nat) (l : List Nat) (mb : List Nat) :
    (l.foldl (fun mb ibit => crcInner g mb i ibit) mb).length = mb.length := by
  induction l generalizing mb with
  | nil => rfl
  | cons a l ih => rw [List.foldl_cons, ih, crcInner_length]

theorem crcG_0 : Tables.crcG.getD 0 0 = 255 := rfl
theorem crcG_1 : Tables.crcG.getD 1 0 = 250 := rfl
theorem crcG_2 : Tables.crcG.getD 2 0 = 4 := rfl
theorem crcG_3 : Tables.crcG.getD 3 0 = 128 := rfl

/-- the `if bits > 0:` statement of the inner loop of `crc` (the same text in `py_common.py` and `c_common.pyx`),
    followed by `jp`: on the byte list `t` it leaves `crcInner Tables.crcG t ibyte ibit` -/
theorem crc_bit_step {β} (t : List Nat) (ibyte ibit : Nat) (h3 : ibyte + 3 < t.length) (hi8 : ibit ≤ 8)
    (G' y i : Val) (hG : G' = Val.tuple [Val.ofNat 255, Val.ofNat 250, Val.ofNat 4, Val.ofNat 128])
    (hy : y = Val.ofNat ibyte) (hi : i = Val.ofNat ibit) (jp : Val → Res β) :
    (do
      if pyTruth (← pyGt (Val.ofNat (t.getD ibyte 0 &&& 128 >>> ibit)) (Val.ofNat 0)) then
        let mbytes ← pySetItem (natList t) y (← pyBitXor (← Py.pyIdx (natList t) y) (← pyShr (← pyIdxN G' 0) i))
        let mbytes ← pySetItem mbytes (← pyAdd y (Val.ofNat 1))
          (← pyBitXor (← Py.pyIdx mbytes (← pyAdd y (Val.ofNat 1))) (← pyBitAnd (Val.ofNat 255)
            (← pyBitOr (← pyShl (← pyIdxN G' 0) (← pySub (Val.ofNat 8) i)) (← pyShr (← pyIdxN G' 1) i))))
        let mbytes ← pySetItem mbytes (← pyAdd y (Val.ofNat 2))
          (← pyBitXor (← Py.pyIdx mbytes (← pyAdd y (Val.ofNat 2))) (← pyBitAnd (Val.ofNat 255)
            (← pyBitOr (← pyShl (← pyIdxN G' 1) (← pySub (Val.ofNat 8) i)) (← pyShr (← pyIdxN G' 2) i))))
        let mbytes ← pySetItem mbytes (← pyAdd y (Val.ofNat 3))
          (← pyBitXor (← Py.pyIdx mbytes (← pyAdd y (Val.ofNat 3))) (← pyBitAnd (Val.ofNat 255)
            (← pyBitOr (← pyShl (← pyIdxN G' 2) (← pySub (Val.ofNat 8) i)) (← pyShr (← pyIdxN G' 3) i))))
        jp mbytes
      else jp (natList t)) = jp (natList (crcInner Tables.crcG t ibyte ibit)) := by
  subst hG hy hi
  simp only [pyShr_ofNat, pyIdx_repr, pyBitAnd_ofNat, pyGt_ofNat_zero, bind_val', pyTruth_bool, idx4_0, idx4_1, idx4_2,
    idx4_3, pyBitXor_ofNat, pySetItem_repr, pyAdd_ofNat, pySub_ofNat, pyShl_ofNat, pyBitOr_ofNat, List.length_set,
    h3, hi8, (by omega : ibyte < t.length), (by omega : ibyte + 1 < t.length), (by omega : ibyte + 2 < t.length),
    decide_eq_true_eq, crcInner, xorAt, crcG_0, crcG_1, crcG_2, crcG_3, apply_ite natList, apply_ite jp]

/-- `encode=False`: the whole computation on the hex string as it is -/
theorem crc_tie_false (m : Msg) (h : IsHex m) (hl : 6 ≤ m.length) :
    Gen.py_common.crc (.str m) (.bool false) = .val (Val.ofNat (PyModeS.crc m false)) := by
  apply Post.eq
  unfold Gen.py_common.crc
  have hne : m ≠ [] := by intro e; rw [e] at hl; simp at hl
  have hb := bytes_comp (hex2binM m)
  rw [num_lit 8] at hb
  simp only [num_lit, g0_lit, g1_lit, g2_lit, g3_lit, bind_val', pyTruth_bool, Bool.false_eq_true, if_false,
    hex2bin_str m h hne]
  rw [← bind_assoc, hb, bind_val', pyList_repr, bind_val', pyLen_repr, bind_val']
  have hlen : 3 ≤ (bytesOfBits (hex2binM m)).length := by
    rw [bytesOfBits_length m.length _ (by rw [hex2binM_length]; omega), hex2binM_length]; omega
  simp only [PyModeS.crc, Bool.false_eq_true, if_false, crcBitsPy]
  generalize bytesOfBits (hex2binM m) = mb0 at hlen ⊢
  rw [pySub_ofNat _ _ hlen, bind_val', pyRange_ofNat, bind_val', pyIter_tuple, bind_val']
  refine Post.bind (Post.forIn Val.ofNat
      (fun (t : List Nat) (s : Val × Val × Val × Val × Val) => t.length = mb0.length ∧ s.2.2.2.2 = natList t)
      (fun mb ibyte => (List.range 8).foldl (fun mb ibit => crcInner Tables.crcG mb ibyte ibit) mb)
      _ _ mb0 _ ⟨rfl, rfl⟩ ?step) ?final
  case step =>
    rintro ibyte hib mb ⟨s1, s2, s3, s4, s5⟩ ⟨hmbl, rfl⟩
    have hib' : ibyte + 3 < mb.length := by rw [List.mem_range] at hib; omega
    simp only []
    rw [pyRange_ofNat, bind_val', pyIter_tuple, bind_val']
    refine Post.bind (Post.forIn Val.ofNat
       (fun (t : List Nat) (s : Val × Val × Val × Val) => t.length = mb.length ∧ s.2.2.2 = natList t)
       (fun mb ibit => crcInner Tables.crcG mb ibyte ibit) _ _ mb _ ⟨rfl, rfl⟩ ?inner) ?_
    case inner =>
      rintro ibit hibit t ⟨s1, s2, s3, s4⟩ ⟨htl, rfl⟩
      simp only []
      have hi8 : ibit ≤ 8 := Nat.le_of_lt (List.mem_range.mp hibit)
      rw [pyShr_ofNat, bind_val']
      rw (occs := .pos [1]) [pyIdx_repr _ _ (by omega)]
      rw [bind_val', pyBitAnd_ofNat, bind_val', crc_bit_step t ibyte ibit (by omega) hi8 _ _ _ rfl rfl rfl]
      exact Post.val ⟨_, rfl, by rw [crcInner_length, htl], rfl⟩
    · rintro ⟨a1, a2, a3, a4⟩ ⟨-, rfl⟩
      refine Post.val ⟨_, rfl, ?_, rfl⟩
      rw [foldl_crcInner_length, hmbl]
  case final =>
    rintro ⟨a1, a2, a3, a4, a5⟩ ⟨hfl, rfl⟩
    simp only []
    have hloop : crcLoop Tables.crcG mb0 = (List.range (mb0.length - 3)).foldl
        (fun mb ibyte => (List.range 8).foldl (fun mb ibit => crcInner Tables.crcG mb ibyte ibit) mb) mb0 := rfl
    rw [← hloop] at hfl ⊢
    generalize crcLoop Tables.crcG mb0 = r at hfl ⊢
    rw [pyIdx_repr_neg r 3 _ (by norm_num) (by decide) (by omega), bind_val', pyShl_ofNat, bind_val',
      pyIdx_repr_neg r 2 _ (by norm_num) (by decide) (by omega), bind_val', pyShl_ofNat, bind_val',
      pyBitOr_ofNat, bind_val', pyIdx_repr_neg r 1 _ (by norm_num) (by decide) (by omega), bind_val',
      pyBitOr_ofNat]
    exact Post.val rfl

end PyModeS.Tie.CrcTie

namespace PyModeS.Tie
open PyModeS PyModeS.Py PyModeS.CRC CrcTie

/-- `encode=True` only replaces the last six digits by zeros before the same computation -/
theorem crc_encode (m : Msg) :
    Gen.py_common.crc (.str m) (.bool true) =
      Gen.py_common.crc (.str (dropLast 6 m ++ ['0', '0', '0', '0', '0', '0'])) (.bool false) := by
  unfold Gen.py_common.crc
  simp only [pyTruth_bool, if_true, Bool.false_eq_true, if_false, pySlice_dropLast6, bind_val', pyAdd_str]

theorem crc_isHex_zeroed (m : Msg) (h : IsHex m) : IsHex (dropLast 6 m ++ ['0', '0', '0', '0', '0', '0']) := by
  intro c hc
  rcases List.mem_append.mp hc with hc | hc
  · exact h c (List.mem_of_mem_take hc)
  · have : c = '0' := by simpa using hc
    subst this
    decide

/-- `py_common.crc(msg, encode)` on a hex string of at least six digits (any length: a trailing half byte is
    treated by both models as a short last chunk) -/
theorem crc_tie (m : Msg) (h : IsHex m) (hl : 6 ≤ m.length) (e : Bool) :
    Gen.py_common.crc (.str m) (.bool e) = .val (Val.ofNat (PyModeS.crc m e)) := by
  cases e with
  | false => exact crc_tie_false m h hl
  | true =>
    rw [crc_encode, crc_tie_false _ (crc_isHex_zeroed m h) (by simp [dropLast])]
    simp only [PyModeS.crc, if_true, Bool.false_eq_true, if_false, zeros6]

theorem crc_tie_14_28 (m : Msg) (h : IsHex m) (hl : m.length = 14 ∨ m.length = 28) (e : Bool) :
    Gen.py_common.crc (.str m) (.bool e) = .val (Val.ofNat (PyModeS.crc m e)) :=
  crc_tie m h (by omega) e

end PyModeS.Tie
