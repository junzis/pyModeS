/-
  Tie: generated `bds09.airborne_velocity` (Generated/Src/bds09.lean, from decoder/bds/bds09.py) against the hand model
  `airborneVelocity` (Model/Adsb.lean).  The ground-speed branch (subtypes 1-2) goes through double precision
  (`Ext.math_sqrt`, `Ext.math_atan2`, `Ext.math_degrees`), which the kernel cannot evaluate (`Float.sqrt`, `Float.atan2`
  are opaque); the hand model keeps the exact components (`Dir.track v_we v_sn`) and the exact integer square root.
  Everything that is exact is tied here:

  * `airborne_velocity_fields`: the generated function, run statement by statement on the values of the eight fields it
    reads, is `encVel` of the DO-260B function `C09.airborneSpec` of those fields;
  * `airborne_velocity_float_tie` (master): generated = model >>= `encVel`, where `encVel` re-computes the two float
    members (`gsSpeed`, `gsTrack`) from the model's exact `v_we`, `v_sn` and copies every other member — the field
    reads of a 28-digit frame put into `airborne_velocity_fields`, and `C09.airborne_velocity_spec` for the model;
  * 1. `airborne_velocity_guard_tie`, `airborne_velocity_none_tie`, `airborne_velocity_none_iff_tie`;
  * 2. `airborne_velocity_shape_exc_tie` (unconditional), `airborne_velocity_shape_tie`, `airborne_velocity_shape4_tie`
       (under `FloatFinite`: the float externals return finite numbers);
  * 3. `airborne_velocity_vr_tie`, `airborne_velocity_tag_tie`;
  * 4. `airborne_velocity_airspeed_tie`, `airborne_velocity_airspeed_spec_tie` (subtypes other than 1, 2: exact, whole tuple);
  * 5. `airborne_velocity_gs_components_tie`, `airborne_velocity_gs_spec_tie` (arguments of the float externals are the
       model's exact components), `airborne_velocity_speed_tie_partial` (speed member = model's, under `SqrtExact`).

  `source` is taken as a Python bool (`.bool src`).
-/
import PyModeS.Tie.Basic
import PyModeS.Tie.Common
import PyModeS.Tie.Adsb
import PyModeS.Generated.Src.bds09
import PyModeS.Model.Adsb
import PyModeS.Properties.C09
import PyModeS.Proofs.Commb.TellTotal

namespace PyModeS.Tie
open PyModeS PyModeS.Py PyModeS.CRC
open Adsb

namespace Bds09

/-- `spd = int(math.sqrt(v_sn * v_sn + v_we * v_we))` as the generated code computes it (double precision) -/
def gsSpeed (vwe vsn : Rat) : Res Val := do
  let s ← Gen.Ext.math_sqrt (.num (vsn * vsn + vwe * vwe))
  pyInt1 s

/-- `trk = math.degrees(math.atan2(v_we, v_sn))`, plus 360 when negative, as the generated code computes it -/
def gsTrack (vwe vsn : Rat) : Res Val := do
  let t ← Gen.Ext.math_atan2 (.num vwe) (.num vsn)
  let t ← Gen.Ext.math_degrees t
  if pyTruth (← pyGe t (.num 0)) then pure t else pyAdd t (.num 360)

/-- the tuple `airborne_velocity` returns: four members, six with `source=True` -/
def velTuple (src : Bool) (spd trk : Val) (v : Velocity) : Val :=
  .tuple ([spd, trk, Val.ofOptInt v.vs, .str v.spdType.toList] ++
    if src then [.str v.dirType.toList, .str v.vrSource.toList] else [])

/-- encoding of the hand model's result; the two floating-point members are computed from the model's exact
    components `v_we`, `v_sn` (the model's own `spd` for ground speed is the exact integer square root, not used here) -/
def encVel (src : Bool) : Option Velocity → Res Val
  | none => .val .none
  | some v =>
    match v.dir with
    | .track vwe vsn => do
        let spd ← gsSpeed vwe vsn
        let trk ← gsTrack vwe vsn
        pure (velTuple src spd trk v)
    | .heading hd => .val (velTuple src (Val.ofOptInt v.spd) (.num hd) v)
    | .none => .val (velTuple src (Val.ofOptInt v.spd) .none v)

theorem in_12 (st : Nat) :
    pyIn (Val.num (st : Rat)) (Val.tuple [Val.num 1, Val.num 2]) = .val (.bool (decide (st = 1 ∨ st = 2))) := by
  simpa only [Nat.cast_one, Nat.cast_ofNat, Val.ofNat] using pyIn_ofNat2 st 1 2

theorem eq_zero (n : Nat) : pyEq (Val.num (n : Rat)) (Val.num 0) = .val (.bool (decide (n = 0))) :=
  pyEq_ofNat_zero n

theorem pyInt1_int (i : Int) : pyInt1 (.num (i : Rat)) = .val (.num (i : Rat)) := by
  have hf : ∀ j : Int, Rat.floor (j : Rat) = j := by
    intro j
    have : Rat.floor (j : Rat) = ⌊(j : Rat)⌋ := rfl
    rw [this]; exact Int.floor_intCast j
  unfold pyInt1
  by_cases h0 : (i : Rat) < 0
  · have : (-(i : Rat)) = ((-i : Int) : Rat) := by push_cast; rfl
    simp only [h0, if_true, this, hf]
    push_cast; simp
  · simp only [h0, if_false, hf]

theorem sign_val {x : Res Val} {b : Bool} (hx : x = .val (.str [b.toDigit])) :
    (do let d ← x
        let l ← pyEq d (.str ['1'])
        if pyTruth l = true then pure (Val.num (-1)) else pure (Val.num 1)) =
      .val (.num (if b = true then -1 else 1)) := by
  rw [hx]; cases b <;> rfl

theorem src_val {x : Res Val} {b : Bool} (hx : x = .val (.str [b.toDigit])) :
    (do let d ← x
        let l ← pyEq d (.str ['0'])
        if pyTruth l = true then pure (Val.str ['G', 'N', 'S', 'S']) else pure (Val.str ['B', 'A', 'R', 'O'])) =
      .val (.str (if b = true then "BARO" else "GNSS").toList) := by
  rw [hx]; cases b <;> rfl

theorem vs_val (s : Bool) (vr : Nat) :
    (do let l ← pyEq (Val.num (vr : Rat)) (Val.num 0)
        if pyTruth l = true then pure Val.none else do
          let a ← pySub (Val.num (vr : Rat)) (Val.num 1)
          let b ← pyMul (Val.num (if s = true then -1 else 1)) a
          let c ← pyMul b (Val.num 64)
          pyInt1 c) = .val (Val.ofOptInt (C09.vertRate s vr)) := by
  rw [eq_zero, bind_val', pyTruth_bool']
  unfold C09.vertRate
  by_cases hv : vr = 0
  · rw [if_pos (decide_eq_true hv), if_pos hv]; rfl
  · rw [if_neg (by simpa using hv), if_neg hv, pySub_num, bind_val', pyMul_num, bind_val', pyMul_num, bind_val']
    have : (if s = true then (-1 : Rat) else 1) * ((vr : Rat) - 1) * 64 =
        (((if s = true then -1 else 1) * ((vr : Int) - 1) * 64 : Int) : Rat) := by
      cases s <;> simp
    rw [this, pyInt1_int]; rfl

/-- `if subtype == k: v *= 4` -/
theorem scale_if {β} (p : Prop) [Decidable p] (x : Rat) (K : Val → Res β) :
    (if pyTruth (.bool (decide p)) = true then pyMul (.num x) (.num 4) >>= fun v => K v else K (.num x)) =
      K (.num (x * ((if p then 4 else 1 : Int) : Rat))) := by
  by_cases hp : p <;> simp [hp]

theorem signedComp_cast (s : Bool) (v : Nat) (mult : Int) :
    ((C09.signedComp s v mult : Int) : Rat) = (if s = true then -1 else 1) * (((v : Rat) - 1) * (mult : Rat)) := by
  cases s <;> simp [C09.signedComp]

theorem encVel_track (src : Bool) (v : Velocity) (a b : Int) (hd : v.dir = .track a b) :
    encVel src (some v) = (do
      let spd ← gsSpeed a b
      let trk ← gsTrack a b
      pure (velTuple src spd trk v)) := by
  simp only [encVel, hd]

/-- `hdg = None if status == "0" else <computed>` -/
theorem opt_if {β} (b : Bool) (v : Val) (K : Val → Res β) {x : Res β} (hx : x = K v) :
    (if pyTruth (.bool (!b)) = true then K .none else x) = K (if b = true then v else .none) := by
  rw [hx]; cases b <;> rfl

theorem flag_if {β} (b : Bool) (a c : Val) (K : Val → Res β) :
    (if pyTruth (.bool (!b)) = true then K a else K c) = K (if b = true then c else a) := by
  cases b <;> rfl

/-- `spd = None if N == 0 else N - 1`, times 4 for subtype 4 -/
theorem airspeed_val {β} (st f2 : Nat) (K : Val → Res β) :
    (do let spd ← (do let l ← pyEq (Val.num (f2 : Rat)) (Val.num 0)
                      if pyTruth l = true then pure Val.none else pySub (Val.num (f2 : Rat)) (Val.num 1))
        let l ← (do let b ← pyEq (Val.num (st : Rat)) (Val.num 4)
                    if pyTruth b = true then pyIsNot spd Val.none else pure b)
        if pyTruth l = true then pyMul spd (Val.num 4) >>= fun v => K v else K spd) =
      K (Val.ofOptInt (if f2 = 0 then none else some (((f2 : Int) - 1) * (if st = 4 then 4 else 1)))) := by
  rw [eq_zero, bind_val', eq_lit]
  by_cases h0 : f2 = 0
  · by_cases h4 : st = 4 <;> simp [h0, h4, Res.pure_eq, Val.ofOptInt]
  · by_cases h4 : st = 4 <;> simp [h0, h4, Res.pure_eq, Val.ofOptInt, pyIsNot, Val.beq]


end Bds09
open Bds09

/-- The generated function as a function of the fields it reads (`mb` = the bits after the first 32; subtype, the two
    sign / magnitude pairs, vertical-rate source, sign and magnitude): the DO-260B function `C09.airborneSpec` of those
    fields, encoded by `encVel`.  The proof runs the `do` block statement by statement; `T` is its common tail
    (vertical rate and the returned tuple), reached from the ground-speed and from the airspeed branch. -/
theorem airborne_velocity_fields (msg : Val) (bits mb : Bits) (st f1 f2 vr : Nat) (b13 b24 b35 b36 src : Bool)
    (htc : Gen.py_common.typecode msg = .val (.num 19))
    (hbin : Gen.py_common.hex2bin msg = .val (Val.ofBits bits)) (hmb : bits.drop 32 = mb)
    (R1 : Gen.py_common.bin2int (Val.ofBits (slice 5 8 mb)) = .val (.num st))
    (R2 : Gen.py_common.bin2int (Val.ofBits (slice 14 24 mb)) = .val (.num f1))
    (R3 : Gen.py_common.bin2int (Val.ofBits (slice 25 35 mb)) = .val (.num f2))
    (R4 : Gen.py_common.bin2int (Val.ofBits (slice 37 46 mb)) = .val (.num vr))
    (I1 : pyIdxN (Val.ofBits mb) 13 = .val (.str [b13.toDigit]))
    (I2 : pyIdxN (Val.ofBits mb) 24 = .val (.str [b24.toDigit]))
    (I3 : pyIdxN (Val.ofBits mb) 35 = .val (.str [b35.toDigit]))
    (I4 : pyIdxN (Val.ofBits mb) 36 = .val (.str [b36.toDigit])) :
    Gen.bds09.airborne_velocity msg (.bool src) = encVel src (C09.airborneSpec st b13 f1 b24 f2 b35 b36 vr) := by
  unfold Gen.bds09.airborne_velocity
  refine bind_eq htc ?_
  refine bind_eq (pyNe_num _ _) ?_
  refine else_ret (by decide) ?_
  refine bind_eq hbin ?_
  refine bind_eq ((pySliceFrom_ofBits _ _).trans (by rw [hmb])) ?_
  refine bind_eq (pySliceNN_ofBits _ _ _) ?_
  refine bind_eq R1 ?_
  have E1 : (do let s ← pySliceNN (Val.ofBits mb) 14 24
                let i ← Gen.py_common.bin2int s
                pyEq i (Val.num 0)) = .val (.bool (decide (f1 = 0))) := by
    rw [pySliceNN_ofBits, bind_val', R2, bind_val', eq_zero]
  have E2 : (do let s ← pySliceNN (Val.ofBits mb) 25 35
                let i ← Gen.py_common.bin2int s
                pyEq i (Val.num 0)) = .val (.bool (decide (f2 = 0))) := by
    rw [pySliceNN_ofBits, bind_val', R3, bind_val', eq_zero]
  refine bind_eq (and_val (in_12 st) (or_val E1 E2)) ?_
  by_cases hE : (st = 1 ∨ st = 2) ∧ (f1 = 0 ∨ f2 = 0)
  · have hS : C09.airborneSpec st b13 f1 b24 f2 b35 b36 vr = none := by
      unfold C09.airborneSpec
      simp only [if_pos hE.1, if_pos hE.2]
    rw [hS]
    exact if_pos (by simpa using hE)
  refine else_ret (by simpa using hE) ?_
  refine bind_eq (in_12 st) ?_
  extract_lets -underBinder +onlyGivenNames T
  have hT : ∀ r a b spd trk c d e f g i ty dty hdg, T r a b spd trk c d e f g i ty dty hdg =
      .val (.tuple ([spd, trk, Val.ofOptInt (C09.vertRate b36 vr), ty] ++
        if src = true then [dty, .str (if b35 = true then "BARO" else "GNSS").toList] else [])) := by
    intros
    unfold T
    refine bind_eq (src_val I3) ?_
    refine bind_eq (sign_val I4) ?_
    refine bind_eq (pySliceNN_ofBits _ _ _) ?_
    refine bind_eq R4 ?_
    refine bind_eq (vs_val b36 vr) ?_
    cases src <;> rfl
  clear_value T
  by_cases h12 : st = 1 ∨ st = 2
  · have h1 : f1 ≠ 0 := fun e => hE ⟨h12, Or.inl e⟩
    have h2 : f2 ≠ 0 := fun e => hE ⟨h12, Or.inr e⟩
    refine then_ret (decide_eq_true h12) ?_
    refine bind_eq (pySliceNN_ofBits _ _ _) ?_
    refine bind_eq R2 ?_
    refine bind_eq (pySliceNN_ofBits _ _ _) ?_
    refine bind_eq R3 ?_
    refine bind_eq (or_val (eq_zero f1) (eq_zero f2)) ?_
    refine else_ret (by simp [h1, h2]) ?_
    refine bind_eq (sign_val I1) ?_
    refine bind_eq (pySub_num _ _) ?_
    refine bind_eq (eq_lit st 2) ?_
    refine (scale_if _ _ _).trans ?_
    refine bind_eq (sign_val I2) ?_
    refine bind_eq (pySub_num _ _) ?_
    refine bind_eq (eq_lit st 2) ?_
    refine (scale_if _ _ _).trans ?_
    refine bind_eq (pyMul_num _ _) ?_
    refine bind_eq (pyMul_num _ _) ?_
    refine bind_eq (pyMul_num _ _) ?_
    refine bind_eq (pyMul_num _ _) ?_
    refine bind_eq (pyAdd_num _ _) ?_
    obtain ⟨spd0, hS⟩ : ∃ spd0, C09.airborneSpec st b13 f1 b24 f2 b35 b36 vr = some ⟨spd0,
        Dir.track (C09.signedComp b13 f1 (if st = 2 then 4 else 1)) (C09.signedComp b24 f2 (if st = 2 then 4 else 1)),
        C09.vertRate b36 vr, "GS", "TRUE_NORTH", if b35 = true then "BARO" else "GNSS"⟩ := by
      apply Exists.intro
      unfold C09.airborneSpec
      rw [if_pos h12, if_neg (fun e => hE ⟨h12, e⟩)]
    rw [hS, encVel_track _ _ _ _ rfl]
    simp only [gsSpeed, gsTrack, signedComp_cast, bind_assoc, hT, Res.pure_eq, velTuple]
    rfl
  · refine else_ret (fun hc => h12 (of_decide_eq_true hc)) ?_
    refine bind_eq I1 ?_
    refine bind_eq (pyEq_digit_zero _) ?_
    extract_lets -underBinder +onlyGivenNames H
    refine (opt_if b13 (.num ((f1 : Rat) / 1024 * 360)) (H ()) ?_).trans ?_
    · exact bind_eq (pySliceNN_ofBits _ _ _) (bind_eq R2 (bind_eq (pyDiv_lit _ _) (bind_eq (pyMul_num _ _) rfl)))
    unfold H
    refine bind_eq (pySliceNN_ofBits _ _ _) ?_
    refine bind_eq R3 ?_
    refine (airspeed_val st f2 _).trans ?_
    refine bind_eq I2 ?_
    refine bind_eq (pyEq_digit_zero _) ?_
    extract_lets -underBinder +onlyGivenNames Y
    refine (flag_if b24 _ _ (Y ())).trans ?_
    unfold Y
    refine (hT ..).trans ?_
    unfold C09.airborneSpec
    rw [if_neg h12]
    cases b13 <;> cases b24 <;> simp only [encVel, velTuple, Bool.false_eq_true, ↓reduceIte] <;> rfl

theorem airborne_velocity_float_tie (m : Msg) (h : IsHex m) (hl : m.length = 28) (src : Bool) :
    Gen.bds09.airborne_velocity (.str m) (.bool src) = (airborneVelocity (hex2binM m) >>= encVel src) := by
  have hne : m ≠ [] := by intro e; rw [e] at hl; simp at hl
  have hb : (hex2binM m).length = 112 := by rw [hex2binM_length, hl]
  have htc : Gen.py_common.typecode (.str m) = .val (Val.ofOptNat (tcB (hex2binM m))) := by
    rw [typecode_str m h (by omega), typecode_eq]
  by_cases e : tcB (hex2binM m) = some 19
  swap
  · rw [C09.airborne_velocity_guard _ e]
    unfold Gen.bds09.airborne_velocity
    refine bind_eq htc ?_
    refine bind_eq (pyNe_lit _ _) ?_
    exact if_pos (decide_eq_true e)
  rw [C09.airborne_velocity_spec _ hb e, bind_val']
  rw [e] at htc
  have R : ∀ a b, a < b → 32 + b ≤ 112 → Gen.py_common.bin2int (Val.ofBits (slice a b ((hex2binM m).drop 32))) =
      .val (.num (bin2int (slice (32 + a) (32 + b) (hex2binM m)) : Nat)) := fun a b hab hb' => by
    rw [bin2int_ofBits, Fields.bin2intR_slice_drop hb 32 a b hab hb']; rfl
  have I : ∀ k (hk : 32 + k < (hex2binM m).length),
      pyIdxN (Val.ofBits ((hex2binM m).drop 32)) k = .val (.str [((hex2binM m)[32 + k]).toDigit]) := fun k hk => by
    rw [pyIdxN_ofBits, Fields.idxR_drop 32 k hk]; rfl
  exact airborne_velocity_fields _ _ _ _ _ _ _ _ _ _ _ _ htc (hex2bin_str m h hne) rfl (R 5 8 (by omega) (by omega))
    (R 14 24 (by omega) (by omega)) (R 25 35 (by omega) (by omega)) (R 37 46 (by omega) (by omega))
    (I 13 (by omega)) (I 24 (by omega)) (I 35 (by omega)) (I 36 (by omega))

/-! ### what the floating-point members can be -/

namespace Bds09

theorem float1_num (f : Float → Float) (q : Rat) :
    Gen.Ext.float1 f (.num q) = .exc ∨ ∃ r : Rat, Gen.Ext.float1 f (.num q) = .val (.num r) := by
  unfold Gen.Ext.float1
  simp only [num?_num]
  split
  · exact Or.inl rfl
  · exact Or.inr ⟨_, rfl⟩

/-- the exact double-precision expression behind the speed: `int(sqrt(v_sn² + v_we²))` with the argument converted
    exactly (`ratToFloat`), the result read back exactly (`floatToRat`) and truncated -/
theorem gsSpeed_eq (a b : Rat) :
    gsSpeed a b =
      (let r := Float.sqrt (ratToFloat (b * b + a * a))
       if r.isNaN || r.isInf then .exc else pyInt1 (.num (floatToRat r))) := by
  have hq : ¬ (b * b + a * a < 0) := not_lt.mpr (add_nonneg (mul_self_nonneg b) (mul_self_nonneg a))
  unfold gsSpeed Gen.Ext.math_sqrt Gen.Ext.float1
  simp only [num?_num, hq, if_false]
  split <;> rfl

/-- the speed is an exception (a NaN or an infinity out of `sqrt`) or an integer -/
theorem gsSpeed_cases (a b : Rat) : gsSpeed a b = .exc ∨ ∃ n : Int, gsSpeed a b = .val (.num (n : Rat)) := by
  rw [gsSpeed_eq]
  dsimp only
  split
  · exact Or.inl rfl
  · exact Or.inr ⟨_, rfl⟩

/-- the track is an exception (a NaN or an infinity out of `degrees`) or a number -/
theorem gsTrack_cases (a b : Rat) : gsTrack a b = .exc ∨ ∃ r : Rat, gsTrack a b = .val (.num r) := by
  unfold gsTrack Gen.Ext.math_atan2 Gen.Ext.math_degrees
  simp only [num?_num, bind_val']
  rcases float1_num (fun r => r * (180.0 / Float.acos (-1.0)))
    (floatToRat (Float.atan2 (ratToFloat a) (ratToFloat b))) with hx | ⟨r, hr⟩
  · rw [hx]; exact Or.inl rfl
  · rw [hr, bind_val', pyGe_num, bind_val', pyTruth_bool']
    by_cases h0 : (0 : Rat) ≤ r
    · rw [decide_eq_true h0, if_pos rfl]; exact Or.inr ⟨_, rfl⟩
    · rw [decide_eq_false h0, if_neg Bool.false_ne_true, pyAdd_num]; exact Or.inr ⟨_, rfl⟩

/-- the hypothesis under which no floating-point step of `airborne_velocity` raises: `math.sqrt` of a non-negative
    number and `math.degrees(math.atan2(·, ·))` are finite (true of IEEE doubles; `Float.sqrt`, `Float.atan2` are
    opaque to the kernel, so it is a hypothesis here) -/
def FloatFinite : Prop :=
  (∀ q : Rat, 0 ≤ q → Gen.Ext.math_sqrt (.num q) ≠ .exc) ∧
  (∀ a b : Rat, (Gen.Ext.math_atan2 (.num a) (.num b) >>= Gen.Ext.math_degrees) ≠ .exc)

theorem gsSpeed_ne_exc_of {a b : Rat} (h1 : Gen.Ext.math_sqrt (.num (b * b + a * a)) ≠ .exc) : gsSpeed a b ≠ .exc := by
  unfold gsSpeed
  unfold Gen.Ext.math_sqrt at h1 ⊢
  simp only [num?_num] at h1 ⊢
  split
  · rename_i hlt; rw [if_pos hlt] at h1; exact absurd rfl h1
  · rename_i hlt
    rw [if_neg hlt] at h1
    rcases float1_num Float.sqrt (b * b + a * a) with hx | ⟨r, hr⟩
    · exact absurd hx h1
    · rw [hr, bind_val']; intro hc; cases hc

theorem gsTrack_ne_exc_of {a b : Rat}
    (h2 : (Gen.Ext.math_atan2 (.num a) (.num b) >>= Gen.Ext.math_degrees) ≠ .exc) : gsTrack a b ≠ .exc := by
  unfold gsTrack
  have ha : Gen.Ext.math_atan2 (.num a) (.num b) =
      .val (.num (floatToRat (Float.atan2 (ratToFloat a) (ratToFloat b)))) := rfl
  rw [ha, bind_val'] at h2 ⊢
  generalize floatToRat (Float.atan2 (ratToFloat a) (ratToFloat b)) = x at h2 ⊢
  unfold Gen.Ext.math_degrees at h2 ⊢
  rcases float1_num (fun r => r * (180.0 / Float.acos (-1.0))) x with hx | ⟨r, hr⟩
  · exact absurd hx h2
  · rw [hr, bind_val', pyGe_num, bind_val', pyTruth_bool']
    split <;> intro hc <;> cases hc

theorem gsSpeed_ne_exc (hf : FloatFinite) (a b : Rat) : gsSpeed a b ≠ .exc :=
  gsSpeed_ne_exc_of (hf.1 (b * b + a * a) (add_nonneg (mul_self_nonneg b) (mul_self_nonneg a)))

theorem gsTrack_ne_exc (hf : FloatFinite) (a b : Rat) : gsTrack a b ≠ .exc := gsTrack_ne_exc_of (hf.2 a b)

theorem velTuple_ne_none (src : Bool) (spd trk : Val) (v : Velocity) : velTuple src spd trk v ≠ .none := by
  intro hc; cases hc

/-- shape of the encoder: `None`, a tuple built on the model's velocity, or an exception out of the two float steps -/
theorem encVel_some (src : Bool) (v : Velocity) :
    (∃ spd trk, encVel src (some v) = .val (velTuple src spd trk v)) ∨
    (encVel src (some v) = .exc ∧ ∃ vwe vsn : Int, v.dir = .track vwe vsn ∧
      (gsSpeed vwe vsn = .exc ∨ gsTrack vwe vsn = .exc)) := by
  rcases hdir : v.dir with ⟨vwe, vsn⟩ | hd | _
  · have he : encVel src (some v) = (do
        let spd ← gsSpeed vwe vsn
        let trk ← gsTrack vwe vsn
        pure (velTuple src spd trk v)) := by
      simp only [encVel, hdir]
    rw [he]
    rcases gsSpeed_cases vwe vsn with hs | ⟨n, hs⟩
    · right; rw [hs]; exact ⟨rfl, vwe, vsn, rfl, Or.inl hs⟩
    · rcases gsTrack_cases vwe vsn with ht | ⟨r, ht⟩
      · right; rw [hs, ht]; exact ⟨rfl, vwe, vsn, rfl, Or.inr ht⟩
      · left; rw [hs, ht]; exact ⟨_, _, rfl⟩
  · left; exact ⟨Val.ofOptInt v.spd, .num hd, by simp only [encVel, hdir]⟩
  · left; exact ⟨Val.ofOptInt v.spd, .none, by simp only [encVel, hdir]⟩

theorem encVel_ne_rte (src : Bool) (o : Option Velocity) : encVel src o ≠ .rte := by
  rcases o with _ | v
  · intro hc; cases hc
  · rcases encVel_some src v with ⟨spd, trk, hv⟩ | ⟨he, _⟩
    · rw [hv]; intro hc; cases hc
    · rw [he]; intro hc; cases hc

theorem encVel_none_iff (src : Bool) (o : Option Velocity) : encVel src o = .val .none ↔ o = none := by
  constructor
  · intro hv
    rcases o with _ | v
    · rfl
    · rcases encVel_some src v with ⟨spd, trk, hv'⟩ | ⟨he, _⟩
      · rw [hv'] at hv; injection hv with hv; exact absurd hv (velTuple_ne_none _ _ _ _)
      · rw [he] at hv; cases hv
  · rintro rfl; rfl

/-- the model on a 112-bit frame: RuntimeError or a value, by type code -/
theorem model_cases (m : Msg) (hl : m.length = 28) :
    (tcB (hex2binM m) ≠ some 19 ∧ airborneVelocity (hex2binM m) = .rte) ∨
    (tcB (hex2binM m) = some 19 ∧ ∃ o, airborneVelocity (hex2binM m) = .val o ∧
      ∀ v, o = some v → Tot.okType v.spdType) := by
  by_cases htc : tcB (hex2binM m) = some 19
  · right
    obtain ⟨r, hr, hgood⟩ := Tot.airborneVelocity_spdType (hex2binM m) (frame_bits m hl) htc
    exact ⟨htc, r, hr, hgood⟩
  · left; exact ⟨htc, C09.airborne_velocity_guard _ htc⟩

theorem signedComp_bound (s : Bool) (n : Nat) (st : Nat) (hn : n < 1024) :
    -4088 ≤ C09.signedComp s n (if st = 2 then 4 else 1) ∧ C09.signedComp s n (if st = 2 then 4 else 1) ≤ 4088 := by
  unfold C09.signedComp
  cases s <;> by_cases h2 : st = 2 <;> simp only [h2, if_true, if_false, Bool.false_eq_true] <;> omega

/-- a ground track of the model comes from a ground-speed subtype with both velocity fields non-zero, has components
    within ±4088 kt, and the model's speed is their exact integer norm -/
theorem track_bounds (m : Msg) (hl : m.length = 28) (v : Velocity) (vwe vsn : Int)
    (hm : airborneVelocity (hex2binM m) = .val (some v)) (hdir : v.dir = .track vwe vsn) :
    ((bin2int (slice 37 40 (hex2binM m)) = 1 ∨ bin2int (slice 37 40 (hex2binM m)) = 2) ∧
      bin2int (slice 46 56 (hex2binM m)) ≠ 0 ∧ bin2int (slice 57 67 (hex2binM m)) ≠ 0) ∧
    (-4088 ≤ vwe ∧ vwe ≤ 4088) ∧ (-4088 ≤ vsn ∧ vsn ≤ 4088) ∧
      v.spd = some ((Nat.sqrt (vsn * vsn + vwe * vwe).toNat : Nat) : Int) ∧
      v.spdType = "GS" ∧ v.dirType = "TRUE_NORTH" := by
  have hb := frame_bits m hl
  by_cases htc : tcB (hex2binM m) = some 19
  swap
  · rw [C09.airborne_velocity_guard _ htc] at hm; cases hm
  rw [C09.airborne_velocity_spec _ hb htc] at hm
  injection hm with hm
  unfold C09.airborneSpec at hm
  simp only [] at hm
  split at hm
  · rename_i h12
    split at hm
    · cases hm
    · rename_i h0
      injection hm with hm
      rw [← hm] at hdir ⊢
      simp only [] at hdir ⊢
      injection hdir with e1 e2
      rw [← e1, ← e2, Int.add_comm]
      exact ⟨⟨h12, fun e => h0 (Or.inl e), fun e => h0 (Or.inr e)⟩,
        signedComp_bound _ _ _ (bin2int_slice_lt _ 46 56),
        signedComp_bound _ _ _ (bin2int_slice_lt _ 57 67), rfl, trivial, trivial⟩
  · injection hm with hm
    rw [← hm] at hdir
    simp only [] at hdir
    split at hdir <;> cases hdir

end Bds09

/-! ### 1. the guard and the `None` result -/

/-- RuntimeError exactly when the type code is not 19, which is exactly when the hand model raises it -/
theorem airborne_velocity_guard_tie (m : Msg) (h : IsHex m) (hl : m.length = 28) (src : Bool) :
    (Gen.bds09.airborne_velocity (.str m) (.bool src) = .rte ↔ tcB (hex2binM m) ≠ some 19) ∧
    (Gen.bds09.airborne_velocity (.str m) (.bool src) = .rte ↔ airborneVelocity (hex2binM m) = .rte) := by
  rw [airborne_velocity_float_tie m h hl src]
  rcases model_cases m hl with ⟨htc, hm⟩ | ⟨htc, o, hm, _⟩
  · rw [hm]; exact ⟨⟨fun _ => htc, fun _ => rfl⟩, ⟨fun _ => rfl, fun _ => rfl⟩⟩
  · rw [hm, bind_val']
    refine ⟨⟨fun hc => absurd hc (encVel_ne_rte src o), fun hc => absurd htc hc⟩,
      ⟨fun hc => absurd hc (encVel_ne_rte src o), fun hc => by cases hc⟩⟩

/-- the generated function returns `None` exactly when the hand model does -/
theorem airborne_velocity_none_tie (m : Msg) (h : IsHex m) (hl : m.length = 28) (src : Bool) :
    Gen.bds09.airborne_velocity (.str m) (.bool src) = .val .none ↔ airborneVelocity (hex2binM m) = .val none := by
  rw [airborne_velocity_float_tie m h hl src]
  rcases model_cases m hl with ⟨htc, hm⟩ | ⟨htc, o, hm, _⟩
  · rw [hm]; exact ⟨fun hc => (nomatch hc), fun hc => (nomatch hc)⟩
  · rw [hm, bind_val', encVel_none_iff]
    exact ⟨fun ho => by rw [ho], fun ho => by injection ho⟩

/-- ... and that is exactly: type code 19, subtype 1 or 2 (ME bits 6-8), and one of the two 10-bit velocity fields
    (ME bits 15-24, 26-35) zero -/
theorem airborne_velocity_none_iff_tie (m : Msg) (h : IsHex m) (hl : m.length = 28) (src : Bool) :
    Gen.bds09.airborne_velocity (.str m) (.bool src) = .val .none ↔
      (tcB (hex2binM m) = some 19 ∧
        (bin2int (slice 37 40 (hex2binM m)) = 1 ∨ bin2int (slice 37 40 (hex2binM m)) = 2) ∧
        (bin2int (slice 46 56 (hex2binM m)) = 0 ∨ bin2int (slice 57 67 (hex2binM m)) = 0)) := by
  rw [airborne_velocity_none_tie m h hl src]
  have hb := frame_bits m hl
  by_cases htc : tcB (hex2binM m) = some 19
  · rw [C09.airborne_velocity_spec _ hb htc]
    unfold C09.airborneSpec
    simp only [htc, true_and]
    constructor
    · intro hv
      injection hv with hv
      by_cases h12 : bin2int (slice 37 40 (hex2binM m)) = 1 ∨ bin2int (slice 37 40 (hex2binM m)) = 2
      · refine ⟨h12, ?_⟩
        by_contra h0
        simp only [h12, if_true, h0, if_false] at hv
        cases hv
      · simp only [h12, if_false] at hv
        cases hv
    · rintro ⟨h12, h0⟩
      simp only [h12, if_true, h0]
  · rw [C09.airborne_velocity_guard _ htc]
    exact ⟨fun hc => (nomatch hc), fun hc => absurd hc.1 htc⟩

/-! ### 2. shape of the result -/

/-- On a TC 19 frame the result is `None`, or a tuple `(spd, trk, vr, tag[, dir_type, vr_source])` whose third to sixth
    members are the model's and whose tag is "GS", "TAS" or "IAS" — or an exception, and then only because
    `math.sqrt` / `math.degrees(math.atan2(..))` gave a NaN or an infinity on the model's exact components.
    Unconditional. -/
theorem airborne_velocity_shape_exc_tie (m : Msg) (h : IsHex m) (hl : m.length = 28) (src : Bool)
    (htc : tcB (hex2binM m) = some 19) :
    Gen.bds09.airborne_velocity (.str m) (.bool src) = .val .none ∨
    (∃ v spd trk, airborneVelocity (hex2binM m) = .val (some v) ∧
      Gen.bds09.airborne_velocity (.str m) (.bool src) = .val (velTuple src spd trk v) ∧
      (v.spdType = "GS" ∨ v.spdType = "TAS" ∨ v.spdType = "IAS")) ∨
    (Gen.bds09.airborne_velocity (.str m) (.bool src) = .exc ∧
      ∃ v, ∃ vwe vsn : Int, airborneVelocity (hex2binM m) = .val (some v) ∧ v.dir = .track vwe vsn ∧
        (gsSpeed vwe vsn = .exc ∨ gsTrack vwe vsn = .exc)) := by
  rw [airborne_velocity_float_tie m h hl src]
  rcases model_cases m hl with ⟨hn, _⟩ | ⟨_, o, hm, hgood⟩
  · exact absurd htc hn
  · rw [hm, bind_val']
    rcases o with _ | v
    · left; rfl
    · rcases encVel_some src v with ⟨spd, trk, hv⟩ | ⟨he, vwe, vsn, hdir, hx⟩
      · right; left; exact ⟨v, spd, trk, rfl, hv, hgood v rfl⟩
      · right; right; exact ⟨he, v, vwe, vsn, rfl, hdir, hx⟩

/-- Under `FloatFinite` (the two float externals never give NaN / infinity: `math.sqrt` on non-negative numbers,
    `math.degrees ∘ math.atan2` everywhere) the result on a TC 19 frame is `None` or the tuple — never an exception. -/
theorem airborne_velocity_shape_tie (hf : FloatFinite) (m : Msg) (h : IsHex m) (hl : m.length = 28) (src : Bool)
    (htc : tcB (hex2binM m) = some 19) :
    Gen.bds09.airborne_velocity (.str m) (.bool src) = .val .none ∨
    (∃ v spd trk, airborneVelocity (hex2binM m) = .val (some v) ∧
      Gen.bds09.airborne_velocity (.str m) (.bool src) = .val (velTuple src spd trk v) ∧
      (v.spdType = "GS" ∨ v.spdType = "TAS" ∨ v.spdType = "IAS")) := by
  rcases airborne_velocity_shape_exc_tie m h hl src htc with h0 | h1 | ⟨_, v, vwe, vsn, _, _, hx⟩
  · exact Or.inl h0
  · exact Or.inr h1
  · rcases hx with hx | hx
    · exact absurd hx (gsSpeed_ne_exc hf _ _)
    · exact absurd hx (gsTrack_ne_exc hf _ _)

/-- the unconditional statement with `source=False`, in the literal four-tuple form -/
theorem airborne_velocity_shape4_exc (m : Msg) (h : IsHex m) (hl : m.length = 28)
    (htc : tcB (hex2binM m) = some 19) :
    Gen.bds09.airborne_velocity (.str m) (.bool false) = .val .none ∨
    (∃ spd trk vr tag, Gen.bds09.airborne_velocity (.str m) (.bool false) = .val (.tuple [spd, trk, vr, .str tag]) ∧
      (tag = ['G', 'S'] ∨ tag = ['T', 'A', 'S'] ∨ tag = ['I', 'A', 'S'])) ∨
    ∃ v, ∃ vwe vsn : Int, airborneVelocity (hex2binM m) = .val (some v) ∧ v.dir = .track vwe vsn ∧
      (gsSpeed vwe vsn = .exc ∨ gsTrack vwe vsn = .exc) := by
  rcases airborne_velocity_shape_exc_tie m h hl false htc with h0 | ⟨v, spd, trk, _, hv, hty⟩ | ⟨_, hx⟩
  · exact Or.inl h0
  · refine Or.inr (Or.inl ⟨spd, trk, Val.ofOptInt v.vs, v.spdType.toList, hv, ?_⟩)
    rcases hty with e | e | e <;> rw [e]
    · exact Or.inl rfl
    · exact Or.inr (Or.inl rfl)
    · exact Or.inr (Or.inr rfl)
  · exact Or.inr (Or.inr hx)

/-- under `FloatFinite` the third case does not occur -/
theorem airborne_velocity_shape4_tie (hf : FloatFinite) (m : Msg) (h : IsHex m) (hl : m.length = 28)
    (htc : tcB (hex2binM m) = some 19) :
    Gen.bds09.airborne_velocity (.str m) (.bool false) = .val .none ∨
    ∃ spd trk vr tag, Gen.bds09.airborne_velocity (.str m) (.bool false) = .val (.tuple [spd, trk, vr, .str tag]) ∧
      (tag = ['G', 'S'] ∨ tag = ['T', 'A', 'S'] ∨ tag = ['I', 'A', 'S']) := by
  rcases airborne_velocity_shape4_exc m h hl htc with h0 | h1 | ⟨v, vwe, vsn, _, _, hx⟩
  · exact Or.inl h0
  · exact Or.inr h1
  · rcases hx with hx | hx
    · exact absurd hx (gsSpeed_ne_exc hf _ _)
    · exact absurd hx (gsTrack_ne_exc hf _ _)

/-! ### 3. vertical rate and the text tags -/

/-- every non-`None` value of the generated function carries the model's vertical rate as its third member -/
theorem airborne_velocity_vr_tie (m : Msg) (h : IsHex m) (hl : m.length = 28) (src : Bool) (t : Val)
    (hg : Gen.bds09.airborne_velocity (.str m) (.bool src) = .val t) (ht : t ≠ .none) :
    ∃ v, airborneVelocity (hex2binM m) = .val (some v) ∧ pyIdxN t 2 = .val (Val.ofOptInt v.vs) := by
  rw [airborne_velocity_float_tie m h hl src] at hg
  rcases model_cases m hl with ⟨_, hm⟩ | ⟨_, o, hm, _⟩
  · rw [hm] at hg; cases hg
  · rw [hm, bind_val'] at hg
    rcases o with _ | v
    · injection hg with hg; exact absurd hg.symm ht
    · rcases encVel_some src v with ⟨spd, trk, hv⟩ | ⟨he, _⟩
      · rw [hv] at hg; injection hg with hg
        refine ⟨v, hm, ?_⟩
        rw [← hg]
        cases src <;> rfl
      · rw [he] at hg; cases hg

/-- ... and the model's speed-type tag as its fourth; with `source=True` also the direction type and the
    vertical-rate source as fifth and sixth -/
theorem airborne_velocity_tag_tie (m : Msg) (h : IsHex m) (hl : m.length = 28) (src : Bool) (t : Val)
    (hg : Gen.bds09.airborne_velocity (.str m) (.bool src) = .val t) (ht : t ≠ .none) :
    ∃ v, airborneVelocity (hex2binM m) = .val (some v) ∧ pyIdxN t 3 = .val (.str v.spdType.toList) ∧
      (v.spdType = "GS" ∨ v.spdType = "TAS" ∨ v.spdType = "IAS") ∧
      (src = true → pyIdxN t 4 = .val (.str v.dirType.toList) ∧ pyIdxN t 5 = .val (.str v.vrSource.toList)) ∧
      (src = false → pyLen t = .val (.num 4)) := by
  rw [airborne_velocity_float_tie m h hl src] at hg
  rcases model_cases m hl with ⟨_, hm⟩ | ⟨_, o, hm, hgood⟩
  · rw [hm] at hg; cases hg
  · rw [hm, bind_val'] at hg
    rcases o with _ | v
    · injection hg with hg; exact absurd hg.symm ht
    · rcases encVel_some src v with ⟨spd, trk, hv⟩ | ⟨he, _⟩
      · rw [hv] at hg; injection hg with hg
        refine ⟨v, hm, ?_, hgood v rfl, ?_, ?_⟩
        · rw [← hg]; cases src <;> rfl
        · intro hs; rw [← hg, hs]; exact ⟨rfl, rfl⟩
        · intro hs; rw [← hg, hs]; rfl
      · rw [he] at hg; cases hg

/-! ### 4. subtypes 3-4 (airspeed and heading; in fact every subtype other than 1, 2): no floating point -/

namespace Bds09

/-- heading member of the tuple; `Dir.track` is the ground-speed case, which has no exact value (it never occurs for
    subtypes other than 1, 2 — see `airborne_velocity_airspeed_tie`, second part) -/
def dirVal : Dir → Val
  | .heading hd => .num hd
  | .none => .none
  | .track vwe vsn => .tuple [Val.ofInt vwe, Val.ofInt vsn]

/-- exact encoding of a model result without ground-speed members -/
def encExact (src : Bool) : Option Velocity → Val
  | none => .none
  | some v => velTuple src (Val.ofOptInt v.spd) (dirVal v.dir) v

end Bds09

/-- For every subtype other than 1 and 2 (ME bits 6-8; the source treats 0, 3, 4, 5, 6, 7 alike: airspeed and heading)
    the whole result of the generated function is the model's, exactly: RuntimeError off type code 19, otherwise the
    tuple `(spd | None, hdg | None, vr | None, "IAS"/"TAS"[, "MAGNETIC_NORTH", "GNSS"/"BARO"])`; the model's direction is
    then never a ground track. -/
theorem airborne_velocity_airspeed_tie (m : Msg) (h : IsHex m) (hl : m.length = 28) (src : Bool)
    (hst : bin2int (slice 37 40 (hex2binM m)) ≠ 1 ∧ bin2int (slice 37 40 (hex2binM m)) ≠ 2) :
    Gen.bds09.airborne_velocity (.str m) (.bool src) =
      (airborneVelocity (hex2binM m) >>= fun o => .val (encExact src o)) ∧
    (∀ v vwe vsn, airborneVelocity (hex2binM m) = .val (some v) → v.dir ≠ .track vwe vsn) := by
  have hb := frame_bits m hl
  rw [airborne_velocity_float_tie m h hl src]
  by_cases htc : tcB (hex2binM m) = some 19
  · rw [C09.airborne_velocity_spec _ hb htc]
    have h12 : ¬ (bin2int (slice 37 40 (hex2binM m)) = 1 ∨ bin2int (slice 37 40 (hex2binM m)) = 2) := by
      rintro (e | e)
      · exact hst.1 e
      · exact hst.2 e
    unfold C09.airborneSpec
    simp only [h12, if_false, bind_val']
    constructor
    · cases (hex2binM m)[45] <;> rfl
    · intro v vwe vsn hv
      injection hv with hv
      injection hv with hv
      rw [← hv]
      cases (hex2binM m)[45] <;> intro hc <;> cases hc
  · rw [C09.airborne_velocity_guard _ htc]
    exact ⟨rfl, fun v vwe vsn hc => (nomatch hc)⟩

namespace Bds09

/-- the encoded specification for a subtype other than 1, 2, member by member -/
theorem encVel_airspeed (src : Bool) (st f1 f2 vr : Nat) (s1 s2 s3 s4 : Bool) (h12 : ¬ (st = 1 ∨ st = 2)) :
    encVel src (C09.airborneSpec st s1 f1 s2 f2 s3 s4 vr) =
      .val (.tuple ([
        Val.ofOptInt (if f2 = 0 then none else some (((f2 : Int) - 1) * (if st = 4 then 4 else 1))),
        (if s1 = true then .num ((f1 : Rat) / 1024 * 360) else .none),
        Val.ofOptInt (C09.vertRate s4 vr),
        .str (if s2 = true then ['T', 'A', 'S'] else ['I', 'A', 'S'])] ++
        if src = true then [.str ['M', 'A', 'G', 'N', 'E', 'T', 'I', 'C', '_', 'N', 'O', 'R', 'T', 'H'],
          .str (if s3 = true then ['B', 'A', 'R', 'O'] else ['G', 'N', 'S', 'S'])] else [])) := by
  unfold C09.airborneSpec
  rw [if_neg h12]
  cases s1 <;> cases s2 <;> cases s3 <;> simp only [encVel, velTuple, Bool.false_eq_true, ↓reduceIte] <;> rfl

end Bds09

/-- the same, written out on the bits of the frame (TC 19, subtype not 1 or 2): airspeed `(N−1)` kt, times 4 for
    subtype 4, `None` for N = 0; heading `N·360/1024` when the status bit is set; vertical rate `±(N−1)·64`;
    "TAS"/"IAS" by ME bit 25 -/
theorem airborne_velocity_airspeed_spec_tie (m : Msg) (h : IsHex m) (hl : m.length = 28) (src : Bool)
    (htc : tcB (hex2binM m) = some 19)
    (hst : bin2int (slice 37 40 (hex2binM m)) ≠ 1 ∧ bin2int (slice 37 40 (hex2binM m)) ≠ 2) :
    Gen.bds09.airborne_velocity (.str m) (.bool src) =
      .val (.tuple ([
        Val.ofOptInt (if bin2int (slice 57 67 (hex2binM m)) = 0 then none
          else some (((bin2int (slice 57 67 (hex2binM m)) : Int) - 1) *
            (if bin2int (slice 37 40 (hex2binM m)) = 4 then 4 else 1))),
        (if (hex2binM m).getD 45 false then .num ((bin2int (slice 46 56 (hex2binM m)) : Rat) / 1024 * 360) else .none),
        Val.ofOptInt (C09.vertRate ((hex2binM m).getD 68 false) (bin2int (slice 69 78 (hex2binM m)))),
        .str (if (hex2binM m).getD 56 false then ['T', 'A', 'S'] else ['I', 'A', 'S'])] ++
        if src then [.str ['M', 'A', 'G', 'N', 'E', 'T', 'I', 'C', '_', 'N', 'O', 'R', 'T', 'H'],
          .str (if (hex2binM m).getD 67 false then ['B', 'A', 'R', 'O'] else ['G', 'N', 'S', 'S'])] else [])) := by
  have hb := frame_bits m hl
  rw [airborne_velocity_float_tie m h hl src, C09.airborne_velocity_spec _ hb htc, bind_val',
    encVel_airspeed _ _ _ _ _ _ _ _ _ (fun e => e.elim hst.1 hst.2)]
  simp only [Fields.getD_eq (show 45 < (hex2binM m).length by omega),
    Fields.getD_eq (show 56 < (hex2binM m).length by omega),
    Fields.getD_eq (show 67 < (hex2binM m).length by omega),
    Fields.getD_eq (show 68 < (hex2binM m).length by omega)]

/-! ### 5. subtypes 1-2 (ground speed): the arguments of the float externals are the model's exact components -/

/-- Whenever the model yields a ground track `Dir.track v_we v_sn`, the generated function is exactly
    `int(math.sqrt(v_sn² + v_we²))` and `math.degrees(math.atan2(v_we, v_sn))` (plus 360 when negative) evaluated on
    those same integers, followed by the model's remaining members; and the model's own speed is the exact integer
    square root of the same sum.  (What is NOT proved: that the double-precision `int(sqrt(·))` equals `Nat.sqrt` —
    `Float.sqrt` is opaque to the kernel.) -/
theorem airborne_velocity_gs_components_tie (m : Msg) (h : IsHex m) (hl : m.length = 28) (src : Bool)
    (v : Velocity) (vwe vsn : Int)
    (hm : airborneVelocity (hex2binM m) = .val (some v)) (hdir : v.dir = .track vwe vsn) :
    Gen.bds09.airborne_velocity (.str m) (.bool src) = (do
        let s ← Gen.Ext.math_sqrt (.num ((vsn * vsn + vwe * vwe : Int) : Rat))
        let spd ← pyInt1 s
        let a ← Gen.Ext.math_atan2 (.num (vwe : Rat)) (.num (vsn : Rat))
        let d ← Gen.Ext.math_degrees a
        let trk ← (do if pyTruth (← pyGe d (.num 0)) then pure d else pyAdd d (.num 360))
        pure (velTuple src spd trk v)) ∧
    v.spd = some ((Nat.sqrt (vsn * vsn + vwe * vwe).toNat : Nat) : Int) ∧
    v.spdType = "GS" ∧ v.dirType = "TRUE_NORTH" := by
  constructor
  · rw [airborne_velocity_float_tie m h hl src, hm, bind_val']
    simp only [encVel, hdir, gsSpeed, gsTrack, bind_assoc, Int.cast_add, Int.cast_mul]
  · exact (track_bounds m hl v vwe vsn hm hdir).2.2.2

/-- the same on the bits of the frame: TC 19, subtype 1 or 2, both 10-bit velocity fields non-zero; the components are
    `±(N−1)` kt (times 4 for subtype 2), west and south negative -/
theorem airborne_velocity_gs_spec_tie (m : Msg) (h : IsHex m) (hl : m.length = 28) (src : Bool)
    (htc : tcB (hex2binM m) = some 19)
    (h12 : bin2int (slice 37 40 (hex2binM m)) = 1 ∨ bin2int (slice 37 40 (hex2binM m)) = 2)
    (h1 : bin2int (slice 46 56 (hex2binM m)) ≠ 0) (h2 : bin2int (slice 57 67 (hex2binM m)) ≠ 0) :
    let mult : Int := if bin2int (slice 37 40 (hex2binM m)) = 2 then 4 else 1
    let vwe : Int := C09.signedComp ((hex2binM m).getD 45 false) (bin2int (slice 46 56 (hex2binM m))) mult
    let vsn : Int := C09.signedComp ((hex2binM m).getD 56 false) (bin2int (slice 57 67 (hex2binM m))) mult
    Gen.bds09.airborne_velocity (.str m) (.bool src) = (do
        let s ← Gen.Ext.math_sqrt (.num ((vsn * vsn + vwe * vwe : Int) : Rat))
        let spd ← pyInt1 s
        let a ← Gen.Ext.math_atan2 (.num (vwe : Rat)) (.num (vsn : Rat))
        let d ← Gen.Ext.math_degrees a
        let trk ← (do if pyTruth (← pyGe d (.num 0)) then pure d else pyAdd d (.num 360))
        pure (.tuple ([spd, trk,
          Val.ofOptInt (C09.vertRate ((hex2binM m).getD 68 false) (bin2int (slice 69 78 (hex2binM m)))),
          .str ['G', 'S']] ++
          if src then [.str ['T', 'R', 'U', 'E', '_', 'N', 'O', 'R', 'T', 'H'],
            .str (if (hex2binM m).getD 67 false then ['B', 'A', 'R', 'O'] else ['G', 'N', 'S', 'S'])] else []))) := by
  have hb := frame_bits m hl
  intro mult vwe vsn
  have hm := C09.airborne_velocity_spec _ hb htc
  have h0 : ¬ (bin2int (slice 46 56 (hex2binM m)) = 0 ∨ bin2int (slice 57 67 (hex2binM m)) = 0) := by
    rintro (e | e)
    · exact h1 e
    · exact h2 e
  unfold C09.airborneSpec at hm
  simp only [h12, if_true, h0, if_false] at hm
  have hg := (airborne_velocity_gs_components_tie m h hl src _ _ _ hm rfl).1
  rw [hg]
  simp only [vwe, vsn, mult, Fields.getD_eq (show 45 < (hex2binM m).length by omega),
    Fields.getD_eq (show 56 < (hex2binM m).length by omega),
    Fields.getD_eq (show 67 < (hex2binM m).length by omega),
    Fields.getD_eq (show 68 < (hex2binM m).length by omega)]
  cases (hex2binM m)[67] <;> cases src <;> simp [velTuple]

/-! ### the speed member, under an explicit hypothesis on `math.sqrt` -/

namespace Bds09

/-- `int(math.sqrt(b² + a²))` in double precision is the exact integer square root for all component pairs that can
    occur (|·| ≤ 4·1022).  True of IEEE doubles (checked by evaluation over all 2·1023² pairs); a hypothesis here
    because `Float.sqrt` is opaque to the kernel. -/
def SqrtExact : Prop :=
  ∀ a b : Int, -4088 ≤ a → a ≤ 4088 → -4088 ≤ b → b ≤ 4088 →
    gsSpeed a b = .val (.num (((Nat.sqrt (b * b + a * a).toNat : Nat) : Int) : Rat))

end Bds09

/-- The speed member, under the hypothesis `SqrtExact` (double-precision `int(math.sqrt(·))` is the exact integer
    square root on the range of the components; assumed, because `Float.sqrt` is opaque to the kernel): every
    non-`None` value of the generated function carries the model's speed as its first member — `Nat.sqrt (v_sn² + v_we²)`
    for ground speed, the airspeed otherwise.  Nothing is said of the track member: the model keeps the components
    (`Dir.track v_we v_sn`) and has no angle to compare it with. -/
theorem airborne_velocity_speed_tie_partial (hs : SqrtExact) (m : Msg) (h : IsHex m) (hl : m.length = 28)
    (src : Bool) (t : Val)
    (hg : Gen.bds09.airborne_velocity (.str m) (.bool src) = .val t) (ht : t ≠ .none) :
    ∃ v, airborneVelocity (hex2binM m) = .val (some v) ∧ pyIdxN t 0 = .val (Val.ofOptInt v.spd) := by
  rw [airborne_velocity_float_tie m h hl src] at hg
  rcases model_cases m hl with ⟨_, hm⟩ | ⟨_, o, hm, _⟩
  · rw [hm] at hg; cases hg
  · rw [hm, bind_val'] at hg
    rcases o with _ | v
    · injection hg with hg; exact absurd hg.symm ht
    · refine ⟨v, hm, ?_⟩
      rcases hdir : v.dir with ⟨vwe, vsn⟩ | hd | _
      · obtain ⟨-, ⟨a1, a2⟩, ⟨b1, b2⟩, hspd, -⟩ := track_bounds m hl v vwe vsn hm hdir
        have he : encVel src (some v) = (do
            let spd ← gsSpeed vwe vsn
            let trk ← gsTrack vwe vsn
            pure (velTuple src spd trk v)) := by
          simp only [encVel, hdir]
        rw [he, hs vwe vsn a1 a2 b1 b2, bind_val'] at hg
        rcases gsTrack_cases vwe vsn with hx | ⟨r, hr⟩
        · rw [hx] at hg; cases hg
        · rw [hr, bind_val'] at hg
          injection hg with hg
          rw [← hg, hspd]
          cases src <;> rfl
      · have he : encVel src (some v) = .val (velTuple src (Val.ofOptInt v.spd) (.num hd) v) := by
          simp only [encVel, hdir]
        rw [he] at hg; injection hg with hg
        rw [← hg]; cases src <;> rfl
      · have he : encVel src (some v) = .val (velTuple src (Val.ofOptInt v.spd) .none v) := by
          simp only [encVel, hdir]
        rw [he] at hg; injection hg with hg
        rw [← hg]; cases src <;> rfl

/-! ### non-vacuity: the two airborne-velocity frames of tests/ satisfy the hypotheses -/

/-- subtype 1 (ground speed): components `v_we = −8`, `v_sn = −159`; the model's speed is `Nat.sqrt 25345 = 159` -/
example : (∀ c ∈ "8D485020994409940838175B284F".toList, (hexVal? c).isSome) ∧
    "8D485020994409940838175B284F".toList.length = 28 ∧
    tcB (hex2binM "8D485020994409940838175B284F".toList) = some 19 ∧
    bin2int (slice 37 40 (hex2binM "8D485020994409940838175B284F".toList)) = 1 ∧
    bin2int (slice 46 56 (hex2binM "8D485020994409940838175B284F".toList)) ≠ 0 ∧
    bin2int (slice 57 67 (hex2binM "8D485020994409940838175B284F".toList)) ≠ 0 ∧
    airborneVelocity (hex2binM "8D485020994409940838175B284F".toList) =
      .val (some ⟨some 159, Dir.track (-8) (-159), some (-832), "GS", "TRUE_NORTH", "GNSS"⟩) := by
  decide +kernel

/-- subtype 3 (airspeed): the generated function returns `(375, 243.984375, -2304, "TAS")` -/
example : Gen.bds09.airborne_velocity (.str "8DA05F219B06B6AF189400CBC33F".toList) (.bool false) =
    .val (.tuple [.num 375, .num ((15615 : Rat) / 64), .num (-2304), .str ['T', 'A', 'S']]) := by
  have hm : (∀ c ∈ "8DA05F219B06B6AF189400CBC33F".toList, (hexVal? c).isSome) ∧
      "8DA05F219B06B6AF189400CBC33F".toList.length = 28 ∧
      bin2int (slice 37 40 (hex2binM "8DA05F219B06B6AF189400CBC33F".toList)) = 3 ∧
      airborneVelocity (hex2binM "8DA05F219B06B6AF189400CBC33F".toList) =
        .val (some ⟨some 375, Dir.heading ((15615 : Rat) / 64), some (-2304), "TAS", "MAGNETIC_NORTH", "BARO"⟩) := by
    decide +kernel
  obtain ⟨h1, h2, h4, h5⟩ := hm
  rw [(airborne_velocity_airspeed_tie _ h1 h2 false (by rw [h4]; decide)).1, h5]
  rfl

end PyModeS.Tie
