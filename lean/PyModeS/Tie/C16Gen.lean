/-
  C16 transported to the source-generated definitions of extra/tcpclient.py and streamer/source.py.

  The client loop of `TcpClient.run` is modelled by `genFeed` (written here, over the generated methods): for each chunk, `self.buffer.extend(received)`
  (`pyGetAttr` / `pyExtend` / `pySetAttr`), then the reader method, then `if not messages: continue` / hand the
  messages on.  Proved here, by composing the reader ties with `Properties/C16.lean`:

  * `beast_chunk_invariant_tie`, `skysense_chunk_invariant_tie`: feeding ANY chunking of ANY byte stream (bytes < 256,
    fewer than `whileFuel` = 2^20 of them) to the generated Beast / Skysense reader hands on the same messages and
    leaves the same receiver as ONE call of the generated reader on the whole stream (Skysense: including the time
    stamps; `skysense_chunk_invariant_texts_tie` is the projection on the message texts, through
    `C16.feed_chunk_invariant_skysense`).
  * `raw_chunk_invariant_tie`: the same for the generated AVR raw reader under `rawWF false cs.flatten` (no bound on
    the bytes or the length is needed); the two receivers agree except for the scratch attribute `current_msg`,
    which every call resets before reading it.  `raw_chunk_invariant_general_false_tie`: without the hypothesis the
    statement is false for the generated reader too.
  * `netsource_conservation_tie`: over any sequence of calls of the generated `NetSource.handle_messages`, what was put
    on the pipe followed by what is still in the local buffers is exactly the long DF17/18 (resp. DF20/21) messages of
    the input, in order, each once; at most one ADS-B message is pending (`rtlsdrsource_conservation_tie`: the
    duplicated code of `RtlSdrSource`; `netsource_call_tie`: closed form of one call).
  * `beast_frames_feed_tie`, `raw_frames_feed_tie`: on a well-formed stream, however chunked, the generated client
    loop hands on exactly the frames' messages.
-/
import PyModeS.Properties.C16
import PyModeS.Tie.RawReader
import PyModeS.Tie.SkyReader
import PyModeS.Tie.BeastReader
import PyModeS.Tie.Source

namespace PyModeS.C16Gen
open PyModeS PyModeS.Py PyModeS.CRC PyModeS.Stream PyModeS.Tie

/-! ## The client loop on the generated side -/

/-- a chunk / `self.buffer`: a list of byte values -/
def bytesVal (l : List Byte) : Val := .tuple (l.map Val.ofNat)

/-- what `run` hands to `handle_messages` after `if not messages: continue` (`None` and `[]`: nothing) -/
def msgsOf : Val → List Val
  | .tuple xs => xs
  | _ => []

/-- the pair `[self', result]` a generated method returns -/
def unpack2 : Val → Res (Val × Val)
  | .tuple [a, b] => .val (a, b)
  | _ => .exc

/-- `TcpClient.run` restricted to one reader `method`: for each chunk `self.buffer.extend(received)`, then
    `messages = self.read_…_buffer()`; all messages handed on are collected (after `out`) -/
def genFeedFrom (method : Val → Res Val) : Val → List (List Byte) → List Val → Res (Val × List Val)
  | self, [], out => .val (self, out)
  | self, c :: cs, out =>
    pyGetAttr self "buffer" >>= fun buf =>
    pyExtend buf (bytesVal c) >>= fun buf' =>
    pySetAttr self "buffer" buf' >>= fun self1 =>
    method self1 >>= fun r =>
    unpack2 r >>= fun p =>
    genFeedFrom method p.1 cs (out ++ msgsOf p.2)

/-- the client loop: final receiver and all messages handed on, in order -/
def genFeed (method : Val → Res Val) (self : Val) (chunks : List (List Byte)) : Res (Val × List Val) :=
  genFeedFrom method self chunks []

/-- a `[msg, ts]` item with the `0` of `Ext.time_time` -/
def stamp0 (m : Msg) : Val := .tuple [.str m, .num 0]

/-- the message text of a `[msg, ts]` item -/
def textOf : Val → Val
  | .tuple (t :: _) => t
  | _ => .none

theorem textOf_stamp0 (m : Msg) : textOf (stamp0 m) = .str m := rfl

/-- the receiver `l` with `self.buffer = b` -/
def withBuf (l : List (Val × Val)) (b : List Byte) : Val := .dict (setPair (attrKey "buffer") (bytesVal b) l)

theorem pyExtend_bytes (b c : List Byte) : pyExtend (bytesVal b) (bytesVal c) = .val (bytesVal (b ++ c)) := by
  simp [pyExtend, pyIter, bytesVal]

theorem withBuf_get (l : List (Val × Val)) (b : List Byte) : pyGetAttr (withBuf l b) "buffer" = .val (bytesVal b) := by
  simp only [pyGetAttr, withBuf, attrKey, Beast.dictFind_setPair_same]

theorem withBuf_set (l : List (Val × Val)) (b : List Byte) (v : Val) :
    pySetAttr (withBuf l b) "buffer" v = .val (.dict (setPair (attrKey "buffer") v l)) := by
  simp only [pySetAttr, withBuf, attrKey, Beast.setPair_setPair]

theorem withBuf_find (l : List (Val × Val)) (b : List Byte) :
    dictFind (setPair (attrKey "buffer") (bytesVal b) l) (attrKey "buffer") = some (bytesVal b) := by
  simp only [attrKey, Beast.dictFind_setPair_same]

theorem withBuf_of_find (l : List (Val × Val)) (b : List Byte)
    (h : dictFind l (attrKey "buffer") = some (bytesVal b)) : Val.dict l = withBuf l b := by
  unfold withBuf; rw [attrKey] at h ⊢; rw [Beast.setPair_of_find h]

/-! ### the model of the loop over an abstract reader, and the generic simulation -/

/-- `feedAll` over any reader, without accumulator -/
def feedV {α} (read : List Byte → List α × List Byte) : List (List Byte) → List Byte → List α × List Byte
  | [], b => ([], b)
  | c :: cs, b => ((read (b ++ c)).1 ++ (feedV read cs (read (b ++ c)).2).1, (feedV read cs (read (b ++ c)).2).2)

/-- chunk invariance of `feedV` from the two-chunk equation (as `Stream.feedAll_resume`) -/
theorem feedV_resume {α} (read : List Byte → List α × List Byte) (P : List Byte → Prop)
    (hP : ∀ a b, P (a ++ b) → P a)
    (h2 : ∀ a b, P (a ++ b) →
      read (a ++ b) = ((read a).1 ++ (read ((read a).2 ++ b)).1, (read ((read a).2 ++ b)).2)) :
    ∀ (cs : List (List Byte)) (s0 : List Byte), P (s0 ++ cs.flatten) →
      ((read s0).1 ++ (feedV read cs (read s0).2).1, (feedV read cs (read s0).2).2) = read (s0 ++ cs.flatten) := by
  intro cs
  induction cs with
  | nil => intro s0 _; simp [feedV]
  | cons c cs ih =>
    intro s0 hp
    have hp' : P ((s0 ++ c) ++ cs.flatten) := by simpa [List.append_assoc] using hp
    have h := h2 s0 c (hP _ _ hp')
    have e := ih (s0 ++ c) hp'
    rw [h] at e
    simp only [feedV, List.flatten_cons]
    rw [← List.append_assoc s0, ← e, List.append_assoc]

theorem feedV_of_twoChunk {α} (read : List Byte → List α × List Byte) (P : List Byte → Prop)
    (hP : ∀ a b, P (a ++ b) → P a)
    (h2 : ∀ a b, P (a ++ b) →
      read (a ++ b) = ((read a).1 ++ (read ((read a).2 ++ b)).1, (read ((read a).2 ++ b)).2))
    (h0 : read [] = ([], [])) (cs : List (List Byte)) (hp : P cs.flatten) :
    feedV read cs [] = read cs.flatten := by
  have := feedV_resume read P hP h2 cs [] (by simpa using hp)
  simpa [h0] using this

theorem feedAll_acc (fmt : Fmt) : ∀ (cs : List (List Byte)) (b : List Byte) (out : List Msg),
    feedAll fmt cs b out = (out ++ (feedAll fmt cs b []).1, (feedAll fmt cs b []).2) := by
  intro cs
  induction cs with
  | nil => intro b out; simp [feedAll]
  | cons c cs ih =>
    intro b out
    simp only [feedAll]
    rw [ih _ (out ++ _), ih _ ([] ++ _)]
    simp

/-- `feedV` over a reader that maps the messages of `readFmt fmt` is `feedAll fmt`, mapped -/
theorem feedV_map {α} (fmt : Fmt) (g : Msg → α) : ∀ (cs : List (List Byte)) (b : List Byte),
    feedV (fun x => ((readFmt fmt x).1.map g, (readFmt fmt x).2)) cs b
      = ((feedAll fmt cs b []).1.map g, (feedAll fmt cs b []).2) := by
  intro cs
  induction cs with
  | nil => intro b; simp [feedV, feedAll]
  | cons c cs ih =>
    intro b
    simp only [feedV, feedAll]
    rw [ih, feedAll_acc fmt cs _ ([] ++ _)]
    simp

/-- Simulation: if the receivers related to a buffer content by `Inv` support `self.buffer` get / set, and a call of
    `method` on a receiver holding `b` (allowed by `Ok`) returns a receiver holding `(read b).2` and hands on
    `(read b).1`, then `genFeedFrom` computes `feedV read`. -/
theorem genFeedFrom_spec (method : Val → Res Val) (read : List Byte → List Val × List Byte)
    (Inv : Val → List Byte → Prop) (Ok : List Byte → Prop)
    (hget : ∀ s b, Inv s b → pyGetAttr s "buffer" = .val (bytesVal b))
    (hset : ∀ s b b', Inv s b → ∃ s', pySetAttr s "buffer" (bytesVal b') = .val s' ∧ Inv s' b')
    (hcall : ∀ s b, Inv s b → Ok b →
      ∃ s' res, method s = .val (.tuple [s', res]) ∧ Inv s' (read b).2 ∧ msgsOf res = (read b).1)
    (hpre : ∀ b e, Ok (b ++ e) → Ok b)
    (hnext : ∀ b e, Ok (b ++ e) → Ok ((read b).2 ++ e)) :
    ∀ (cs : List (List Byte)) (s : Val) (b : List Byte) (out : List Val), Inv s b → Ok (b ++ cs.flatten) →
      ∃ s', genFeedFrom method s cs out = .val (s', out ++ (feedV read cs b).1) ∧ Inv s' (feedV read cs b).2 := by
  intro cs
  induction cs with
  | nil =>
    intro s b out hinv _
    exact ⟨s, by simp [genFeedFrom, feedV], hinv⟩
  | cons c cs ih =>
    intro s b out hinv hok
    have hok' : Ok ((b ++ c) ++ cs.flatten) := by simpa [List.append_assoc] using hok
    obtain ⟨s1, h1, i1⟩ := hset s b (b ++ c) hinv
    obtain ⟨s2, res, h2, i2, hm⟩ := hcall s1 (b ++ c) i1 (hpre _ _ hok')
    obtain ⟨s3, h3, i3⟩ := ih s2 (read (b ++ c)).2 (out ++ msgsOf res) i2 (hnext _ _ hok')
    refine ⟨s3, ?_, i3⟩
    have hu : unpack2 (.tuple [s2, res]) = .val (s2, res) := rfl
    rw [genFeedFrom, hget s b hinv, bind_val', pyExtend_bytes, bind_val', h1, bind_val', h2, bind_val', hu, bind_val']
    simp only []
    rw [h3, hm]
    simp only [feedV, List.append_assoc]

/-- the `Ok` of the two readers with a `while` loop: byte values, and fewer bytes than the loop is granted turns -/
def Small (b : List Byte) : Prop := (∀ x ∈ b, x < 256) ∧ b.length < whileFuel

theorem Small_pre (b e : List Byte) (h : Small (b ++ e)) : Small b :=
  ⟨fun x hx => h.1 x (List.mem_append_left _ hx), by have := h.2; rw [List.length_append] at this; omega⟩

theorem Small_next (b b' e : List Byte) (hs : b' <:+ b) (h : Small (b ++ e)) : Small (b' ++ e) := by
  refine ⟨fun x hx => ?_, ?_⟩
  · rcases List.mem_append.mp hx with hx | hx
    · exact h.1 x (List.mem_append_left _ (hs.subset hx))
    · exact h.1 x (List.mem_append_right _ hx)
  · have := h.2
    have := hs.length_le
    rw [List.length_append] at *
    omega

theorem Small_of_chunks (cs : List (List Byte)) (hb : ∀ c ∈ cs, ∀ x ∈ c, x < 256)
    (hlen : cs.flatten.length < whileFuel) : Small cs.flatten := by
  refine ⟨fun x hx => ?_, hlen⟩
  obtain ⟨c, hc, hxc⟩ := List.mem_flatten.mp hx
  exact hb c hc x hxc

/-! ## Beast -/

theorem beastScan_suffix (buf : List Byte) (x msg : List Byte) (out : List (List Byte)) (st : List Byte)
    (hx : x <:+ buf) (hst : st <:+ buf) : (beastScan x msg out st).2 <:+ buf := by
  fun_induction beastScan x msg out st with
  | case1 msg out st => exact hst
  | case2 msg out st => exact hst
  | case3 b msg out st hb ih => exact ih (List.nil_suffix) hst
  | case4 b c rest msg out st h ih =>
    exact ih ((List.suffix_cons _ _).trans ((List.suffix_cons _ _).trans hx)) hst
  | case5 c rest msg out st h ih =>
    exact ih ((List.suffix_cons _ _).trans hx) hx
  | case6 b c rest msg out st h hb ih =>
    exact ih ((List.suffix_cons _ _).trans hx) hst

theorem readBeast_suffix (b : List Byte) : (readBeast b).2 <:+ b := by
  simp only [readBeast]
  exact beastScan_suffix b b [] [] b (List.suffix_refl _) (List.suffix_refl _)

/-- the Beast reader on the `Val` level: `[msg, 0]` items -/
def readBeastV (b : List Byte) : List Val × List Byte := ((readBeast b).1.map stamp0, (readBeast b).2)

/-- one call of the generated `read_beast_buffer` on the receiver `l` with `self.buffer = b` -/
theorem beast_call (l : List (Val × Val)) (b : List Byte) (hs : Small b) :
    Gen.tcpclient.TcpClient_read_beast_buffer (withBuf l b) =
      .val (.tuple [withBuf l (readBeast b).2, .tuple ((readBeast b).1.map stamp0)]) := by
  have h := TcpClient_read_beast_buffer_tie (setPair (attrKey "buffer") (bytesVal b) l) b (withBuf_find l b) hs.1 hs.2
  rw [withBuf, h]
  simp only [attrKey, Beast.setPair_setPair]
  rfl

theorem beast_feed (l : List (Val × Val)) (cs : List (List Byte)) (b : List Byte) (out : List Val)
    (hs : Small (b ++ cs.flatten)) :
    genFeedFrom Gen.tcpclient.TcpClient_read_beast_buffer (withBuf l b) cs out =
      .val (withBuf l (feedV readBeastV cs b).2, out ++ (feedV readBeastV cs b).1) := by
  obtain ⟨s', h, hi⟩ := genFeedFrom_spec Gen.tcpclient.TcpClient_read_beast_buffer readBeastV
    (fun s b => s = withBuf l b) Small
    (fun s b hi => by rw [hi, withBuf_get])
    (fun s b b' hi => ⟨withBuf l b', by rw [hi, withBuf_set]; rfl, rfl⟩)
    (fun s b hi hs => ⟨withBuf l (readBeast b).2, .tuple ((readBeast b).1.map stamp0),
      by rw [hi, beast_call l b hs], rfl, rfl⟩)
    Small_pre (fun b e h => Small_next b _ e (readBeast_suffix b) h) cs (withBuf l b) b out rfl hs
  rw [h, hi]

/-- **Chunk invariance, generated Beast reader, arbitrary byte content.**  `l` is any receiver whose `buffer` is
    empty (as `TcpClient.__init__` leaves it), `cs` any chunking of any stream of fewer than 2^20 bytes.  The client
    loop over the chunks hands on the same `[msg, ts]` items and ends with the same receiver as ONE call of the
    generated `read_beast_buffer` on the receiver holding the whole stream; the items are the messages of the
    specification reader `readBeast` on the whole stream and the retained buffer is its retained buffer. -/
theorem beast_chunk_invariant_tie (l : List (Val × Val)) (hbuf : dictFind l (attrKey "buffer") = some (bytesVal []))
    (cs : List (List Byte)) (hb : ∀ c ∈ cs, ∀ x ∈ c, x < 256) (hlen : cs.flatten.length < whileFuel) :
    ∃ (self' : Val) (msgs : List Val),
      genFeed Gen.tcpclient.TcpClient_read_beast_buffer (.dict l) cs = .val (self', msgs) ∧
      Gen.tcpclient.TcpClient_read_beast_buffer (.dict (setPair (attrKey "buffer") (bytesVal cs.flatten) l)) =
        .val (.tuple [self', .tuple msgs]) ∧
      self' = .dict (setPair (attrKey "buffer") (bytesVal (readBeast cs.flatten).2) l) ∧
      msgs = (readBeast cs.flatten).1.map stamp0 := by
  have hs := Small_of_chunks cs hb hlen
  have hfeed : feedV readBeastV cs [] = readBeastV cs.flatten := by
    have h1 := feedV_map .beast stamp0 cs []
    have h2 := C16.feed_chunk_invariant_beast cs
    unfold readBeastV
    change feedV (fun x => ((readFmt .beast x).1.map stamp0, (readFmt .beast x).2)) cs [] = _
    rw [h1, h2]
    rfl
  refine ⟨withBuf l (readBeast cs.flatten).2, (readBeast cs.flatten).1.map stamp0, ?_, ?_, rfl, rfl⟩
  · rw [genFeed, withBuf_of_find l [] hbuf, beast_feed l cs [] [] (by simpa using hs), hfeed]
    rfl
  · exact beast_call l cs.flatten hs

/-! ## Skysense -/

/-- a `[msg, ts]` item of the Skysense reader -/
def stampT (p : Msg × Rat) : Val := .tuple [.str p.1, .num p.2]

theorem textOf_stampT (p : Msg × Rat) : textOf (stampT p) = .str p.1 := rfl

/-- the Skysense reader on the `Val` level -/
def readSkyV (b : List Byte) : List Val × List Byte := ((Sky.readSkyT b).1.map stampT, (Sky.readSkyT b).2)

theorem readSkyV_append (a b : List Byte) :
    readSkyV (a ++ b) = ((readSkyV a).1 ++ (readSkyV ((readSkyV a).2 ++ b)).1, (readSkyV ((readSkyV a).2 ++ b)).2) := by
  unfold readSkyV
  rw [Sky.readSkyT_append a b]
  simp

/-- the message texts of `readSkyV` are the messages of the hand model's `readSky` -/
theorem readSkyV_texts (b : List Byte) :
    (readSkyV b).1.map textOf = (readSky b).1.map Val.str ∧ (readSkyV b).2 = (readSky b).2 := by
  unfold readSkyV
  rw [Sky.readSkyT_fst b]
  simp only [List.map_map]
  exact ⟨List.map_congr_left (fun p _ => rfl), trivial⟩

/-- one call of the generated `read_skysense_buffer` on the receiver `l` with `self.buffer = b`: `None` when at most
    24 bytes wait, the `[msg, ts]` list otherwise -/
theorem sky_call (l : List (Val × Val)) (b : List Byte) (hs : Small b) :
    ∃ res, Gen.tcpclient.TcpClient_read_skysense_buffer (withBuf l b) =
      .val (.tuple [withBuf l (readSkyV b).2, res]) ∧ msgsOf res = (readSkyV b).1 ∧
      (res = .none ∨ res = .tuple (readSkyV b).1) := by
  have h := TcpClient_read_skysense_buffer_tie (setPair (attrKey "buffer") (bytesVal b) l) b (withBuf_find l b)
    hs.1 hs.2
  have h2 : (readSky b).2 = (readSkyV b).2 := (readSkyV_texts b).2.symm
  refine ⟨if b.length ≤ 24 then .none else Sky.encTS (Sky.readSkyT b).1, ?_, ?_, ?_⟩
  · rw [withBuf, h]
    simp only [attrKey, Beast.setPair_setPair, h2]
    rfl
  · by_cases h24 : b.length ≤ 24
    · rw [if_pos h24]
      unfold readSkyV
      rw [Sky.readSkyT_short b h24]
      rfl
    · rw [if_neg h24]; rfl
  · by_cases h24 : b.length ≤ 24
    · rw [if_pos h24]; exact Or.inl rfl
    · rw [if_neg h24]; exact Or.inr rfl

theorem sky_feed (l : List (Val × Val)) (cs : List (List Byte)) (b : List Byte) (out : List Val)
    (hs : Small (b ++ cs.flatten)) :
    genFeedFrom Gen.tcpclient.TcpClient_read_skysense_buffer (withBuf l b) cs out =
      .val (withBuf l (feedV readSkyV cs b).2, out ++ (feedV readSkyV cs b).1) := by
  obtain ⟨s', h, hi⟩ := genFeedFrom_spec Gen.tcpclient.TcpClient_read_skysense_buffer readSkyV
    (fun s b => s = withBuf l b) Small
    (fun s b hi => by rw [hi, withBuf_get])
    (fun s b b' hi => ⟨withBuf l b', by rw [hi, withBuf_set]; rfl, rfl⟩)
    (fun s b hi hs => by
      obtain ⟨res, h1, h2, _⟩ := sky_call l b hs
      exact ⟨withBuf l (readSkyV b).2, res, by rw [hi, h1], rfl, h2⟩)
    Small_pre (fun b e h => Small_next b _ e (Sky.readSkyT_suffix b) h) cs (withBuf l b) b out rfl hs
  rw [h, hi]

/-- **Chunk invariance, generated Skysense reader, arbitrary byte content, time stamps included.**  `l` is any
    receiver whose `buffer` is empty, `cs` any chunking of any stream of fewer than 2^20 bytes.  The client loop over
    the chunks hands on the same `[msg, ts]` items (`msgsOf r`: `None` and `[]` both mean "nothing", as in
    `if not messages: continue`) and ends with the same receiver as ONE call of the generated `read_skysense_buffer`
    on the receiver holding the whole stream. -/
theorem skysense_chunk_invariant_tie (l : List (Val × Val))
    (hbuf : dictFind l (attrKey "buffer") = some (bytesVal []))
    (cs : List (List Byte)) (hb : ∀ c ∈ cs, ∀ x ∈ c, x < 256) (hlen : cs.flatten.length < whileFuel) :
    ∃ (self' r : Val),
      genFeed Gen.tcpclient.TcpClient_read_skysense_buffer (.dict l) cs = .val (self', msgsOf r) ∧
      Gen.tcpclient.TcpClient_read_skysense_buffer (.dict (setPair (attrKey "buffer") (bytesVal cs.flatten) l)) =
        .val (.tuple [self', r]) ∧
      self' = .dict (setPair (attrKey "buffer") (bytesVal (readSky cs.flatten).2) l) ∧
      (msgsOf r).map textOf = (readSky cs.flatten).1.map Val.str := by
  have hs := Small_of_chunks cs hb hlen
  have hfeed : feedV readSkyV cs [] = readSkyV cs.flatten :=
    feedV_of_twoChunk readSkyV (fun _ => True) (fun _ _ _ => trivial) (fun a b _ => readSkyV_append a b)
      (by unfold readSkyV; rw [Sky.readSkyT_short [] (by simp)]; rfl) cs trivial
  obtain ⟨res, h1, h2, _⟩ := sky_call l cs.flatten hs
  obtain ⟨ht1, ht2⟩ := readSkyV_texts cs.flatten
  refine ⟨withBuf l (readSkyV cs.flatten).2, res, ?_, h1, by rw [ht2]; rfl, by rw [h2, ht1]⟩
  rw [genFeed, withBuf_of_find l [] hbuf, sky_feed l cs [] [] (by simpa using hs), hfeed, h2]
  rfl

/-- The projection on the message texts, through the property theorem `C16.feed_chunk_invariant_skysense`: the texts
    handed on over all reads and the final `self.buffer` are those of the hand model's client loop `feedAll`, hence
    (chunk invariance of the hand model) those of one `readSky` of the whole stream. -/
theorem skysense_chunk_invariant_texts_tie (l : List (Val × Val))
    (hbuf : dictFind l (attrKey "buffer") = some (bytesVal []))
    (cs : List (List Byte)) (hb : ∀ c ∈ cs, ∀ x ∈ c, x < 256) (hlen : cs.flatten.length < whileFuel) :
    ∃ (self' : Val) (msgs : List Val),
      genFeed Gen.tcpclient.TcpClient_read_skysense_buffer (.dict l) cs = .val (self', msgs) ∧
      pyGetAttr self' "buffer" = .val (bytesVal (feedAll .skysense cs [] []).2) ∧
      msgs.map textOf = (feedAll .skysense cs [] []).1.map Val.str ∧
      feedAll .skysense cs [] [] = readFmt .skysense cs.flatten := by
  obtain ⟨self', r, h1, _, h3, h4⟩ := skysense_chunk_invariant_tie l hbuf cs hb hlen
  have hci := C16.feed_chunk_invariant_skysense cs
  refine ⟨self', msgsOf r, h1, ?_, ?_, hci⟩
  · rw [h3, hci]; exact withBuf_get l _
  · rw [h4, hci]; rfl

/-! ## AVR raw -/

/-- `setPair` on a key that is present does not depend on an earlier `setPair` on the same key, even below a
    `setPair` on another key -/
theorem setPair_swap (a b : List Char) (hab : a ≠ b) (v v' w : Val) : ∀ (L : List (Val × Val)) (x : Val),
    dictFind L (.str a) = some x →
    setPair (.str a) v (setPair (.str b) w (setPair (.str a) v' L)) = setPair (.str a) v (setPair (.str b) w L) := by
  intro L
  induction L with
  | nil => intro x h; simp [dictFind] at h
  | cons kv L ih =>
    intro x h
    obtain ⟨k', x'⟩ := kv
    by_cases ha : Val.beq (.str a) k' = true
    · have hk := (Beast.beq_str_iff a k').1 ha
      subst hk
      have hb : ¬ Val.beq (.str b) (.str a) = true := by
        rw [Beast.beq_str_str]; simp [Ne.symm hab]
      simp [Beast.setPair_cons, ha, hb]
    · rw [Beast.dictFind_cons, if_neg ha] at h
      by_cases hb : Val.beq (.str b) k' = true
      · simp [Beast.setPair_cons, ha, hb, Beast.setPair_setPair]
      · simp [Beast.setPair_cons, ha, hb, ih x h]

/-- the receivers that agree with `l` except for `buffer` (which holds `b`) and, possibly, the scratch attribute
    `current_msg` (reset at the start of every `read_raw_buffer`) -/
def RawRecv (l : List (Val × Val)) (s : Val) (b : List Byte) : Prop :=
  ∃ l', (l' = l ∨ ∃ c, l' = setPair (attrKey "current_msg") (.str c) l) ∧ s = withBuf l' b

/-- what `RawRecv` says, attribute by attribute -/
theorem RawRecv_attrs (l : List (Val × Val)) (s : Val) (b : List Byte) (h : RawRecv l s b) :
    pyGetAttr s "buffer" = .val (bytesVal b) ∧
    ∀ name : String, name.toList ≠ "buffer".toList → name.toList ≠ "current_msg".toList →
      pyGetAttr s name = pyGetAttr (.dict l) name := by
  obtain ⟨l', hl', rfl⟩ := h
  refine ⟨withBuf_get l' b, fun name h1 h2 => ?_⟩
  simp only [withBuf, pyGetAttr, attrKey, Beast.dictFind_setPair_ne _ _ (Ne.symm h1)]
  rcases hl' with rfl | ⟨c, rfl⟩
  · rfl
  · simp only [attrKey, Beast.dictFind_setPair_ne _ _ (Ne.symm h2)]

/-- the raw reader on the `Val` level: `[msg, 0]` items -/
def readRawV (b : List Byte) : List Val × List Byte := ((readRaw b).1.map stamp0, (readRaw b).2)

/-- one call of the generated `read_raw_buffer` on a receiver `l'` (in which `buffer` exists) with `self.buffer = b`
    (no hypothesis on the bytes): besides `buffer`, only `current_msg` is written -/
theorem raw_call (l' : List (Val × Val)) (x : Val) (hx : dictFind l' (attrKey "buffer") = some x) (b : List Byte) :
    Gen.tcpclient.TcpClient_read_raw_buffer (withBuf l' b) =
      .val (.tuple [withBuf (setPair (attrKey "current_msg") (.str (Raw.rsScan 0 b Raw.rsInit).cur) l') (readRaw b).2,
        .tuple ((readRaw b).1.map stamp0)]) := by
  have h := TcpClient_read_raw_buffer_tie (setPair (attrKey "buffer") (bytesVal b) l') b (withBuf_find l' b)
  rw [withBuf, h]
  rw [attrKey] at hx
  have hne : "buffer".toList ≠ "current_msg".toList := Beast.toList_ne (by simp)
  simp only [attrKey, withBuf]
  rw [setPair_swap _ _ hne _ _ _ l' x hx]
  rfl

theorem raw_feed (l : List (Val × Val)) (x : Val) (hx : dictFind l (attrKey "buffer") = some x)
    (cs : List (List Byte)) (s : Val) (b : List Byte) (out : List Val) (hs : RawRecv l s b) :
    ∃ s', genFeedFrom Gen.tcpclient.TcpClient_read_raw_buffer s cs out =
      .val (s', out ++ (feedV readRawV cs b).1) ∧ RawRecv l s' (feedV readRawV cs b).2 := by
  have hne : "current_msg".toList ≠ "buffer".toList := Beast.toList_ne (by simp)
  refine genFeedFrom_spec Gen.tcpclient.TcpClient_read_raw_buffer readRawV (RawRecv l) (fun _ => True)
    (fun s b hi => (RawRecv_attrs l s b hi).1)
    (fun s b b' hi => ?_) (fun s b hi _ => ?_) (fun _ _ _ => trivial) (fun _ _ _ => trivial) cs s b out hs trivial
  · obtain ⟨l', hl', rfl⟩ := hi
    exact ⟨withBuf l' b', by rw [withBuf_set]; rfl, l', hl', rfl⟩
  · obtain ⟨l', hl', rfl⟩ := hi
    have hx' : dictFind l' (attrKey "buffer") = some x := by
      rcases hl' with rfl | ⟨c, rfl⟩
      · exact hx
      · rw [attrKey] at hx ⊢
        simp only [attrKey, Beast.dictFind_setPair_ne _ _ hne, hx]
    refine ⟨_, _, raw_call l' x hx' b, ⟨_, Or.inr ⟨(Raw.rsScan 0 b Raw.rsInit).cur, ?_⟩, rfl⟩, rfl⟩
    rcases hl' with rfl | ⟨c, rfl⟩
    · rfl
    · simp only [attrKey, Beast.setPair_setPair]

theorem feedV_raw (cs : List (List Byte)) (b : List Byte) :
    feedV readRawV cs b = ((feedAll .raw cs b []).1.map stamp0, (feedAll .raw cs b []).2) :=
  feedV_map .raw stamp0 cs b

/-- **Chunk invariance, generated AVR raw reader**, for every stream in which each `;` closes a `*` (`rawWF false`:
    arbitrary garbage otherwise, arbitrary chunking, no bound on byte values or length).  `l` is any receiver whose
    `buffer` is empty.  The client loop over the chunks hands on the same `[msg, ts]` items as ONE call of the
    generated `read_raw_buffer` on the receiver holding the whole stream, and the two final receivers both hold the
    retained buffer of the specification reader and agree with `l` on every attribute other than `buffer` and the
    scratch attribute `current_msg` (`RawRecv`, `RawRecv_attrs`). -/
theorem raw_chunk_invariant_tie (l : List (Val × Val)) (hbuf : dictFind l (attrKey "buffer") = some (bytesVal []))
    (cs : List (List Byte)) (hwf : rawWF false cs.flatten = true) :
    ∃ (self1 self2 : Val) (msgs : List Val),
      genFeed Gen.tcpclient.TcpClient_read_raw_buffer (.dict l) cs = .val (self1, msgs) ∧
      Gen.tcpclient.TcpClient_read_raw_buffer (.dict (setPair (attrKey "buffer") (bytesVal cs.flatten) l)) =
        .val (.tuple [self2, .tuple msgs]) ∧
      RawRecv l self1 (readRaw cs.flatten).2 ∧ RawRecv l self2 (readRaw cs.flatten).2 ∧
      msgs = (readRaw cs.flatten).1.map stamp0 := by
  have h0 : RawRecv l (.dict l) [] := ⟨l, Or.inl rfl, withBuf_of_find l [] hbuf⟩
  obtain ⟨s1, h1, i1⟩ := raw_feed l _ hbuf cs (.dict l) [] [] h0
  have hci : feedAll .raw cs [] [] = readRaw cs.flatten := C16.feed_chunk_invariant_raw cs hwf
  rw [feedV_raw, hci] at h1 i1
  refine ⟨s1, _, (readRaw cs.flatten).1.map stamp0, by rw [genFeed, h1]; rfl, raw_call l _ hbuf cs.flatten, i1,
    ⟨_, Or.inr ⟨_, rfl⟩, rfl⟩, rfl⟩

/-- The general statement (no hypothesis on the stream) is FALSE for the generated reader as well: the stream `41;`
    delivered as `4`, `1;` hands on `"1"`, one call on `41;` hands on `"41"` (`C16.raw_counterexample_1`). -/
theorem raw_chunk_invariant_general_false_tie (l : List (Val × Val))
    (hbuf : dictFind l (attrKey "buffer") = some (bytesVal [])) :
    ∃ (self1 self2 : Val),
      genFeed Gen.tcpclient.TcpClient_read_raw_buffer (.dict l) [[52], [49, 59]] = .val (self1, [stamp0 ['1']]) ∧
      Gen.tcpclient.TcpClient_read_raw_buffer (.dict (setPair (attrKey "buffer") (bytesVal [52, 49, 59]) l)) =
        .val (.tuple [self2, .tuple [stamp0 ['4', '1']]]) := by
  have h0 : RawRecv l (.dict l) [] := ⟨l, Or.inl rfl, withBuf_of_find l [] hbuf⟩
  obtain ⟨s1, h1, _⟩ := raw_feed l _ hbuf [[52], [49, 59]] (.dict l) [] [] h0
  have hc := C16.raw_counterexample_1
  rw [feedV_raw, hc.2] at h1
  have h2 := raw_call l _ hbuf [52, 49, 59]
  rw [show readRaw [52, 49, 59] = readFmt .raw [52, 49, 59] from rfl, hc.1] at h2
  exact ⟨s1, _, by rw [genFeed, h1]; rfl, h2⟩

/-! ## NetSource -/

/-- successive calls `self.handle_messages(messages)` of a generated method -/
def genCalls (method : Val → Val → Res Val) : Val → List Val → Res Val
  | self, [] => .val self
  | self, c :: cs => method self c >>= fun r => unpack2 r >>= fun p => genCalls method p.1 cs

/-- the `messages` argument: a list of `[msg, t]` items -/
def encCall (c : List (Msg × Val)) : Val := .tuple (c.map Source.encPair)

/-- the attributes `rest` after the recorded calls `raw_pipe_in.send(a)` for `a` in `args`, in order -/
def emitAll (rest : List (Val × Val)) (args : List Val) : List (Val × Val) :=
  args.foldl (fun r a => Source.emitTo r "raw_pipe_in.send" a) rest

/-- `emitAll` appends exactly these events to the event list `__out__` -/
theorem outOf_emitAll (args : List Val) : ∀ rest : List (Val × Val),
    Source.outOf (emitAll rest args) =
      Source.outOf rest ++ args.map (fun a => .tuple [attrKey "raw_pipe_in.send", a]) := by
  induction args with
  | nil => intro rest; simp [emitAll]
  | cons a args ih =>
    intro rest
    have : emitAll rest (a :: args) = emitAll (Source.emitTo rest "raw_pipe_in.send" a) args := rfl
    rw [this, ih, Source.outOf_emitTo]
    simp

/-- the items under `key` in the dictionary passed to one `raw_pipe_in.send({...})` -/
def sentIn (key : String) (args : Val) : List Val :=
  match args with
  | .tuple [.dict d] => (match dictFind d (.str key.toList) with
    | some (.tuple xs) => xs
    | _ => [])
  | _ => []

theorem sentIn_adsb (a c : List Msg) (ta tc : List Val) :
    sentIn "adsb_msg" (Source.sendArgs a ta c tc) = a.map Val.str := by
  simp only [sentIn, Source.sendArgs, Source.encMsgs, Beast.dictFind_cons, Beast.beq_toList, String.reduceEq, decide_false,
    decide_true, if_true, if_false, Bool.false_eq_true]

theorem sentIn_commb (a c : List Msg) (ta tc : List Val) :
    sentIn "commb_msg" (Source.sendArgs a ta c tc) = c.map Val.str := by
  simp only [sentIn, Source.sendArgs, Source.encMsgs, Beast.dictFind_cons, Beast.beq_toList, String.reduceEq, decide_false,
    decide_true, if_true, if_false, Bool.false_eq_true]

/-- the guard `self.stop_flag.value is True` evaluates to `False` -/
def StopClear (rest : List (Val × Val)) : Prop :=
  (pyGetAttr (.dict rest) "stop_flag" >>= fun f => pyGetAttr f "value" >>= fun v => pyIs v (.bool true)) =
    .val (.bool false)

theorem StopClear_emitTo (rest : List (Val × Val)) (label : String) (a : Val) (h : StopClear rest) :
    StopClear (Source.emitTo rest label a) := by
  have hne : "__out__".toList ≠ "stop_flag".toList := Beast.toList_ne (by simp)
  unfold StopClear at h ⊢
  have : pyGetAttr (.dict (Source.emitTo rest label a)) "stop_flag" = pyGetAttr (.dict rest) "stop_flag" := by
    simp only [pyGetAttr, Source.emitTo, attrKey, Beast.dictFind_setPair_ne _ _ hne]
  rw [this]; exact h

/-- what a tie theorem of a `handle_messages` says -/
def HandleTie (method : Val → Val → Res Val) : Prop :=
  ∀ (s : NetSrc) (tsA tsC : List Val) (rest : List (Val × Val)) (msgs : List (Msg × Val)),
    StopClear rest → (∀ p ∈ msgs, 28 ≤ p.1.length → IsHex p.1) →
    method (Source.reprNs s tsA tsC rest) (encCall msgs) =
      .val (.tuple [
        (match (nsHandle s (msgs.map Prod.fst)).2 with
          | none => Source.reprNs (nsHandle s (msgs.map Prod.fst)).1 (Source.nsTs s tsA tsC msgs).1
              (Source.nsTs s tsA tsC msgs).2 rest
          | some (a, c) => Source.reprNs ⟨[], []⟩ [] []
              (Source.emitTo rest "raw_pipe_in.send"
                (Source.sendArgs a (Source.nsTs s tsA tsC msgs).1 c (Source.nsTs s tsA tsC msgs).2))),
        .none])

theorem NetSource_handleTie : HandleTie Gen.source.NetSource_handle_messages :=
  fun s tsA tsC rest msgs hstop hhex => NetSource_handle_messages_tie s tsA tsC rest msgs hstop hhex

theorem RtlSdrSource_handleTie : HandleTie Gen.source.RtlSdrSource_handle_messages :=
  fun s tsA tsC rest msgs hstop hhex => RtlSdrSource_handle_messages_tie s tsA tsC rest msgs hstop hhex

/-- the generated calls simulate `C16.nsRun`; every batch the hand model sends is one recorded
    `raw_pipe_in.send` carrying exactly that batch -/
theorem genCalls_spec (method : Val → Val → Res Val) (htie : HandleTie method) (calls : List (List (Msg × Val))) :
    ∀ (s : NetSrc) (tsA tsC : List Val) (rest : List (Val × Val)), StopClear rest →
      (∀ c ∈ calls, ∀ p ∈ c, 28 ≤ p.1.length → IsHex p.1) →
      ∃ (tsA' tsC' args : List Val),
        genCalls method (Source.reprNs s tsA tsC rest) (calls.map encCall) =
          .val (Source.reprNs (C16.nsRun s (calls.map fun c => c.map Prod.fst)).1 tsA' tsC' (emitAll rest args)) ∧
        args.flatMap (sentIn "adsb_msg") =
          (C16.sentAdsb (C16.nsRun s (calls.map fun c => c.map Prod.fst)).2).map Val.str ∧
        args.flatMap (sentIn "commb_msg") =
          (C16.sentCommb (C16.nsRun s (calls.map fun c => c.map Prod.fst)).2).map Val.str := by
  induction calls with
  | nil =>
    intro s tsA tsC rest _ _
    exact ⟨tsA, tsC, [], rfl, rfl, rfl⟩
  | cons c cs ih =>
    intro s tsA tsC rest hstop hhex
    have hhex' : ∀ c' ∈ cs, ∀ p ∈ c', 28 ≤ p.1.length → IsHex p.1 :=
      fun c' hc' => hhex c' (List.mem_cons_of_mem _ hc')
    have hcall := htie s tsA tsC rest c hstop (hhex c List.mem_cons_self)
    have hn := C16.netsource_call s (c.map Prod.fst)
    simp only [List.map_cons, genCalls, C16.nsRun]
    rw [hcall, bind_val']
    have hu : ∀ a b : Val, unpack2 (.tuple [a, b]) = .val (a, b) := fun _ _ => rfl
    rw [hu, bind_val']
    simp only []
    by_cases hl : (s.adsb ++ (c.map Prod.fst).filter isAdsb).length ≥ 2
    · rw [if_pos hl] at hn
      rw [hn]
      simp only []
      obtain ⟨tsA', tsC', args, h1, h2, h3⟩ := ih ⟨[], []⟩ [] [] _ (StopClear_emitTo rest _ _ hstop) hhex'
      refine ⟨tsA', tsC', _ :: args, h1, ?_, ?_⟩
      · rw [List.flatMap_cons, h2, sentIn_adsb]
        simp [C16.sentAdsb]
      · rw [List.flatMap_cons, h3, sentIn_commb]
        simp [C16.sentCommb]
    · rw [if_neg hl] at hn
      rw [hn]
      simp only []
      obtain ⟨tsA', tsC', args, h1, h2, h3⟩ := ih _ _ _ rest hstop hhex'
      refine ⟨tsA', tsC', args, h1, ?_, ?_⟩
      · rw [h2]; simp [C16.sentAdsb]
      · rw [h3]; simp [C16.sentCommb]

/-- conservation for any `handle_messages` with a tie theorem -/
theorem conservation_of_handleTie (method : Val → Val → Res Val) (htie : HandleTie method)
    (rest : List (Val × Val)) (hstop : StopClear rest) (calls : List (List (Msg × Val)))
    (hhex : ∀ c ∈ calls, ∀ p ∈ c, 28 ≤ p.1.length → IsHex p.1) :
    ∃ (pending : NetSrc) (tsA' tsC' args : List Val),
      genCalls method (Source.reprNs ⟨[], []⟩ [] [] rest) (calls.map encCall) =
        .val (Source.reprNs pending tsA' tsC' (emitAll rest args)) ∧
      args.flatMap (sentIn "adsb_msg") ++ pending.adsb.map Val.str =
        ((calls.map fun c => c.map Prod.fst).flatten.filter
          (fun m => decide (m.length ≥ 28 ∧ (df m = 17 ∨ df m = 18)))).map Val.str ∧
      args.flatMap (sentIn "commb_msg") ++ pending.commb.map Val.str =
        ((calls.map fun c => c.map Prod.fst).flatten.filter
          (fun m => decide (m.length ≥ 28 ∧ (df m = 20 ∨ df m = 21)))).map Val.str ∧
      pending.adsb.length ≤ 1 := by
  obtain ⟨tsA', tsC', args, h1, h2, h3⟩ := genCalls_spec method htie calls ⟨[], []⟩ [] [] rest hstop hhex
  obtain ⟨c1, c2⟩ := C16.netsource_conservation (calls.map fun c => c.map Prod.fst)
  refine ⟨_, tsA', tsC', args, h1, ?_, ?_, C16.netsource_pending_le_one _ ⟨[], []⟩ (by simp)⟩
  · rw [h2, ← List.map_append, c1]
  · rw [h3, ← List.map_append, c2]

/-- **NetSource conservation, generated `NetSource.handle_messages`.**  The receiver starts with empty local buffers
    (any other attributes `rest`; the stop flag is clear), and is called successively with any lists of `[msg, t]`
    items (`msg` a hex string whenever it has 28 characters or more).  Then the run succeeds; the only effects are
    recorded `raw_pipe_in.send({...})` events (`emitAll`, `outOf_emitAll`); the `adsb_msg` entries of all events
    followed by the final `local_buffer_adsb_msg` are exactly the long DF17/18 messages of the input, in order, each
    once; the same for `commb_msg` and DF20/21; at most one ADS-B message is left pending. -/
theorem netsource_conservation_tie (rest : List (Val × Val)) (hstop : StopClear rest)
    (calls : List (List (Msg × Val))) (hhex : ∀ c ∈ calls, ∀ p ∈ c, 28 ≤ p.1.length → IsHex p.1) :
    ∃ (pending : NetSrc) (tsA' tsC' args : List Val),
      genCalls Gen.source.NetSource_handle_messages (Source.reprNs ⟨[], []⟩ [] [] rest) (calls.map encCall) =
        .val (Source.reprNs pending tsA' tsC' (emitAll rest args)) ∧
      args.flatMap (sentIn "adsb_msg") ++ pending.adsb.map Val.str =
        ((calls.map fun c => c.map Prod.fst).flatten.filter
          (fun m => decide (m.length ≥ 28 ∧ (df m = 17 ∨ df m = 18)))).map Val.str ∧
      args.flatMap (sentIn "commb_msg") ++ pending.commb.map Val.str =
        ((calls.map fun c => c.map Prod.fst).flatten.filter
          (fun m => decide (m.length ≥ 28 ∧ (df m = 20 ∨ df m = 21)))).map Val.str ∧
      pending.adsb.length ≤ 1 :=
  conservation_of_handleTie _ NetSource_handleTie rest hstop calls hhex

/-- the same for the duplicated code of `RtlSdrSource.handle_messages` -/
theorem rtlsdrsource_conservation_tie (rest : List (Val × Val)) (hstop : StopClear rest)
    (calls : List (List (Msg × Val))) (hhex : ∀ c ∈ calls, ∀ p ∈ c, 28 ≤ p.1.length → IsHex p.1) :
    ∃ (pending : NetSrc) (tsA' tsC' args : List Val),
      genCalls Gen.source.RtlSdrSource_handle_messages (Source.reprNs ⟨[], []⟩ [] [] rest) (calls.map encCall) =
        .val (Source.reprNs pending tsA' tsC' (emitAll rest args)) ∧
      args.flatMap (sentIn "adsb_msg") ++ pending.adsb.map Val.str =
        ((calls.map fun c => c.map Prod.fst).flatten.filter
          (fun m => decide (m.length ≥ 28 ∧ (df m = 17 ∨ df m = 18)))).map Val.str ∧
      args.flatMap (sentIn "commb_msg") ++ pending.commb.map Val.str =
        ((calls.map fun c => c.map Prod.fst).flatten.filter
          (fun m => decide (m.length ≥ 28 ∧ (df m = 20 ∨ df m = 21)))).map Val.str ∧
      pending.adsb.length ≤ 1 :=
  conservation_of_handleTie _ RtlSdrSource_handleTie rest hstop calls hhex

/-- one call of the generated method sends iff at least two ADS-B messages wait after it (`C16.netsource_sends_iff`):
    then exactly one event is recorded and the buffers are emptied, otherwise nothing is recorded -/
theorem netsource_call_tie (s : NetSrc) (tsA tsC : List Val) (rest : List (Val × Val)) (msgs : List (Msg × Val))
    (hstop : StopClear rest) (hhex : ∀ p ∈ msgs, 28 ≤ p.1.length → IsHex p.1) :
    Gen.source.NetSource_handle_messages (Source.reprNs s tsA tsC rest) (encCall msgs) =
      .val (.tuple [
        (if (s.adsb ++ (msgs.map Prod.fst).filter isAdsb).length ≥ 2 then
          Source.reprNs ⟨[], []⟩ [] [] (Source.emitTo rest "raw_pipe_in.send"
            (Source.sendArgs (s.adsb ++ (msgs.map Prod.fst).filter isAdsb) (Source.nsTs s tsA tsC msgs).1
              (s.commb ++ (msgs.map Prod.fst).filter isCommb) (Source.nsTs s tsA tsC msgs).2))
        else Source.reprNs ⟨s.adsb ++ (msgs.map Prod.fst).filter isAdsb, s.commb ++ (msgs.map Prod.fst).filter isCommb⟩
          (Source.nsTs s tsA tsC msgs).1 (Source.nsTs s tsA tsC msgs).2 rest),
        .none]) := by
  rw [NetSource_handleTie s tsA tsC rest msgs hstop hhex, C16.netsource_call]
  by_cases hl : (s.adsb ++ (msgs.map Prod.fst).filter isAdsb).length ≥ 2
  · rw [if_pos hl, if_pos hl]
  · rw [if_neg hl, if_neg hl]

/-! ## Well-formed streams (semantic corollaries) -/

/-- **Generated Beast reader on a well-formed stream, however it is chunked**: the stream is the serialisation
    (`C16.beastFrame`: divider, body with every `0x1A` doubled) of `frames` followed by the start `1A t` of the next
    frame; the client loop hands on exactly the messages extracted from the frames, in order, each once, and retains
    the incomplete frame start. -/
theorem beast_frames_feed_tie (l : List (Val × Val)) (hbuf : dictFind l (attrKey "buffer") = some (bytesVal []))
    (frames : List (List Byte)) (t : Byte) (hframes : ∀ body ∈ frames, C16.BeastBody body) (ht : t ≠ 0x1A)
    (cs : List (List Byte)) (hcs : cs.flatten = frames.flatMap C16.beastFrame ++ [0x1A, t])
    (hb : ∀ c ∈ cs, ∀ x ∈ c, x < 256) (hlen : cs.flatten.length < whileFuel) :
    genFeed Gen.tcpclient.TcpClient_read_beast_buffer (.dict l) cs =
      .val (.dict (setPair (attrKey "buffer") (bytesVal [0x1A, t]) l),
        (frames.filterMap beastExtract).map stamp0) := by
  obtain ⟨self', msgs, h1, _, h3, h4⟩ := beast_chunk_invariant_tie l hbuf cs hb hlen
  have h := C16.beast_frames_feed frames t hframes ht cs hcs
  rw [C16.feed_chunk_invariant_beast] at h
  have h' : readBeast cs.flatten = (frames.filterMap beastExtract, [0x1A, t]) := h
  rw [h1, h3, h4, h']

/-- **Generated AVR raw reader on a well-formed stream, however it is chunked**: `*hex;sep` sequences give the hex
    strings, in order, each once, and nothing is retained. -/
theorem raw_frames_feed_tie (l : List (Val × Val)) (hbuf : dictFind l (attrKey "buffer") = some (bytesVal []))
    (frames : List (List Byte × List Byte)) (hf : ∀ f ∈ frames, C16.RawFrameOK f)
    (cs : List (List Byte)) (hcs : cs.flatten = frames.flatMap C16.rawFrame) :
    ∃ self', genFeed Gen.tcpclient.TcpClient_read_raw_buffer (.dict l) cs =
        .val (self', (frames.map fun f => f.1.map Char.ofNat).map stamp0) ∧
      RawRecv l self' [] := by
  have hwf : rawWF false cs.flatten = true := by rw [hcs]; exact C16.raw_frames_wf frames hf
  obtain ⟨self1, _, msgs, h1, _, h3, _, h5⟩ := raw_chunk_invariant_tie l hbuf cs hwf
  have h := C16.raw_frames_read frames hf
  have h' : readRaw cs.flatten = (frames.map (fun f => f.1.map Char.ofNat), []) := by rw [hcs]; exact h
  rw [h'] at h3 h5
  exact ⟨self1, by rw [h1, h5], h3⟩

end PyModeS.C16Gen
