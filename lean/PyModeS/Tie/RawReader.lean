/-
  Tie for `TcpClient.read_raw_buffer` (extra/tcpclient.py, property C16): the generated method on the receiver
  dictionary against `readRaw` / `rawScan` of Model/Stream.lean.
-/
import PyModeS.Tie.BeastReader

open PyModeS PyModeS.Py PyModeS.CRC PyModeS.Tie PyModeS.Tie.Beast
namespace PyModeS.Tie.Raw

/-! ### the loop of `read_raw_buffer` with indices (as in the source) instead of buffer suffixes -/

/-- all mutable variables of the loop: `i`, `b`, `ts` (values), `self.current_msg`, `msg_stop`, `messages` (newest
    first, as `out` of `rawScan`) and `msg_start` -/
structure RS where
  i : Val
  b : Val
  ts : Val
  cur : List Char
  stop : Bool
  out : List Msg
  ms : Option Nat

/-- one iteration on item `(k, b)` of `enumerate(self.buffer)` -/
def rsStep (k : Nat) (b : Byte) (st : RS) : RS :=
  let stop1 := if b = 59 then true else st.stop
  let out1 := if b = 59 then st.cur :: st.out else st.out
  let ms1 := if b = 59 then none else st.ms
  let stop2 := if b = 42 then false else stop1
  let cur2 := if b = 42 then [] else st.cur
  let ms2 := if b = 42 then some k else ms1
  let cur3 := if !stop2 && isHexByte b then cur2 ++ [Char.ofNat b] else cur2
  ⟨Val.ofNat k, Val.ofNat b, if b = 59 then .num 0 else st.ts, cur3, stop2, out1, ms2⟩

def rsScan : Nat → List Byte → RS → RS
  | _, [], st => st
  | k, b :: rest, st => rsScan (k + 1) rest (rsStep k b st)

def rsInit : RS := ⟨.none, .none, .none, [], false, [], none⟩

/-- `rawScan` of the hand model keeps `self.buffer[msg_start:]` where the source keeps `msg_start` -/
theorem rawScan_eq_rsScan (buf pre rem : List Byte) (hb : buf = pre ++ rem) (st : RS) :
    rawScan rem st.cur st.stop st.out (st.ms.map (fun k => buf.drop k)) =
      ((rsScan pre.length rem st).out.reverse, ((rsScan pre.length rem st).ms.map (fun k => buf.drop k)).getD []) := by
  induction rem generalizing pre st with
  | nil => rfl
  | cons b rem ih =>
    have hb' : buf = (pre ++ [b]) ++ rem := by simp [hb]
    have hd : buf.drop pre.length = b :: rem := by simp [hb]
    have := ih (pre ++ [b]) hb' (rsStep pre.length b st)
    rw [List.length_append, List.length_singleton] at this
    rw [rsScan, ← this]
    rw [rawScan]
    unfold rsStep
    by_cases h59 : b = 59 <;> by_cases h42 : b = 42 <;> simp [h59, h42, hd]


/-! ### encodings -/

/-- the receiver `l` with `self.current_msg = cur` -/
def selfOf (l : List (Val × Val)) (cur : List Char) : Val :=
  .dict (setPair (attrKey "current_msg") (.str cur) l)

def encRS (l : List (Val × Val)) (st : RS) : Val × Val × Val × Val × Val × Val × Val :=
  (selfOf l st.cur, st.i, st.b, st.ts, encStamped st.out.reverse, .bool st.stop, Val.ofOptNat st.ms)

theorem get_cur (l : List (Val × Val)) (cur : List Char) :
    pyGetAttr (selfOf l cur) "current_msg" = .val (.str cur) := by
  simp only [pyGetAttr, selfOf, attrKey, dictFind_setPair_same]

theorem set_cur (l : List (Val × Val)) (cur cur' : List Char) :
    pySetAttr (selfOf l cur) "current_msg" (.str cur') = .val (selfOf l cur') := by
  simp only [pySetAttr, selfOf, attrKey, setPair_setPair]

theorem get_buf_cur (l : List (Val × Val)) (cur : List Char) :
    pyGetAttr (selfOf l cur) "buffer" = pyGetAttr (.dict l) "buffer" := by
  have hne : "current_msg".toList ≠ "buffer".toList := Beast.toList_ne (by simp)
  simp only [pyGetAttr, selfOf, attrKey, dictFind_setPair_ne _ _ hne]

/-- loop invariant: a body that simulates `rsStep` on every item makes the whole loop simulate `rsScan` -/
theorem loop_inv (l : List (Val × Val))
    (f : Val → Val × Val × Val × Val × Val × Val × Val → Res (ForInStep (Val × Val × Val × Val × Val × Val × Val)))
    (hstep : ∀ k b st, f (.tuple [Val.ofNat k, Val.ofNat b]) (encRS l st) = .val (.yield (encRS l (rsStep k b st))))
    (rem : List Byte) (k : Nat) (st : RS) :
    forIn (enumFrom k (rem.map Val.ofNat)) (encRS l st) f = Res.val (encRS l (rsScan k rem st)) := by
  induction rem generalizing k st with
  | nil => rfl
  | cons b rem ih =>
    rw [List.map_cons, enumFrom, List.forIn_cons, hstep, bind_val']
    simp only []
    rw [ih, rsScan]

theorem pyChr_ofNat (n : Nat) : pyChr (Val.ofNat n) = .val (.str [Char.ofNat n]) := by
  simp [pyChr, int?_ofNat]

theorem pyAppend_encStamped (xs : List Msg) (c : Msg) :
    pyAppend (encStamped xs) (.tuple [.str c, .num 0]) = .val (encStamped (xs ++ [c])) := by
  simp [pyAppend, encStamped]

theorem isHexByte_eq (b : Nat) : isHexByte b = ((decide (48 ≤ b) && decide (b ≤ 57)) ||
    (decide (65 ≤ b) && decide (b ≤ 70)) || (decide (97 ≤ b) && decide (b ≤ 102))) := by
  simp [isHexByte, Bool.decide_or, Bool.decide_and, Bool.or_assoc]

end PyModeS.Tie.Raw
namespace PyModeS.Tie
open PyModeS.Tie.Raw PyModeS.Tie.Beast

/-- `read_raw_buffer()` on any receiver `l` whose `buffer` attribute holds the bytes `buf` (`current_msg` may be absent:
    it is created by the first assignment): the returned `[msg, ts]` list is `(readRaw buf).1` (every `ts` is the `0`
    of `Ext.time_time`), `self.buffer` becomes `(readRaw buf).2`, and `self.current_msg` (which the hand model keeps
    only inside `rawScan`) is left at the characters collected last, `(rsScan 0 buf rsInit).cur`. No hypothesis on the
    byte values is needed. -/
theorem TcpClient_read_raw_buffer_tie (l : List (Val × Val)) (buf : List Byte)
    (hbuf : dictFind l (attrKey "buffer") = some (encBytes buf)) :
    Gen.tcpclient.TcpClient_read_raw_buffer (.dict l) =
      .val (.tuple [.dict (setPair (attrKey "buffer") (encBytes (readRaw buf).2)
          (setPair (attrKey "current_msg") (.str (rsScan 0 buf rsInit).cur) l)),
        encStamped (readRaw buf).1]) := by
  unfold Gen.tcpclient.TcpClient_read_raw_buffer
  have h0 : pySetAttr (.dict l) "current_msg" (.str []) = .val (selfOf l []) := rfl
  have hb : pyGetAttr (.dict l) "buffer" = .val (encBytes buf) := by simp only [pyGetAttr, hbuf]
  have he : pyEnumerate (encBytes buf) = .val (.tuple (enumFrom 0 (buf.map Val.ofNat))) := rfl
  have hit : ∀ x, pyIter (.tuple x) = .val x := fun _ => rfl
  simp only []
  rw [h0, bind_val', get_buf_cur, hb, bind_val', he, bind_val', hit, bind_val']
  have hinit : (selfOf l [], Val.none, Val.none, Val.none, Val.tuple [], Val.bool false, Val.none) =
      encRS l rsInit := rfl
  rw [hinit, loop_inv l _ ?step, bind_val']
  case step =>
    intro k b st
    obtain ⟨i0, b0, t0, cur, stop, out, ms⟩ := st
    have hu : pyUnpackCheck (.tuple [Val.ofNat k, Val.ofNat b]) 2 = .val () := rfl
    have h0 : pyIdxN (.tuple [Val.ofNat k, Val.ofNat b]) 0 = .val (Val.ofNat k) := rfl
    have h1 : pyIdxN (.tuple [Val.ofNat k, Val.ofNat b]) 1 = .val (Val.ofNat b) := rfl
    have ht : Gen.Ext.time_time = .val (.num 0) := rfl
    simp only [encRS, hu, h0, h1, ht, bind_val', pyEq_ofNat_lit, pyLe_lit_ofNat, pyLe_ofNat_lit, get_cur, set_cur,
      pyChr_ofNat, pyAdd_str, pyTruth_bool, pyNot_bool, Res.pure_eq, decide_eq_true_eq, and_sc, pyAppend_encStamped]
    simp only [rsStep, isHexByte_eq]
    -- what is left is propositional in `b = 59`, `b = 42`, `stop` and the three digit ranges
    generalize (decide (48 ≤ b) && decide (b ≤ 57)) = q1
    generalize (decide (65 ≤ b) && decide (b ≤ 70)) = q2
    generalize (decide (97 ≤ b) && decide (b ≤ 102)) = q3
    by_cases h59 : b = 59
    · have h42 : ¬ b = 42 := by omega
      simp only [eq_true h59, eq_false h42, if_true, if_false, List.reverse_cons]
      cases q1 <;> cases q2 <;> cases q3 <;> rfl
    · by_cases h42 : b = 42
      · simp only [eq_false h59, eq_true h42, if_true, if_false]
        cases q1 <;> cases q2 <;> cases q3 <;> rfl
      · simp only [eq_false h59, eq_false h42, if_false]
        cases stop <;> cases q1 <;> cases q2 <;> cases q3 <;> rfl
  have hr : readRaw buf = ((rsScan 0 buf rsInit).out.reverse,
      ((rsScan 0 buf rsInit).ms.map (fun k => buf.drop k)).getD []) :=
    rawScan_eq_rsScan buf [] buf rfl rsInit
  rw [hr]
  generalize rsScan 0 buf rsInit = R
  obtain ⟨i1, b1, t1, cur, stop, out, ms⟩ := R
  simp only [encRS]
  cases ms with
  | none =>
    have e1 : pyIs (Val.ofOptNat none) Val.none = .val (.bool true) := rfl
    rw [e1, bind_val']
    rfl
  | some k =>
    have e1 : pyIs (Val.ofOptNat (some k)) Val.none = .val (.bool false) := by
      simp [pyIs, Val.ofOptNat, Val.beq]
    have e2 : Val.ofOptNat (some k) = Val.ofNat k := rfl
    rw [e1, bind_val']
    simp only [pyTruth_bool, Bool.false_eq_true, if_false]
    rw [get_buf_cur, hb, bind_val', e2, pySlice_bytes_from, bind_val']
    rfl

end PyModeS.Tie
