/-
  Tie: generated `decoder/surv.py` and `decoder/allcall.py` = hand model (`Model/Misc.lean`), as exported
  (i.e. including the DF check of each module's decorator).

  The hand model keeps only the numeric fields; where the Python function also returns a text label
  (`fs`, `um`, `capability`) the label is given explicitly by `fsText` / `umText` / `caText` below, so the
  tie is about the complete Python result.
-/
import PyModeS.Tie.Common
import PyModeS.Tie.Icao
import PyModeS.Tie.Bds61
import PyModeS.Generated.Src.surv
import PyModeS.Generated.Src.allcall
import PyModeS.Model.Misc

namespace PyModeS.Tie
open PyModeS PyModeS.Py PyModeS.CRC

/-! ### the DF guards -/

theorem df_in45 (m : Msg) :
    pyNotIn (Val.ofNat (PyModeS.df m)) (Val.tuple [Val.num 4, Val.num 5]) =
      .val (.bool (!decide (PyModeS.df m ∈ [4, 5]))) := by
  have hin := pyNotIn_ofNat (PyModeS.df m) [4, 5]
  simp only [List.map_cons, List.map_nil, Nat.cast_ofNat] at hin
  exact hin

/-- opening of every `surv` function: the decorator's DF check against the hand model's `survGuard` -/
theorem surv_guard {α} (m : Msg) (K : Res Val) (f : Res α) (enc : α → Res Val)
    (hK : PyModeS.df m = 4 ∨ PyModeS.df m = 5 → K = (f >>= enc)) :
    (if pyTruth (.bool (!decide (PyModeS.df m ∈ [4, 5]))) = true then ((Res.rte : Res PUnit) >>= fun _ => K) else K) =
      (survGuard (hex2binM m) f >>= enc) := by
  unfold survGuard
  simp only []
  rw [← df_eq]
  by_cases hd : PyModeS.df m ∈ [4, 5]
  · have hd' := hd
    simp only [List.mem_cons, List.not_mem_nil, or_false] at hd'
    have : ¬ (PyModeS.df m ≠ 4 ∧ PyModeS.df m ≠ 5) := by omega
    simp only [hd, decide_true, Bool.not_true, pyTruth_bool, Bool.false_eq_true, if_false, this]
    exact hK hd'
  · have hd' := hd
    simp only [List.mem_cons, List.not_mem_nil, or_false] at hd'
    have : (PyModeS.df m ≠ 4 ∧ PyModeS.df m ≠ 5) := by omega
    simp only [hd, decide_false, Bool.not_false, pyTruth_bool, if_true]
    rw [if_pos this]
    rfl

/-! ### surv.fs -/

/-- the text label `surv.fs` returns next to the FS value -/
def fsText (n : Nat) : Val :=
  if n = 0 then .str "no alert, no SPI, aircraft is airborne".toList
  else if n = 1 then .str "no alert, no SPI, aircraft is on-ground".toList
  else if n = 2 then .str "alert, no SPI, aircraft is airborne".toList
  else if n = 3 then .str "alert, no SPI, aircraft is on-ground".toList
  else if n = 4 then .str "alert, SPI, aircraft is airborne or on-ground".toList
  else if n = 5 then .str "no alert, SPI, aircraft is airborne or on-ground".toList
  else .str []

theorem pyEq_ofNat_lits (n : Nat) :
    pyEq (Val.ofNat n) (Val.num 0) = .val (.bool (decide (n = 0))) ∧
    pyEq (Val.ofNat n) (Val.num 1) = .val (.bool (decide (n = 1))) ∧
    pyEq (Val.ofNat n) (Val.num 2) = .val (.bool (decide (n = 2))) ∧
    pyEq (Val.ofNat n) (Val.num 3) = .val (.bool (decide (n = 3))) ∧
    pyEq (Val.ofNat n) (Val.num 4) = .val (.bool (decide (n = 4))) ∧
    pyEq (Val.ofNat n) (Val.num 5) = .val (.bool (decide (n = 5))) ∧
    pyEq (Val.ofNat n) (Val.num 6) = .val (.bool (decide (n = 6))) ∧
    pyEq (Val.ofNat n) (Val.num 7) = .val (.bool (decide (n = 7))) :=
  ⟨pyEq_ofNat_zero n, pyEq_ofNat_one n, pyEq_ofNat_lit n 2, pyEq_ofNat_lit n 3, pyEq_ofNat_lit n 4, pyEq_ofNat_lit n 5,
    pyEq_ofNat_lit n 6, pyEq_ofNat_lit n 7⟩

/-- a pair whose second member is chosen by a test -/
theorem pair_ite (c : Prop) [Decidable c] (a u v : Val) :
    (if c then Val.tuple [a, u] else Val.tuple [a, v]) = Val.tuple [a, if c then u else v] := by
  split <;> rfl

/-- `surv.fs(msg)`: the pair (FS, text) -/
theorem fs_tie (m : Msg) (h : IsHex m) (hl : 2 ≤ m.length) :
    Gen.surv.fs (.str m) = (survFs (hex2binM m) >>= fun n => .val (.tuple [Val.ofNat n, fsText n])) := by
  unfold Gen.surv.fs survFs
  simp only [df_str m h hl, bind_val', df_in45]
  apply surv_guard
  intro _
  unfold Gen.surv.fs_undecorated
  have hne : m ≠ [] := by intro e; simp [e] at hl
  have hs : 0 < (slice 5 8 (hex2binM m)).length := by rw [slice_length, hex2binM_length]; omega
  simp only [hex2bin_str m h hne, bind_val', pySliceNN_ofBits, bin2int_ofBits, bin2intR_of_length hs, pyEq_ofNat_zero,
    pyEq_ofNat_one, pyEq_ofNat_lit, pyTruth_bool, decide_eq_true_eq, Res.pure_eq, fsText, Res.ite_val, pair_ite]

/-! ### surv.um -/

/-- the text label `surv.um` returns next to IIS and IDS -/
def umText (ids : Nat) : Val :=
  if ids = 3 then .str "Comm-D interrogator identifier code".toList
  else if ids = 2 then .str "Comm-C interrogator identifier code".toList
  else if ids = 1 then .str "Comm-B interrogator identifier code".toList
  else .none

/-- `surv.um(msg)`: the triple (IIS, IDS, text) -/
theorem um_tie (m : Msg) (h : IsHex m) (hl : 2 ≤ m.length) :
    Gen.surv.um (.str m) =
      (survUm (hex2binM m) >>= fun p => .val (.tuple [Val.ofNat p.1, Val.ofNat p.2, umText p.2])) := by
  unfold Gen.surv.um survUm
  simp only [df_str m h hl, bind_val', df_in45]
  apply surv_guard
  intro _
  unfold Gen.surv.um_undecorated
  have hne : m ≠ [] := by intro e; simp [e] at hl
  simp only [hex2bin_str m h hne, bind_val', pySliceNN_ofBits, bin2int_ofBits]
  generalize bin2intR (slice 13 17 (hex2binM m)) = r1
  rcases r1 with (iis | _ | _)
  swap; · rfl
  swap; · rfl
  generalize bin2intR (slice 17 19 (hex2binM m)) = r2
  rcases r2 with (ids | _ | _)
  swap; · rfl
  swap; · rfl
  -- four independent tests, the last one that holds wins; `umText` asks in the opposite order
  by_cases h3 : ids = 3
  · subst h3; rfl
  by_cases h2 : ids = 2
  · subst h2; rfl
  by_cases h1 : ids = 1
  · subst h1; rfl
  simp only [bind_val', pyEq_ofNat_zero, pyEq_ofNat_one, pyEq_ofNat_lit, h1, h2, h3, decide_false, pyTruth_bool,
    Bool.false_eq_true, if_false, ite_self, Res.pure_eq, umText]

/-! ### surv.altitude, surv.identity -/

/-- `surv.altitude(msg)` (named `surv_altitude_tie`: `altitude_tie` is `common.altitude`) -/
theorem surv_altitude_tie (m : Msg) (h : IsHex m) (hl : 2 ≤ m.length) :
    Gen.surv.altitude (.str m) = (survAltitude (hex2binM m) >>= fun o => .val (Val.ofOptInt o)) := by
  unfold Gen.surv.altitude survAltitude
  simp only [df_str m h hl, bind_val', df_in45]
  apply surv_guard
  intro _
  unfold Gen.surv.altitude_undecorated
  simp only [altcode_tie m h hl, altcode_eq]

theorem identity_tie (m : Msg) (h : IsHex m) (hl : 2 ≤ m.length) :
    Gen.surv.identity (.str m) = (survIdentity (hex2binM m) >>= fun l => .val (Val.ofDigits l)) := by
  unfold Gen.surv.identity survIdentity
  simp only [df_str m h hl, bind_val', df_in45]
  apply surv_guard
  intro _
  unfold Gen.surv.identity_undecorated
  simp only [idcode_tie m h hl, idcode_eq]

/-! ### allcall.py -/

theorem df_ne11 (m : Msg) :
    pyNe (Val.ofNat (PyModeS.df m)) (Val.num 11) = .val (.bool (!decide (PyModeS.df m = 11))) := by
  have := ofNat_beq (PyModeS.df m) 11
  simp only [Nat.cast_ofNat] at this
  simp only [pyNe, this]

/-- opening of every `allcall` function: the decorator's DF check against the hand model's `allcallGuard` -/
theorem allcall_guard {α} (m : Msg) (K : Res Val) (f : Res α) (enc : α → Res Val)
    (hK : PyModeS.df m = 11 → K = (f >>= enc)) :
    (if pyTruth (.bool (!decide (PyModeS.df m = 11))) = true then ((Res.rte : Res PUnit) >>= fun _ => K) else K) =
      (allcallGuard (hex2binM m) f >>= enc) := by
  unfold allcallGuard
  rw [← df_eq]
  by_cases hd : PyModeS.df m = 11
  · simp only [hd, decide_true, Bool.not_true, pyTruth_bool, Bool.false_eq_true, if_false, ne_eq, not_true_eq_false]
    exact hK hd
  · simp only [hd, decide_false, Bool.not_false, pyTruth_bool, if_true, ne_eq, not_false_eq_true]
    rfl

/-- the text label `allcall.capability` returns next to the CA value -/
def caText (n : Nat) : Val :=
  if n = 0 then .str "level 1 transponder".toList
  else if n = 4 then .str "level 2 transponder, ability to set CA to 7, on ground".toList
  else if n = 5 then .str "level 2 transponder, ability to set CA to 7, airborne".toList
  else if n = 6 then .str "evel 2 transponder, ability to set CA to 7, either airborne or ground".toList
  else if n = 7 then
    .str "Downlink Request value is not 0, or the Flight Status is 2, 3, 4 or 5, and either airborne or on the ground".toList
  else .none

/-- `allcall.capability(msg)`: the pair (CA, text) -/
theorem capability_tie (m : Msg) (h : IsHex m) (hl : 2 ≤ m.length) :
    Gen.allcall.capability (.str m) =
      (PyModeS.capability (hex2binM m) >>= fun n => .val (.tuple [Val.ofNat n, caText n])) := by
  unfold Gen.allcall.capability PyModeS.capability
  simp only [df_str m h hl, bind_val', df_ne11]
  apply allcall_guard
  intro _
  unfold Gen.allcall.capability_undecorated
  have hne : m ≠ [] := by intro e; simp [e] at hl
  have hs : 0 < (slice 5 8 (hex2binM m)).length := by rw [slice_length, hex2binM_length]; omega
  simp only [hex2bin_str m h hne, bind_val', pySliceNN_ofBits, bin2int_ofBits, bin2intR_of_length hs, pyEq_ofNat_zero,
    pyEq_ofNat_lit, pyTruth_bool, decide_eq_true_eq, Res.pure_eq, caText, Res.ite_val, pair_ite]

/-- `allcall.interrogator(msg)`: the interrogator-code string -/
theorem interrogator_tie (m : Msg) (h : IsHex m) (hl : 6 ≤ m.length) :
    Gen.allcall.interrogator (.str m) =
      (PyModeS.interrogator (hex2binM m) >>= fun s => .val (.str s.toList)) := by
  unfold Gen.allcall.interrogator PyModeS.interrogator
  simp only [df_str m h (by omega), bind_val', df_ne11]
  apply allcall_guard
  intro _
  unfold Gen.allcall.interrogator_undecorated
  simp only [crc_false_bits m h hl, bind_val']
  generalize crcBitsPy (hex2binM m) = r
  simp only [pyGt_ofNat_lit, pyLt_ofNat_lit, bind_val', pyTruth_bool, decide_eq_true_eq]
  by_cases h79 : 79 < r
  · simp only [h79, if_true, bind_val', Res.pure_eq]
    rfl
  · by_cases h16 : r < 16
    · simp only [h79, h16, if_true, if_false, bind_val', Res.pure_eq, pyStr_ofNat, pyAdd_str, String.toList_append]
      rfl
    · have hsub : pySub (Val.ofNat r) (Val.num 16) = .val (Val.ofNat (r - 16)) := by
        have : 16 ≤ r := by omega
        simp [Val.ofNat, Nat.cast_sub this]
      simp only [h79, h16, if_false, bind_val', Res.pure_eq, hsub, pyStr_ofNat, pyAdd_str,
        String.toList_append]
      rfl

/-- `allcall.icao(msg)`: the DF 11 check, then `common.icao` (which for DF 11 is `msg[2:8].upper()`) -/
theorem allcall_icao_tie (m : Msg) (h : IsHex m) (hl : 6 ≤ m.length) :
    Gen.allcall.icao (.str m) =
      (allcallGuard (hex2binM m) (.val (PyModeS.icao m)) >>= fun o => .val (Val.ofOptStr o)) := by
  unfold Gen.allcall.icao
  simp only [df_str m h (by omega), bind_val', df_ne11]
  apply allcall_guard
  intro _
  unfold Gen.allcall.icao_undecorated
  simp only [icao_tie m h hl, bind_val']

/-- on DF 11 the result of `allcall.icao` is the AA field in upper case -/
theorem allcall_icao_df11 (m : Msg) (h : IsHex m) (hl : 6 ≤ m.length) (hd : PyModeS.df m = 11) :
    Gen.allcall.icao (.str m) = .val (.str ((slice 2 8 m).map Char.toUpper)) := by
  rw [allcall_icao_tie m h hl]
  have : dfB (hex2binM m) = 11 := by rw [← df_eq]; exact hd
  simp [allcallGuard, this, PyModeS.icao, hd, Val.ofOptStr]

end PyModeS.Tie
