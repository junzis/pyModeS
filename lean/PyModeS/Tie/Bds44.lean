/-
  Tie: generated `bds44.py` = hand model (`Model/Commb.lean`) on every 28-digit hex frame.
-/
import PyModeS.Tie.Commb
import PyModeS.Generated.Src.bds44

namespace PyModeS.Tie
open PyModeS PyModeS.Py PyModeS.CRC

/-- Python result of `wind44`: `(speed, direction)`, or `(None, None)` when the status bit is 0 -/
def encWind44 : Option (Nat × Rat) → Val
  | none => .tuple [.none, .none]
  | some (s, dir) => .tuple [Val.ofNat s, .num dir]

/-- Python result of `temp44`: `(temp, temp_alternative)` -/
def encTemp44 (t : Rat × Rat) : Val := .tuple [.num t.1, .num t.2]

theorem wind44_tie (m : Msg) (h : IsHex m) (hl : m.length = 28) :
    Gen.bds44.wind44 (.str m) = (PyModeS.wind44 (hex2binM m) >>= fun o => .val (encWind44 o)) := by
  unfold Gen.bds44.wind44 PyModeS.wind44
  refine field_open m h hl _ _ _ fun d _ => ?_
  simp only [pyIdxN_ofBits, pySliceNN_ofBits, bin2int_ofBits, bind_assoc, Res.bind_val, pyInt1_digit]
  rcases idxR d 4 with ((_ | _) | _ | _)
  · rfl
  · rcases bin2intR (slice 5 14 d) with (sp | _ | _)
    · rcases bin2intR (slice 14 23 d) with (di | _ | _)
      · simp [encWind44, Val.ofNat, pyNot, Val.truth]
      · rfl
      · rfl
    · rfl
    · rfl
  · rfl
  · rfl

theorem temp44_tie (m : Msg) (h : IsHex m) (hl : m.length = 28) :
    Gen.bds44.temp44 (.str m) = (PyModeS.temp44 (hex2binM m) >>= fun t => .val (encTemp44 t)) := by
  unfold Gen.bds44.temp44 PyModeS.temp44
  refine field_open m h hl _ _ _ fun d _ => (signed_step d 23 24 34 1024 _).trans ?_
  simp only [bind_assoc, Res.pure_eq, Res.bind_val, pyMul_num, Nat.cast_ofNat, mul_one_div, encTemp44]

theorem p44_tie (m : Msg) (h : IsHex m) (hl : m.length = 28) :
    Gen.bds44.p44 (.str m) = (PyModeS.p44 (hex2binM m) >>= fun o => .val (Val.ofOptRat o)) := by
  unfold Gen.bds44.p44 PyModeS.p44
  exact field_open m h hl _ _ _ fun d _ => ufield_int_step d 34 35 46

theorem hum44_tie (m : Msg) (h : IsHex m) (hl : m.length = 28) :
    Gen.bds44.hum44 (.str m) = (PyModeS.hum44 (hex2binM m) >>= fun o => .val (Val.ofOptRat o)) := by
  unfold Gen.bds44.hum44 PyModeS.hum44
  refine field_open m h hl _ _ _ fun d _ => ufield_step d 49 50 56 (100 / 64) 0 _ fun v => ?_
  rw [Val.ofNat, pyMul_num, Res.bind_val, pyDiv_num _ _ (by norm_num), add_zero, mul_div_assoc]

theorem turb44_tie (m : Msg) (h : IsHex m) (hl : m.length = 28) :
    Gen.bds44.turb44 (.str m) = (PyModeS.turb44 (hex2binM m) >>= fun o => .val (Val.ofOptRat o)) := by
  unfold Gen.bds44.turb44 PyModeS.turb44
  exact field_open m h hl _ _ _ fun d _ => ufield_int_step d 46 47 49

/-- `vw, dw = wind44(msg); if vw is not None and vw > 250: return False` -/
private theorem windGuard_tie {g : Res Val} {r : Res (Option (Nat × Rat))}
    (hg : g = (r >>= fun o => .val (encWind44 o))) (k : Res Val) (k' : Res Bool)
    (hk : k = (k' >>= fun b => .val (.bool b))) :
    (do let t ← g
        pyUnpackCheck t 2
        let vw ← pyIdxN t 0
        let _ ← pyIdxN t 1
        if pyTruth (← (do let b ← pyIsNot vw Val.none; if pyTruth b then pyGt vw (Val.num 250) else pure b)) then
          return (Val.bool false)
        k) =
    ((do let w ← r
         if (match w with | some (vw, _) => decide (vw > 250) | none => false) then pure false else k') >>=
      fun b => .val (.bool b)) := by
  subst hg
  rcases r with ((_ | ⟨vw, dw⟩) | _ | _)
  · exact hk
  · have hu : pyUnpackCheck (.tuple [Val.ofNat vw, .num dw]) 2 = .val () := rfl
    have h0 : pyIdxN (.tuple [Val.ofNat vw, .num dw]) 0 = .val (.num vw) := rfl
    have h1 : pyIdxN (.tuple [Val.ofNat vw, .num dw]) 1 = .val (.num dw) := rfl
    simp only [Res.bind_val, encWind44, hu, h0, h1, pyIsNot_none_num, pyTruth_bool, if_true, pyGt_num,
      Nat.ofNat_lt_cast, gt_iff_lt]
    by_cases c : 250 < vw
    · simp only [c, decide_true, if_true]
      rfl
    · simp only [c, decide_false, Bool.false_eq_true, if_false]
      exact hk
  · rfl
  · rfl

theorem is44_tie (m : Msg) (h : IsHex m) (hl : m.length = 28) :
    Gen.bds44.is44 (.str m) = (PyModeS.is44 (hex2binM m) >>= fun b => .val (.bool b)) := by
  unfold Gen.bds44.is44 PyModeS.is44
  refine pred_open m h hl _ _ fun d _ => ?_
  refine status_step d [(5, 6, 23), (35, 36, 46), (47, 48, 49), (50, 51, 56)] (by decide) _ _ ?_
  refine guardInt_step d 0 4 (P := (· > 4)) (fun n => ?_) _ _ ?_
  · simp only [Val.ofNat, pyGt_num, Nat.ofNat_lt_cast, gt_iff_lt]
  refine windGuard_tie (wind44_tie m h hl) _ _ ?_
  -- `temp, temp2 = temp44(msg); if min(temp, temp2) > 60 or max(temp, temp2) < -80: return False`
  rw [temp44_tie m h hl]
  rcases PyModeS.temp44 (hex2binM m) with (⟨t1, t2⟩ | _ | _)
  · have hu : pyUnpackCheck (.tuple [.num t1, .num t2]) 2 = .val () := rfl
    have h0 : pyIdxN (.tuple [.num t1, .num t2]) 0 = .val (.num t1) := rfl
    have h1 : pyIdxN (.tuple [.num t1, .num t2]) 1 = .val (.num t2) := rfl
    simp only [Res.bind_val, encTemp44, hu, h0, h1, pyMin2_num, pyMax2_num, pyGt_num, pyLt_num, pyTruth_bool,
      gt_iff_lt, Res.pure_eq]
    by_cases c1 : 60 < min t1 t2
    · simp [c1]
    by_cases c2 : max t1 t2 < -80 <;> simp [c1, c2]
  · rfl
  · rfl

end PyModeS.Tie
