/-
  What the ties of the Comm-B register modules (`bds10.py` … `bds60.py`) share.  A field decoder there reads the MB
  field, tests a status bit, reads an unsigned or two's-complement field and scales it; a register predicate rejects an
  all-zero MB field, runs its `wrongstatus` rules, then a sequence of guards that each `return False`.  Each such piece
  is tied here once, about variables, with the rest of the function as a continuation `k` (generated) / `k'` (model);
  a tie theorem applies the lemmas in the order of the source and is left with no case analysis.
-/
import PyModeS.Tie.Basic

namespace PyModeS.Tie
open PyModeS PyModeS.Py PyModeS.CRC

/-- a Boolean result read through the encoding of the tie -/
theorem bool_enc_iff (x : Res Bool) (c : Bool) :
    (x >>= fun b => (.val (Val.bool b) : Res Val)) = .val (Val.bool c) ↔ x = .val c := by
  cases x with
  | val b => cases b <;> cases c <;> simp
  | rte => simp
  | exc => simp

/-! ### field decoders -/

/-- both sides read the MB field of a 28-digit frame -/
theorem field_open {α} (m : Msg) (h : IsHex m) (hl : m.length = 28) (enc : α → Val) (k : Val → Res Val)
    (k' : Bits → Res α) (hk : ∀ d : Bits, d.length = 56 → k (Val.ofBits d) = (k' d >>= fun o => .val (enc o))) :
    (do let d ← Gen.py_common.hex2bin (← Gen.py_common.data (.str m))
        k d) =
    ((do let d ← dataR (hex2binM m)
         k' d) >>= fun o => .val (enc o)) := by
  simp only [data_str, Res.bind_val, hex2bin_data m h hl, dataR_hex m hl]
  exact hk _ (mb_length m hl)

/-- `if d[sb] == "0": return None` -/
theorem gate_step (d : Bits) (sb : Nat) (k : Res Val) :
    (do if pyTruth (← pyEq (← pyIdxN (Val.ofBits d) sb) (Val.str ['0'])) then return Val.none
        k) =
    (do let s ← idxR d sb
        if s = false then pure Val.none else k) := by
  rw [pyIdxN_ofBits]
  rcases idxR d sb with ((_ | _) | _ | _) <;> rfl

/-- a status-gated unsigned field, whatever arithmetic `f` the source does on the integer -/
theorem ufield_step (d : Bits) (sb a b : Nat) (scale off : Rat) (f : Val → Res Val)
    (hf : ∀ v : Nat, f (Val.ofNat v) = .val (.num (v * scale + off))) :
    (do if pyTruth (← pyEq (← pyIdxN (Val.ofBits d) sb) (Val.str ['0'])) then return Val.none
        f (← Gen.py_common.bin2int (← pySliceNN (Val.ofBits d) a b))) =
    (ufield d sb a b scale off >>= fun o => .val (Val.ofOptRat o)) := by
  rw [gate_step, ufield]
  rcases idxR d sb with ((_ | _) | _ | _)
  · rfl
  · simp only [pySliceNN_ofBits, bin2int_ofBits, Res.bind_val]
    rcases bin2intR (slice a b d) with (v | _ | _)
    · exact hf v
    · rfl
    · rfl
  · rfl
  · rfl

/-- a status-gated unsigned field returned as it is -/
theorem ufield_int_step (d : Bits) (sb a b : Nat) :
    (do if pyTruth (← pyEq (← pyIdxN (Val.ofBits d) sb) (Val.str ['0'])) then return Val.none
        Gen.py_common.bin2int (← pySliceNN (Val.ofBits d) a b)) =
    (ufield d sb a b 1 0 >>= fun o => .val (Val.ofOptRat o)) := by
  simpa only [bind_pure] using
    ufield_step d sb a b 1 0 pure fun v => by simp only [Val.ofNat, mul_one, add_zero, Res.pure_eq]

/-- a two's-complement field: sign bit `sg`, magnitude `d[a:b]`, `W = 2 ^ (b - a)` -/
theorem signed_step (d : Bits) (sg a b W : Nat) (f : Val → Res Val) :
    (do let sign ← pyInt1 (← pyIdxN (Val.ofBits d) sg)
        let mut value ← Gen.py_common.bin2int (← pySliceNN (Val.ofBits d) a b)
        if pyTruth sign then
          value ← pySub value (Val.num W)
        f value) =
    (do let sign ← idxR d sg
        let v ← bin2intR (slice a b d)
        f (.num ((if sign then (v : Int) - W else v : Int) : Rat))) := by
  simp only [pyIdxN_ofBits, pySliceNN_ofBits, bin2int_ofBits, bind_assoc, Res.bind_val, pyInt1_digit]
  rcases idxR d sg with (sign | _ | _)
  · rcases bin2intR (slice a b d) with (v | _ | _)
    · cases sign
      · simp [Val.ofNat]
      · simp [Val.ofNat]
    · rfl
    · rfl
  · rfl
  · rfl

/-- a status-gated two's-complement field, whatever arithmetic `f` the source does on the signed integer: scaling, then
    possibly a map `g` of the scaled value -/
theorem sfield_map_step (d : Bits) (sb sg a b W : Nat) (hW : W = 2 ^ (b - a)) (scale : Rat) (g : Rat → Rat)
    (f : Val → Res Val) (hf : ∀ x : Int, f (.num x) = .val (.num (g (x * scale)))) :
    (do if pyTruth (← pyEq (← pyIdxN (Val.ofBits d) sb) (Val.str ['0'])) then return Val.none
        let sign ← pyInt1 (← pyIdxN (Val.ofBits d) sg)
        let mut value ← Gen.py_common.bin2int (← pySliceNN (Val.ofBits d) a b)
        if pyTruth sign then
          value ← pySub value (Val.num W)
        f value) =
    (sfield d sb sg a b scale >>= fun o => .val (Val.ofOptRat (o.map g))) := by
  rw [gate_step, signed_step, sfield, hW]
  rcases idxR d sb with ((_ | _) | _ | _)
  · rfl
  · simp only [Res.bind_val, Bool.true_eq_false, if_false, bind_assoc, Res.pure_eq, hf]
    rfl
  · rfl
  · rfl

theorem sfield_step (d : Bits) (sb sg a b W : Nat) (hW : W = 2 ^ (b - a)) (scale : Rat) (f : Val → Res Val)
    (hf : ∀ x : Int, f (.num x) = .val (.num (x * scale))) :
    (do if pyTruth (← pyEq (← pyIdxN (Val.ofBits d) sb) (Val.str ['0'])) then return Val.none
        let sign ← pyInt1 (← pyIdxN (Val.ofBits d) sg)
        let mut value ← Gen.py_common.bin2int (← pySliceNN (Val.ofBits d) a b)
        if pyTruth sign then
          value ← pySub value (Val.num W)
        f value) =
    (sfield d sb sg a b scale >>= fun o => .val (Val.ofOptRat o)) := by
  simpa only [Option.map_id_fun, id] using sfield_map_step d sb sg a b W hW scale id f hf

/-- a heading or track angle: a signed field in units of 90/512 degrees, wrapped to `[0, 360)` -/
theorem heading_step (d : Bits) (sb sg a b : Nat) (hW : 1024 = 2 ^ (b - a)) :
    (do if pyTruth (← pyEq (← pyIdxN (Val.ofBits d) sb) (Val.str ['0'])) then return Val.none
        let sign ← pyInt1 (← pyIdxN (Val.ofBits d) sg)
        let mut value ← Gen.py_common.bin2int (← pySliceNN (Val.ofBits d) a b)
        if pyTruth sign then
          value ← pySub value (Val.num 1024)
        let mut hdg ← pyDiv (← pyMul value (Val.num 90)) (Val.num 512)
        if pyTruth (← pyLt hdg (Val.num 0)) then
          hdg ← pyAdd (Val.num 360) hdg
        return hdg) =
    ((do pure (wrap360 (← sfield d sb sg a b (90 / 512)))) >>= fun o => .val (Val.ofOptRat o)) := by
  refine (sfield_map_step d sb sg a b 1024 hW (90 / 512) (fun v => if v < 0 then 360 + v else v) _ fun x => ?_).trans ?_
  · rw [pyMul_num, Res.bind_val, pyDiv_num _ _ (by norm_num), mul_div_assoc]
    simp only [Res.bind_val, pyLt_num, pyTruth_bool, decide_eq_true_eq]
    split <;> rfl
  · simp only [bind_assoc, Res.pure_eq, Res.bind_val, wrap360]

/-! ### register predicates -/

/-- the all-zero test, then both sides read the MB field -/
theorem pred_open (m : Msg) (h : IsHex m) (hl : m.length = 28) (k : Val → Res Val) (k' : Bits → Res Bool)
    (hk : ∀ d : Bits, d.length = 56 → k (Val.ofBits d) = (k' d >>= fun b => .val (.bool b))) :
    (do if pyTruth (← Gen.py_common.allzeros (.str m)) then return (Val.bool false)
        let d ← Gen.py_common.hex2bin (← Gen.py_common.data (.str m))
        k d) =
    ((do if (← allzerosB (hex2binM m)) then pure false else do
         let d ← dataR (hex2binM m)
         k' d) >>= fun b => .val (.bool b)) := by
  simp only [allzeros_str m h hl, allzerosB_hex m hl, data_str, Res.bind_val, hex2bin_data m h hl, dataR_hex m hl,
    pyTruth_bool]
  cases decide (PyModeS.bin2int (slice 32 88 (hex2binM m)) = 0)
  · exact hk _ (mb_length m hl)
  · rfl

/-- the `wrongstatus` tests of a register, one `if` each in the source, are `statusOk` over the list of their arguments -/
theorem status_step (d : Bits) (rules : List (Nat × Nat × Nat)) (hr : ∀ r ∈ rules, 1 ≤ r.1 ∧ 1 ≤ r.2.1)
    (k : Res Val) (k' : Res Bool) (hk : k = (k' >>= fun b => .val (.bool b))) :
    rules.foldr (fun r k => do
        if pyTruth (← Gen.py_common.wrongstatus (Val.ofBits d) (.num r.1) (.num r.2.1) (.num r.2.2)) then
          return (Val.bool false)
        k) k =
    ((do if !(← statusOk d rules) then pure false else k') >>= fun b => .val (.bool b)) := by
  induction rules with
  | nil => exact hk
  | cons r rules ih =>
    obtain ⟨sb, msb, lsb⟩ := r
    have h1 := hr _ (List.mem_cons_self ..)
    rw [List.foldr_cons, ih fun r hm => hr r (List.mem_cons_of_mem _ hm), ws_lit d sb msb lsb h1.1 h1.2]
    simp only [statusOk]
    rcases PyModeS.wrongstatus d sb msb lsb with ((_ | _) | _ | _) <;> rfl

theorem beq_ofBits (a b : Bits) : Val.beq (Val.ofBits a) (Val.ofBits b) = decide (a = b) := by
  have hinj : Function.Injective Bool.toDigit := by intro a b; cases a <;> cases b <;> decide
  simp only [Val.ofBits, Val.beq, beq_eq_decide, hinj.list_map.eq_iff]

theorem pyNe_ofBits (a b : Bits) : pyNe (Val.ofBits a) (Val.ofBits b) = .val (.bool (decide (a ≠ b))) := by
  simp only [pyNe, beq_ofBits, decide_not]

theorem pyEq_ofBits (a b : Bits) : pyEq (Val.ofBits a) (Val.ofBits b) = .val (.bool (decide (a = b))) := by
  simp only [pyEq, beq_ofBits]

/-- the guard `if d[0:8] != "…": return False` on the register number; `lit` is the string literal of the source -/
theorem guardCode_step (d : Bits) {lit : List Char} {code : Bits} (hlit : Val.str lit = Val.ofBits code)
    (k : Res Val) (k' : Res Bool) (hk : k = (k' >>= fun b => .val (.bool b))) :
    (do if pyTruth (← pyNe (← pySliceNN (Val.ofBits d) 0 8) (Val.str lit)) then
          return (Val.bool false)
        k) =
    ((do if slice 0 8 d ≠ code then pure false else k') >>= fun b => .val (.bool b)) := by
  simp only [pySliceNN_ofBits, Res.bind_val, hlit, pyNe_ofBits, pyTruth_bool, decide_eq_true_eq]
  split
  · rfl
  · exact hk

/-- a guard `if <test on bin2int(d[a:b])>: return False`, for a test that evaluates to `decide (P n)`
    (`pyNe_ofNat_zero` for reserved bits that must be zero) -/
theorem guardInt_step (d : Bits) (a b : Nat) {cmp : Val → Res Val} {P : Nat → Prop} [DecidablePred P]
    (hcmp : ∀ n, cmp (Val.ofNat n) = .val (.bool (decide (P n)))) (k : Res Val) (k' : Res Bool)
    (hk : k = (k' >>= fun b => .val (.bool b))) :
    (do if pyTruth (← cmp (← Gen.py_common.bin2int (← pySliceNN (Val.ofBits d) a b))) then
          return (Val.bool false)
        k) =
    ((do let r ← bin2intR (slice a b d)
         if P r then pure false else k') >>= fun b => .val (.bool b)) := by
  simp only [pySliceNN_ofBits, bin2int_ofBits, Res.bind_val, bind_assoc]
  rcases bin2intR (slice a b d) with (r | _ | _)
  · simp only [Res.bind_val, hcmp, pyTruth_bool, decide_eq_true_eq]
    split
    · rfl
    · exact hk
  · rfl
  · rfl

/-- `x is not None and x > lim` on an optional number -/
theorem gateGt (o : Option Rat) (lim : Rat) :
    (pyIsNot (Val.ofOptRat o) Val.none >>= fun b =>
      if pyTruth b = true then pyGt (Val.ofOptRat o) (Val.num lim) else Res.val b) =
      .val (.bool (optGt o lim)) := by
  cases o <;> simp [Val.ofOptRat, optGt]

/-- `x is not None and abs(x) > lim` on an optional number -/
theorem gateAbsGt (o : Option Rat) (lim : Rat) :
    (pyIsNot (Val.ofOptRat o) Val.none >>= fun b =>
      if pyTruth b = true then (pyAbs (Val.ofOptRat o) >>= fun a => pyGt a (Val.num lim)) else Res.val b) =
      .val (.bool (optAbsGt o lim)) := by
  cases o <;> simp [Val.ofOptRat, optAbsGt, rabs]

/-- a guard `if <test on x>: return False` on the result `g` of a field decoder tied to `r`, for a test that evaluates
    to `test o` (`gateGt`, `gateAbsGt`); the rest of the function may use that the decoder returned `o` -/
theorem guard_step {g : Res Val} {r : Res (Option Rat)} (hg : g = (r >>= fun o => .val (Val.ofOptRat o)))
    {gate : Val → Res Val} {test : Option Rat → Bool} (hgate : ∀ o, gate (Val.ofOptRat o) = .val (.bool (test o)))
    (k : Val → Res Val) (k' : Option Rat → Res Bool)
    (hk : ∀ o, r = .val o → k (Val.ofOptRat o) = (k' o >>= fun b => .val (.bool b))) :
    (do let x ← g
        if pyTruth (← gate x) then
          return (Val.bool false)
        k x) =
    ((do let o ← r
         if test o then pure false else k' o) >>= fun b => .val (.bool b)) := by
  subst hg
  rcases r with (o | _ | _)
  · simp only [Res.bind_val, hgate, pyTruth_bool]
    cases test o
    · exact hk o rfl
    · rfl
  · rfl
  · rfl

end PyModeS.Tie
