/-
  C08 transported to the source-generated definitions: identity code (`common.squawk`, `common.idcode`, `surv.identity`,
  `bds61.emergency_squawk`), the FS / DR / UM fields of DF 4/5 (`surv.fs`, `surv.dr`, `surv.um`), CA of DF 11
  (`allcall.capability`) and the interrogator code read through the PI overlay (`allcall.interrogator`), stated about
  the `Gen.*` functions py2lean.py produced from the current Python source, by composing the tie theorems
  (`Tie/Common.lean`, `Tie/Surv.lean`, `Tie/Bds61.lean`) with `Properties/C08.lean`.
  The tie of `surv.dr` is here too (`dr_tie`), with its C14 statement (`dr_total_guard_tie`).
  (The length guard of `squawk` is in `Tie/C0278Gen.lean`.)
-/
import PyModeS.Properties.C08
import PyModeS.Proofs.Fields.Frame
import PyModeS.Tie.Common
import PyModeS.Tie.Surv
import PyModeS.Tie.Bds61

namespace PyModeS.C08Gen
open PyModeS PyModeS.Py PyModeS.CRC PyModeS.Spec PyModeS.Tie

/-! ### identity code -/

/-- the four octal digits A B C D of an identity field `C1 A1 C2 A2 C4 A4 X B1 D1 B2 D2 B4 D4` (Annex 10 3.1.2.6.7.1) -/
def idDigits (b : Bits) : List Nat :=
  [PyModeS.bin2int [b.getD 5 false, b.getD 3 false, b.getD 1 false],
   PyModeS.bin2int [b.getD 11 false, b.getD 9 false, b.getD 7 false],
   PyModeS.bin2int [b.getD 4 false, b.getD 2 false, b.getD 0 false],
   PyModeS.bin2int [b.getD 12 false, b.getD 10 false, b.getD 8 false]]

/-- the Python result: one character per octal digit -/
def octalStr (l : List Nat) : Val := .str (l.map Nat.digitChar)

theorem squawk_model13 (b : Bits) (hb : b.length = 13) : PyModeS.squawk b = .val (idDigits b) := by
  obtain ⟨C1, A1, C2, A2, C4, A4, X, B1, D1, B2, D2, B4, D4, rfl⟩ := bits13 hb
  rfl

/-- what a `squawk` result looks like once encoded -/
theorem squawk_enc (b : Bits) :
    (PyModeS.squawk b >>= fun l => (.val (Val.ofDigits l) : Res Val)) =
      (PyModeS.squawk b >>= fun l => .val (octalStr l)) := by
  rcases hs : PyModeS.squawk b with (l | _ | _)
  · simp only [Res.bind_val, octalStr, (ofDigits_squawk b l hs).2.2]
  · rfl
  · rfl

/-- all 8192 identity fields: the generated `squawk` returns the four octal digits as a 4-character string -/
theorem squawk_digits_tie (b : Bits) (hb : b.length = 13) :
    Gen.py_common.squawk (Val.ofBits b) = .val (octalStr (idDigits b)) := by
  rw [Tie.squawk_tie, squawk_enc, squawk_model13 b hb]; rfl

/-- the encoder view: the field built from digits A B C D and any X bit decodes to "ABCD" -/
theorem squawk_spec_tie (a b c d : Nat) (x : Bool) (ha : a < 8) (hb : b < 8) (hc : c < 8) (hd : d < 8) :
    Gen.py_common.squawk (Val.ofBits (id13 a b c d x)) = .val (octalStr [a, b, c, d]) := by
  rw [Tie.squawk_tie, squawk_enc, C08.squawk_spec a b c d x ha hb hc hd]; rfl

theorem idDigits_id13 (a b c d : Nat) (x : Bool) (ha : a < 8) (hb : b < 8) (hc : c < 8) (hd : d < 8) :
    idDigits (id13 a b c d x) = [a, b, c, d] := by
  have h1 := squawk_model13 (id13 a b c d x) rfl
  rw [C08.squawk_spec a b c d x ha hb hc hd] at h1
  exact (Res.val.inj h1).symm

theorem id_field_len (m : Msg) (hl : 8 ≤ m.length) : (slice 19 32 (hex2binM m)).length = 13 := by
  rw [slice_length_of_le (Fields.bits_ge m hl)]

/-- `common.idcode` (generated) on every hex string of at least two digits: for DF 5 / 21 it is the generated `squawk`
    of bits 20–32 — a function of the DF and the ID field only; every other DF is rejected -/
theorem idcode_frame_tie (m : Msg) (h : IsHex m) (hl : 2 ≤ m.length) :
    Gen.py_common.idcode (.str m) =
      if dfB (hex2binM m) = 5 ∨ dfB (hex2binM m) = 21
      then Gen.py_common.squawk (Val.ofBits (slice 19 32 (hex2binM m))) else .rte := by
  rw [Tie.idcode_tie m h hl, C08.idcode_msg, C08.idcode_frame, Tie.squawk_tie]
  split_ifs <;> rfl

/-- … and on a frame of at least 8 digits that is the 4-character string of the octal digits of the ID field -/
theorem idcode_digits_tie (m : Msg) (h : IsHex m) (hl : 8 ≤ m.length) :
    Gen.py_common.idcode (.str m) =
      if dfB (hex2binM m) = 5 ∨ dfB (hex2binM m) = 21
      then .val (octalStr (idDigits (slice 19 32 (hex2binM m)))) else .rte := by
  rw [idcode_frame_tie m h (by omega), squawk_digits_tie _ (id_field_len m hl)]

/-- `surv.identity` (generated, with its DF decorator): DF 5 only -/
theorem identity_frame_tie (m : Msg) (h : IsHex m) (hl : 2 ≤ m.length) :
    Gen.surv.identity (.str m) =
      if dfB (hex2binM m) = 5 then Gen.py_common.squawk (Val.ofBits (slice 19 32 (hex2binM m))) else .rte := by
  rw [Tie.identity_tie m h hl, C08.surv_identity_frame, Tie.squawk_tie]
  split_ifs <;> rfl

theorem identity_digits_tie (m : Msg) (h : IsHex m) (hl : 8 ≤ m.length) :
    Gen.surv.identity (.str m) =
      if dfB (hex2binM m) = 5 then .val (octalStr (idDigits (slice 19 32 (hex2binM m)))) else .rte := by
  rw [identity_frame_tie m h (by omega), squawk_digits_tie _ (id_field_len m hl)]

/-- a DF 5 / DF 21 reply whose ID field was built from the digits A B C D is reported as "ABCD" -/
theorem idcode_encoder_tie (m : Msg) (h : IsHex m) (hl : 8 ≤ m.length)
    (hdf : dfB (hex2binM m) = 5 ∨ dfB (hex2binM m) = 21)
    (a b c d : Nat) (x : Bool) (ha : a < 8) (hb : b < 8) (hc : c < 8) (hd : d < 8)
    (hid : slice 19 32 (hex2binM m) = id13 a b c d x) :
    Gen.py_common.idcode (.str m) = .val (octalStr [a, b, c, d]) := by
  rw [idcode_digits_tie m h hl, if_pos hdf, hid, idDigits_id13 a b c d x ha hb hc hd]

/-- TC 28: `bds61.emergency_squawk` (generated) is the generated `squawk` of ME bits 12–24; RuntimeError otherwise -/
theorem emergency_squawk_frame_tie (m : Msg) (h : IsHex m) (hl : m.length = 28) :
    Gen.bds61.emergency_squawk (.str m) =
      if tcB (hex2binM m) = some 28 then Gen.py_common.squawk (Val.ofBits (slice 43 56 (hex2binM m))) else .rte := by
  rw [Tie.emergency_squawk_tie m h hl, C08.emergency_squawk_frame, Tie.squawk_bits_tie]
  split_ifs <;> rfl

theorem emergency_squawk_digits_tie (m : Msg) (h : IsHex m) (hl : m.length = 28) :
    Gen.bds61.emergency_squawk (.str m) =
      if tcB (hex2binM m) = some 28 then .val (octalStr (idDigits (slice 43 56 (hex2binM m)))) else .rte := by
  have hb := Tie.frame_bits m hl
  have hs : (slice 43 56 (hex2binM m)).length = 13 := by rw [slice_length_of_le (by omega)]
  rw [emergency_squawk_frame_tie m h hl, squawk_digits_tie _ hs]

/-! ### FS, DR, UM of DF 4/5; CA of DF 11 -/

/-- `surv.fs` (generated): FS is bits 6–8, with its text; other DFs are rejected -/
theorem fs_field_tie (m : Msg) (h : IsHex m) (hl : 5 ≤ m.length) :
    Gen.surv.fs (.str m) =
      if dfB (hex2binM m) = 4 ∨ dfB (hex2binM m) = 5
      then .val (.tuple [Val.ofNat (PyModeS.bin2int (slice 5 8 (hex2binM m))),
                         fsText (PyModeS.bin2int (slice 5 8 (hex2binM m)))]) else .rte := by
  rw [Tie.fs_tie m h (by omega), (C08.surv_fields _ (Nat.le_trans (by decide) (Fields.bits_ge m hl))).1]
  split_ifs <;> rfl

/-- `surv.um` (generated): IIS is bits 14–17, IDS bits 18–19, with the text of IDS -/
theorem um_field_tie (m : Msg) (h : IsHex m) (hl : 5 ≤ m.length) :
    Gen.surv.um (.str m) =
      if dfB (hex2binM m) = 4 ∨ dfB (hex2binM m) = 5
      then .val (.tuple [Val.ofNat (PyModeS.bin2int (slice 13 17 (hex2binM m))),
                         Val.ofNat (PyModeS.bin2int (slice 17 19 (hex2binM m))),
                         umText (PyModeS.bin2int (slice 17 19 (hex2binM m)))]) else .rte := by
  rw [Tie.um_tie m h (by omega), (C08.surv_fields _ (Nat.le_trans (by decide) (Fields.bits_ge m hl))).2.2]
  split_ifs <;> rfl

/-- the text label `surv.dr` returns next to the DR value -/
def drText (n : Nat) : Val :=
  if n = 0 then .str "no downlink request".toList
  else if n = 1 then .str "request to send Comm-B message".toList
  else if n = 4 then .str "Comm-B broadcast 1 available".toList
  else if n = 5 then .str "Comm-B broadcast 2 available".toList
  else if 16 ≤ n then .str ("ELM downlink segments available: ".toList ++ (toString (n - 15)).toList)
  else .str []

/-- `surv.dr(msg)`: the pair (DR, text) — tie of the generated function with the hand model `survDr` -/
theorem dr_tie (m : Msg) (h : IsHex m) (hl : 2 ≤ m.length) :
    Gen.surv.dr (.str m) = (survDr (hex2binM m) >>= fun n => .val (.tuple [Val.ofNat n, drText n])) := by
  unfold Gen.surv.dr survDr
  simp only [df_str m h hl, bind_val', df_in45]
  apply surv_guard
  intro _
  unfold Gen.surv.dr_undecorated
  have hne : m ≠ [] := by intro e; simp [e] at hl
  simp only [hex2bin_str m h hne, bind_val', pySliceNN_ofBits, bin2int_ofBits]
  generalize bin2intR (slice 8 13 (hex2binM m)) = r
  rcases r with (n | _ | _)
  swap; · rfl
  swap; · rfl
  obtain ⟨e0, e1, -, -, e4, e5, -, -⟩ := pyEq_ofNat_lits n
  have hge : pyGe (Val.ofNat n) (Val.num 16) = .val (.bool (decide (16 ≤ n))) := by
    simp only [Val.ofNat, pyGe_num, Nat.ofNat_le_cast]
  simp only [bind_val', e0, e1, e4, e5, hge, pyTruth_bool, decide_eq_true_eq, Res.pure_eq, drText]
  by_cases c0 : n = 0
  · rw [if_pos c0, if_pos c0]
  rw [if_neg c0, if_neg c0]
  by_cases c1 : n = 1
  · rw [if_pos c1, if_pos c1]
  rw [if_neg c1, if_neg c1]
  by_cases c4 : n = 4
  · rw [if_pos c4, if_pos c4]
  rw [if_neg c4, if_neg c4]
  by_cases c5 : n = 5
  · rw [if_pos c5, if_pos c5]
  rw [if_neg c5, if_neg c5]
  by_cases c16 : 16 ≤ n
  · have hsub : pySub (Val.ofNat n) (Val.num 15) = .val (Val.ofNat (n - 15)) := by
      simp [Val.ofNat, Nat.cast_sub (by omega : 15 ≤ n)]
    rw [if_pos c16, if_pos c16]
    simp only [bind_val', pyFormat1, hsub, pyStr_ofNat, Tie.pyAdd_str, List.append_nil]
  · rw [if_neg c16, if_neg c16]

/-- `surv.dr` (generated): DR is bits 9–13, with its text; other DFs are rejected -/
theorem dr_field_tie (m : Msg) (h : IsHex m) (hl : 5 ≤ m.length) :
    Gen.surv.dr (.str m) =
      if dfB (hex2binM m) = 4 ∨ dfB (hex2binM m) = 5
      then .val (.tuple [Val.ofNat (PyModeS.bin2int (slice 8 13 (hex2binM m))),
                         drText (PyModeS.bin2int (slice 8 13 (hex2binM m)))]) else .rte := by
  rw [dr_tie m h (by omega), (C08.surv_fields _ (Nat.le_trans (by decide) (Fields.bits_ge m hl))).2.1]
  split_ifs <;> rfl

/-- C14 for `surv.dr` (generated), on 14- and 28-digit hex frames: never an exception other than RuntimeError, and
    RuntimeError exactly outside DF 4 / 5 -/
theorem dr_total_guard_tie (m : Msg) (h : IsHex m) (hl : m.length = 14 ∨ m.length = 28) :
    Gen.surv.dr (.str m) ≠ .exc ∧
    (Gen.surv.dr (.str m) = .rte ↔ ¬ (dfB (hex2binM m) = 4 ∨ dfB (hex2binM m) = 5)) := by
  rw [dr_field_tie m h (by omega)]
  by_cases c : dfB (hex2binM m) = 4 ∨ dfB (hex2binM m) = 5
  · rw [if_pos c]
    exact ⟨nofun, nofun, fun e => absurd c e⟩
  · rw [if_neg c]
    exact ⟨nofun, fun _ => c, fun _ => rfl⟩

/-- `allcall.capability` (generated): CA of a DF 11 reply is bits 6–8, with its text; other DFs are rejected -/
theorem capability_field_tie (m : Msg) (h : IsHex m) (hl : 2 ≤ m.length) :
    Gen.allcall.capability (.str m) =
      if dfB (hex2binM m) = 11
      then .val (.tuple [Val.ofNat (PyModeS.bin2int (slice 5 8 (hex2binM m))),
                         caText (PyModeS.bin2int (slice 5 8 (hex2binM m)))]) else .rte := by
  rw [Tie.capability_tie m h hl, C08.capability_frame _ (Fields.bits_ge m hl)]
  split_ifs <;> rfl

/-! ### the interrogator code, read through the PI overlay -/

/-- If the last 24 bits of an all-call reply are `parity(data) XOR code` (PI field, Annex 10 3.1.2.3.3.2), the generated
    `allcall.interrogator` returns the label of exactly that code ("II<n>", "SI<n-16>", "corrupt IC" above 79); every
    other DF is rejected.  Any whole number >= 3 of bytes. -/
theorem interrogator_spec_tie (m : Msg) (h : IsHex m) (hl : 6 ≤ m.length) (h2 : m.length % 2 = 0) (code : Nat)
    (hpi : PyModeS.bin2int (takeLast 24 (hex2binM m)) =
      Spec.remH (dropLast 24 (hex2binM m) ++ List.replicate 24 false) ^^^ code) :
    Gen.allcall.interrogator (.str m) =
      if dfB (hex2binM m) = 11 then .val (.str (C08.icLabel code).toList) else .rte := by
  have h8 : (hex2binM m).length % 8 = 0 := by rw [hex2binM_length]; omega
  rw [Tie.interrogator_tie m h hl, C08.interrogator_spec _ code h8 (Fields.bits_ge m hl) hpi]
  split_ifs <;> rfl

/-- the hypothesis is satisfiable for every payload and every code: the frame `hex(data ++ (parity(data) xor code))`
    (`CRC.encodeAP`), passed to the generated `interrogator`, yields the label of `code` -/
theorem interrogator_encoder_tie (d : Bits) (code : Nat) (hc : code < 2 ^ 24) (h8 : d.length % 8 = 0)
    (h5 : 5 ≤ d.length) :
    Gen.allcall.interrogator (.str (CRC.encodeAP d code)) =
      if dfB d = 11 then .val (.str (C08.icLabel code).toList) else .rte := by
  have hhex : IsHex (CRC.encodeAP d code) := CRC.hexOfBits_isHex _
  have hlen : 6 ≤ (CRC.encodeAP d code).length := by rw [CRC.encodeAP_length]; omega
  rw [Tie.interrogator_tie _ hhex hlen, CRC.hex2binM_encodeAP d code (by omega),
    C08.interrogator_encoder d code hc h8 h5]
  split_ifs <;> rfl

end PyModeS.C08Gen
