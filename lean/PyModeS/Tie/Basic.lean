/-
  Tie between the source-generated model (`Generated/Src/*.lean`, rewritten from /repo on every run)
  and the hand-written model the property theorems talk about.

  This file: the library every tie uses.  Rewriting lemmas for the Python primitives on the values that occur in
  decoders (numbers, naturals, literals, bit strings, slices); the translator's idioms (sequencing and branching in
  `Res`, short-circuit `or` / `and`, flags); and the tie for `py_common`'s conversion helpers (`hex2bin`, `bin2int`,
  `data`, `df`, `typecode`, `allzeros`, `wrongstatus`) with the facts about a 28-digit frame.
-/
import Mathlib.Tactic.Ring
import Mathlib.Algebra.Order.Field.Rat
import Mathlib.Data.Rat.Cast.Defs
import Mathlib.Data.Rat.Floor
import Mathlib.Tactic.IntervalCases
import Mathlib.Tactic.SplitIfs
import Mathlib.Tactic.Linarith
import PyModeS.Generated.Src.py_common
import PyModeS.Proofs.CRC.HexStr
import PyModeS.Model.Commb

namespace PyModeS.Tie
open PyModeS PyModeS.Py PyModeS.CRC

/-! ### numbers -/

/-- a numeric literal of the generated code is the natural number it denotes (stated with `ofNat(n)` so that `simp`
    finds it at every literal, 0 and 1 included) -/
theorem num_lit (n : Nat) : Val.num ofNat(n) = Val.ofNat (OfNat.ofNat n) := rfl

@[simp] theorem num?_num (q : Rat) : (Val.num q).num? = some q := rfl
@[simp] theorem num?_ofNat (n : Nat) : (Val.ofNat n).num? = some (n : Rat) := rfl
@[simp] theorem int?_ofNat (n : Nat) : (Val.ofNat n).int? = some (n : Int) := by
  simp [Val.ofNat, Val.int?]
@[simp] theorem int?_natLit (n : Nat) [n.AtLeastTwo] : (Val.num (OfNat.ofNat n)).int? = some (OfNat.ofNat n : Int) := by
  simp [Val.int?]
@[simp] theorem int?_zero : (Val.num 0).int? = some 0 := rfl
@[simp] theorem int?_one : (Val.num 1).int? = some 1 := rfl

@[simp] theorem pySub_num (a b : Rat) : pySub (.num a) (.num b) = .val (.num (a - b)) := rfl
@[simp] theorem pyAdd_num (a b : Rat) : pyAdd (.num a) (.num b) = .val (.num (a + b)) := rfl
@[simp] theorem pyMul_num (a b : Rat) : pyMul (.num a) (.num b) = .val (.num (a * b)) := rfl
@[simp] theorem pyDiv_num (a b : Rat) (h : b ≠ 0) : pyDiv (.num a) (.num b) = .val (.num (a / b)) := by
  simp [pyDiv, h]
@[simp] theorem pyDiv_lit (a : Rat) (n : Nat) [n.AtLeastTwo] :
    pyDiv (.num a) (.num (OfNat.ofNat n)) = .val (.num (a / OfNat.ofNat n)) := by
  apply pyDiv_num
  have : (OfNat.ofNat n : Rat) = (n : Rat) := rfl
  rw [this]
  have h2 : 2 ≤ n := Nat.AtLeastTwo.prop
  exact_mod_cast (by omega : n ≠ 0)
@[simp] theorem pyNeg_num (a : Rat) : pyNeg (.num a) = .val (.num (-a)) := rfl
@[simp] theorem pyAbs_num (a : Rat) : pyAbs (.num a) = .val (.num (if a < 0 then -a else a)) := rfl
@[simp] theorem pyLt_num (a b : Rat) : pyLt (.num a) (.num b) = .val (.bool (decide (a < b))) := rfl
@[simp] theorem pyLe_num (a b : Rat) : pyLe (.num a) (.num b) = .val (.bool (decide (a ≤ b))) := rfl
@[simp] theorem pyGt_num (a b : Rat) : pyGt (.num a) (.num b) = .val (.bool (decide (b < a))) := rfl
@[simp] theorem pyGe_num (a b : Rat) : pyGe (.num a) (.num b) = .val (.bool (decide (b ≤ a))) := rfl
@[simp] theorem pyEq_num (a b : Rat) : pyEq (.num a) (.num b) = .val (.bool (a == b)) := rfl
@[simp] theorem pyNe_num (a b : Rat) : pyNe (.num a) (.num b) = .val (.bool (!(a == b))) := rfl
@[simp] theorem pyIsNot_none_num (a : Rat) : pyIsNot (.num a) .none = .val (.bool true) := rfl
@[simp] theorem pyIsNot_none_none : pyIsNot .none .none = .val (.bool false) := rfl
@[simp] theorem pyIs_none_num (a : Rat) : pyIs (.num a) .none = .val (.bool false) := rfl
@[simp] theorem pyIs_none_none : pyIs .none .none = .val (.bool true) := rfl
@[simp] theorem pyTruth_bool (b : Bool) : pyTruth (.bool b) = b := rfl
/-- `pyTruth_bool` with a proof that is not `rfl`, so that `simp` rewrites the `Decidable` instance of an `if` too -/
theorem pyTruth_bool' (b : Bool) : pyTruth (.bool b) = b := by cases b <;> rfl
@[simp] theorem pyTruth_num (q : Rat) : pyTruth (.num q) = (q != 0) := rfl
@[simp] theorem pyNot_bool (b : Bool) : pyNot (.bool b) = .val (.bool (!b)) := rfl

/-! ### sequencing and branching in `Res` -/

/-- `Res.bind_val` with a proof that is not `rfl`: `simp` then records an explicit rewriting step instead of
    leaving the kernel to re-evaluate the whole program by definitional unfolding -/
theorem bind_val' {α β} (a : α) (f : α → Res β) : (Res.val a >>= f) = f a := by
  rw [Res.bind_val]
theorem bind_rte' {α β} (f : α → Res β) : ((Res.rte : Res α) >>= f) = Res.rte := by
  rw [Res.bind_rte]
theorem bind_exc' {α β} (f : α → Res β) : ((Res.exc : Res α) >>= f) = Res.exc := by
  rw [Res.bind_exc]

theorem bind_val_id {α} (x : Res α) : (x >>= fun a => Res.val a) = x := by
  rcases x with (a | _ | _) <;> rfl

/-- a continuation after `x if c else y` (or after an `if` statement) runs in either branch -/
theorem Res.ite_bind {α β} (c : Prop) [Decidable c] (x y : Res α) (f : α → Res β) :
    ((if c then x else y) >>= f) = if c then x >>= f else y >>= f :=
  apply_ite (· >>= f) c x y

/-- `x if c else y` between two values is a value -/
theorem Res.ite_val {α} (c : Prop) [Decidable c] (x y : α) :
    (if c then Res.val x else Res.val y) = Res.val (if c then x else y) :=
  (apply_ite Res.val c x y).symm

/-- two reads that cannot raise `RuntimeError` may be exchanged -/
theorem bind_swap {α β γ} (x : Res α) (y : Res β) (hx : x ≠ .rte) (hy : y ≠ .rte) (f : α → β → Res γ) :
    (x >>= fun a => y >>= fun b => f a b) = (y >>= fun b => x >>= fun a => f a b) := by
  rcases x with (a | _ | _)
  · rcases y with (b | _ | _) <;> rfl
  · exact absurd rfl hx
  · rcases y with (b | _ | _)
    · rfl
    · exact absurd rfl hy
    · rfl

/-! ### Rules for running a generated `do` block statement by statement -/

theorem bind_eq {α β} {x : Res α} {a : α} {f : α → Res β} {r : Res β} (hx : x = .val a) (hf : f a = r) :
    (x >>= f) = r := by
  rw [hx]; exact hf
theorem then_ret {β} {c : Prop} [Decidable c] {a k r : β} (hc : c) (h : a = r) : (if c then a else k) = r := by
  rw [if_pos hc]; exact h
theorem else_ret {β} {c : Prop} [Decidable c] {a k r : β} (hc : ¬ c) (hk : k = r) : (if c then a else k) = r := by
  rw [if_neg hc]; exact hk
/-- a statement whose value is discarded -/
theorem skip {α β} {x : Res α} (k : Res β) (hx : ∃ a, x = .val a) : (x >>= fun _ => k) = k := by
  obtain ⟨a, ha⟩ := hx
  rw [ha]; rfl

theorem if_ret {β} {c : Prop} [Decidable c] {a k r : β} (hk : k = r) (h : c → a = r) :
    (if c then a else k) = r := by
  split
  · exact h ‹_›
  · exact hk

/-! ### natural numbers: `Val.ofNat k` is `Val.num (k : Rat)`, and `num_lit` reads a literal as one -/

theorem pyAdd_ofNat (a b : Nat) : pyAdd (Val.ofNat a) (Val.ofNat b) = .val (Val.ofNat (a + b)) := by
  simp only [Val.ofNat, pyAdd_num, Nat.cast_add]
theorem pySub_ofNat (a b : Nat) (h : b ≤ a) : pySub (Val.ofNat a) (Val.ofNat b) = .val (Val.ofNat (a - b)) := by
  simp only [Val.ofNat, pySub_num, Nat.cast_sub h]
theorem pyMul_ofNat (a b : Nat) : pyMul (Val.ofNat a) (Val.ofNat b) = .val (Val.ofNat (a * b)) := by
  simp only [Val.ofNat, pyMul_num, Nat.cast_mul]
theorem pyLt_ofNat (a b : Nat) : pyLt (Val.ofNat a) (Val.ofNat b) = .val (.bool (decide (a < b))) := by
  simp only [Val.ofNat, pyLt_num, Nat.cast_lt]
theorem pyLe_ofNat (a b : Nat) : pyLe (Val.ofNat a) (Val.ofNat b) = .val (.bool (decide (a ≤ b))) := by
  simp only [Val.ofNat, pyLe_num, Nat.cast_le]
theorem pyGt_ofNat (a b : Nat) : pyGt (Val.ofNat a) (Val.ofNat b) = .val (.bool (decide (b < a))) := by
  simp only [Val.ofNat, pyGt_num, Nat.cast_lt]
theorem pyEq_ofNat2 (a b : Nat) : pyEq (Val.ofNat a) (Val.ofNat b) = .val (.bool (decide (a = b))) := by
  simp only [Val.ofNat, pyEq_num, beq_eq_decide, Nat.cast_inj]
theorem pyNe_ofNat (a b : Nat) : pyNe (Val.ofNat a) (Val.ofNat b) = .val (.bool (!decide (a = b))) := by
  simp only [Val.ofNat, pyNe_num, beq_eq_decide, Nat.cast_inj]

/-! ### comparisons of a natural number with a literal of the generated code -/

theorem pyEq_ofNat_zero (n : Nat) : pyEq (Val.ofNat n) (Val.num 0) = .val (.bool (decide (n = 0))) := by
  simp only [Val.ofNat, pyEq_num, beq_eq_decide, Nat.cast_eq_zero]

theorem pyNe_ofNat_zero (n : Nat) : pyNe (Val.ofNat n) (Val.num 0) = .val (.bool (decide (n ≠ 0))) := by
  simp only [Val.ofNat, pyNe_num, beq_eq_decide, Nat.cast_eq_zero, decide_not]

theorem pyEq_ofNat_one (n : Nat) : pyEq (Val.ofNat n) (Val.num 1) = .val (.bool (decide (n = 1))) := by
  simp only [Val.ofNat, pyEq_num, beq_eq_decide, Nat.cast_eq_one]

theorem pyEq_ofNat_lit (n k : Nat) [k.AtLeastTwo] :
    pyEq (Val.ofNat n) (.num ofNat(k)) = .val (.bool (decide (n = ofNat(k)))) := by
  simp only [Val.ofNat, pyEq_num, beq_eq_decide, ← Nat.cast_ofNat (R := Rat), Nat.cast_inj]

theorem pyLt_ofNat_lit (n k : Nat) [k.AtLeastTwo] :
    pyLt (Val.ofNat n) (.num ofNat(k)) = .val (.bool (decide (n < ofNat(k)))) := by
  simp only [Val.ofNat, pyLt_num, Nat.cast_lt_ofNat]

theorem pyGt_ofNat_lit (n k : Nat) [k.AtLeastTwo] :
    pyGt (Val.ofNat n) (.num ofNat(k)) = .val (.bool (decide (n > ofNat(k)))) := by
  simp only [Val.ofNat, pyGt_num, gt_iff_lt, Nat.ofNat_lt_cast]

theorem pyLe_ofNat_lit (n k : Nat) [k.AtLeastTwo] :
    pyLe (Val.ofNat n) (.num ofNat(k)) = .val (.bool (decide (n ≤ ofNat(k)))) := by
  simp only [Val.ofNat, pyLe_num, Nat.cast_le_ofNat]

theorem pyGe_ofNat_lit (n k : Nat) [k.AtLeastTwo] :
    pyGe (Val.ofNat n) (.num ofNat(k)) = .val (.bool (decide (ofNat(k) ≤ n))) := by
  simp only [Val.ofNat, pyGe_num, Nat.ofNat_le_cast]

theorem pyLe_lit_ofNat (n k : Nat) [k.AtLeastTwo] :
    pyLe (.num ofNat(k)) (Val.ofNat n) = .val (.bool (decide (ofNat(k) ≤ n))) := by
  simp only [Val.ofNat, pyLe_num, Nat.ofNat_le_cast]

/-! ### the translated short-circuit operators and the flag idiom

`p or q` is translated to `let b ← p; if b then pure b else q`, `p and q` (also the chained comparison
`a <= t <= b`) to `let b ← p; if b then q else pure b`. The `_block` lemmas apply once the first operand has been
evaluated and `simp` has turned the test `decide p = true` into `p`; `or_link`, `or_val` and `and_val` apply to the
block as generated, with the second operand still a program. -/

theorem or_block (p q : Prop) [Decidable p] [Decidable q] :
    (if p then Res.val (Val.bool (decide p)) else Res.val (Val.bool (decide q))) =
      Res.val (Val.bool (decide (p ∨ q))) := by
  by_cases hp : p <;> simp [hp]

theorem and_block (p q : Prop) [Decidable p] [Decidable q] :
    (if p then Res.val (Val.bool (decide q)) else Res.val (Val.bool (decide p))) =
      Res.val (Val.bool (decide (p ∧ q))) := by
  by_cases hp : p <;> simp [hp]

/-- Python's chained comparison `lo <= n <= hi` -/
theorem chain_le (lo n hi : Nat) :
    (do let c ← pyLe (Val.ofNat lo) (Val.ofNat n)
        if pyTruth c then pyLe (Val.ofNat n) (Val.ofNat hi) else .val c) =
      .val (.bool (decide (lo ≤ n ∧ n ≤ hi))) := by
  simp only [pyLe_ofNat, bind_val', pyTruth_bool, decide_eq_true_eq, and_block]

/-- Python's chained comparison `lo < n < hi` -/
theorem chain_lt (lo n hi : Nat) :
    (do let c ← pyLt (Val.ofNat lo) (Val.ofNat n)
        if pyTruth c then pyLt (Val.ofNat n) (Val.ofNat hi) else .val c) =
      .val (.bool (decide (lo < n ∧ n < hi))) := by
  simp only [pyLt_ofNat, bind_val', pyTruth_bool, decide_eq_true_eq, and_block]

/-- `and_block` with the second operand already a Boolean -/
theorem and_sc (p : Prop) [Decidable p] (q : Bool) :
    (if p then Res.val (Val.bool q) else Res.val (Val.bool (decide p))) = .val (.bool (decide p && q)) := by
  by_cases h : p <;> simp [h]

/-- `and_block` on two Booleans -/
theorem pyAnd_bool (a b : Bool) :
    (if a = true then Res.val (Val.bool b) else Res.val (Val.bool a)) = Res.val (Val.bool (a && b)) := by
  cases a <;> rfl

theorem or_val {x y : Res Val} {p q : Bool} (hx : x = .val (.bool p)) (hy : y = .val (.bool q)) :
    (x >>= fun b => if pyTruth b = true then pure b else y) = .val (.bool (p || q)) := by
  rw [hx, bind_val']
  cases p
  · exact hy
  · rfl

theorem and_val {x y : Res Val} {p q : Bool} (hx : x = .val (.bool p)) (hy : y = .val (.bool q)) :
    (x >>= fun b => if pyTruth b = true then y else pure b) = .val (.bool (p && q)) := by
  rw [hx, bind_val']
  cases p
  · rfl
  · exact hy

theorem or_link (p q : Prop) [Decidable p] [Decidable q] (r : Res Val) (hr : r = .val (.bool (decide q))) :
    (do let b ← (Res.val (.bool (decide p)) : Res Val)
        if pyTruth b = true then pure b else r) = .val (.bool (decide (p ∨ q))) := by
  rw [or_val rfl hr, Bool.decide_or]

/-- `if p: raise RuntimeError(…)` in front of the rest `k` of a function -/
theorem guard_rte {β} (p : Prop) [Decidable p] (k : Res β) :
    (do let g ← Res.val (Val.bool (decide p)); if pyTruth g = true then (do (Res.rte : Res PUnit); k) else k) =
      if p then .rte else k := by
  by_cases hp : p <;> simp only [hp, decide_true, decide_false, bind_val', pyTruth_bool, bind_rte', if_true, if_false,
    Bool.false_eq_true]

/-- `True if p else False` -/
theorem val_bool_ite (p : Prop) [Decidable p] : (if p then Val.bool true else Val.bool false) = Val.bool (decide p) := by
  split <;> simp only [*, decide_true, decide_false]

/-- `flag = False; if p: flag = True` -/
theorem bool_ite (p : Prop) [Decidable p] :
    (if p then Res.val (Val.bool true) else Res.val (Val.bool false)) = Res.val (Val.bool (decide p)) := by
  rw [Res.ite_val, val_bool_ite]

/-! ### strings and bit strings -/

theorem pyLen_chars (s : List Char) : pyLen (.str s) = .val (Val.ofNat s.length) := rfl

@[simp] theorem ofBits_length (d : Bits) : pyLen (Val.ofBits d) = .val (Val.ofNat d.length) := by
  simp [pyLen, Val.ofBits]

@[simp] theorem pyIdxN_ofBits (d : Bits) (k : Nat) :
    pyIdxN (Val.ofBits d) k = (idxR d k >>= fun b => .val (.str [b.toDigit])) := by
  simp only [pyIdxN, Val.ofBits, idxR, List.getElem?_map]
  cases h : d[k]? <;> simp

@[simp] theorem pySliceNN_ofBits (d : Bits) (a b : Nat) :
    pySliceNN (Val.ofBits d) a b = .val (Val.ofBits (slice a b d)) := by
  simp [pySliceNN, Val.ofBits, slice, List.map_take, List.map_drop]

@[simp] theorem pySliceFrom_ofBits (d : Bits) (a : Nat) :
    pySliceN_ (Val.ofBits d) a = .val (Val.ofBits (d.drop a)) := by
  simp [pySliceN_, Val.ofBits, List.map_drop]

@[simp] theorem pySliceTo_ofBits (d : Bits) (b : Nat) :
    pySlice_N (Val.ofBits d) b = .val (Val.ofBits (d.take b)) := by
  simp [pySlice_N, Val.ofBits, List.map_take]

@[simp] theorem pyEq_digit_zero (b : Bool) : pyEq (.str [b.toDigit]) (.str ['0']) = .val (.bool (!b)) := by
  cases b <;> rfl
@[simp] theorem pyEq_digit_one (b : Bool) : pyEq (.str [b.toDigit]) (.str ['1']) = .val (.bool b) := by
  cases b <;> rfl
/-- the 0/1 flag `int(b)` compared with a literal -/
theorem pyEq_flag_zero (b : Bool) : pyEq (.num (if b = true then 1 else 0)) (.num 0) = .val (.bool (!b)) := by
  cases b <;> rfl
theorem pyEq_flag_one (b : Bool) : pyEq (.num (if b = true then 1 else 0)) (.num 1) = .val (.bool b) := by
  cases b <;> rfl
@[simp] theorem pyInt1_digit (b : Bool) : pyInt1 (.str [b.toDigit]) = .val (.num (if b then 1 else 0)) := by
  cases b <;> rfl
@[simp] theorem pyTruth_num01 (b : Bool) : pyTruth (.num (if b = true then 1 else 0)) = b := by
  cases b <;> rfl

theorem digitVal_toDigit (b : Bool) : digitVal? 2 b.toDigit = some b.toNat := by cases b <;> rfl

theorem parseDigits_bits (d : Bits) (acc : Nat) :
    parseDigits 2 (d.map Bool.toDigit) (some acc) = some (d.foldl (fun n b => 2 * n + b.toNat) acc) := by
  induction d generalizing acc with
  | nil => rfl
  | cons b d ih => simp [parseDigits, digitVal_toDigit, ih]

theorem parseNat_bits (d : Bits) (h : d ≠ []) : parseNat 2 (d.map Bool.toDigit) = some (PyModeS.bin2int d) := by
  cases d with
  | nil => exact absurd rfl h
  | cons b d =>
    simp only [parseNat, List.map_cons, parseDigits, digitVal_toDigit, Option.getD_none]
    rw [parseDigits_bits]
    simp [PyModeS.bin2int]

@[simp] theorem pyInt2_ofBits (d : Bits) :
    pyInt2 (Val.ofBits d) (.num 2) = (bin2intR d >>= fun n => .val (Val.ofNat n)) := by
  unfold pyInt2 bin2intR
  have h2 : (Val.num 2).int? = some (Int.ofNat 2) := by
    have := int?_natLit 2
    simpa using this
  rw [h2]
  cases d with
  | nil => simp [Val.ofBits, parseNat, parseDigits]
  | cons b d =>
    have := parseNat_bits (b :: d) (by simp)
    simp only [Val.ofBits, List.map_cons] at this ⊢
    simp [this]


/-! ### `py_common` conversion helpers -/

theorem pyInt1_ofNat (n : Nat) : pyInt1 (Val.ofNat n) = .val (Val.ofNat n) := by
  have h0 : ¬ ((n : Rat) < 0) := by exact_mod_cast Nat.not_lt_zero n
  have hf : Rat.floor (n : Rat) = (n : Int) := by
    have : Rat.floor (n : Rat) = ⌊(n : Rat)⌋ := rfl
    rw [this]; exact_mod_cast Int.floor_natCast n
  simp [pyInt1, Val.ofNat, h0, hf]

theorem ofNat_mul (a b : Nat) : Val.num ((a : Rat) * (b : Rat)) = Val.ofNat (a * b) := by
  simp [Val.ofNat]

/-- zero-padded `Nat.toDigits 2` is the bit string (`bin(n)[2:].zfill(w)`) -/
theorem pad_toDigits2 (k : Nat) : ∀ n, n < 2 ^ (k + 1) →
    List.replicate (k + 1 - (Nat.toDigits 2 n).length) '0' ++ Nat.toDigits 2 n =
      (natToBits (k + 1) n).map Bool.toDigit := by
  induction k with
  | zero =>
    intro n hn
    have hn' : n < 2 := by simpa using hn
    rw [Nat.toDigits_of_lt_base hn']
    interval_cases n <;> rfl
  | succ k ih =>
    intro n hn
    rw [natToBits_succ, Nat.toDigits_eq_if (by decide)]
    split
    · rename_i h2
      have hq : n / 2 = 0 := Nat.div_eq_of_lt h2
      have hz : natToBits (k + 1) 0 = List.replicate (k + 1) false := by
        clear ih hn
        induction k with
        | zero => rfl
        | succ k ih => rw [natToBits_succ, ih]; simp [List.replicate_succ']
      rw [hq, hz]
      interval_cases n <;> simp [List.replicate_succ', Nat.digitChar, Bool.toDigit]
    · have hq : n / 2 < 2 ^ (k + 1) := by rw [Nat.pow_succ] at hn; omega
      have := ih (n / 2) hq
      simp only [List.map_append, List.map_cons, List.map_nil, ← this, List.length_append,
        List.length_singleton, List.append_assoc]
      have hd : [Nat.digitChar (n % 2)] = [Bool.toDigit (n % 2 == 1)] := by
        have : n % 2 < 2 := Nat.mod_lt _ (by decide)
        interval_cases (n % 2) <;> rfl
      rw [hd]
      congr 2
      omega

theorem digitVal16 (c : Char) (h : (hexVal? c).isSome) : digitVal? 16 c = some (hexVal c) := by
  unfold digitVal? hexVal
  cases hc : hexVal? c with
  | none => simp [hc] at h
  | some d =>
    have := hexVal_lt c
    simp only [hexVal, hc, Option.getD_some] at this
    simp [this]

theorem parseDigits_hex (m : Msg) (h : IsHex m) (acc : Nat) :
    parseDigits 16 m (some acc) = some (m.foldl (fun n c => 16 * n + hexVal c) acc) := by
  induction m generalizing acc with
  | nil => rfl
  | cons c m ih =>
    have hc := h c (by simp)
    have hm : IsHex m := fun x hx => h x (List.mem_cons_of_mem _ hx)
    simp [parseDigits, digitVal16 c hc, ih hm]

theorem parseNat_hex (m : Msg) (h : IsHex m) (hne : m ≠ []) : parseNat 16 m = some (hexToNatM m) := by
  cases m with
  | nil => exact absurd rfl hne
  | cons c m =>
    have hc := h c (by simp)
    have hm : IsHex m := fun x hx => h x (List.mem_cons_of_mem _ hx)
    simp only [parseNat, parseDigits, digitVal16 c hc, Option.getD_none]
    rw [parseDigits_hex m hm]
    simp [hexToNatM]

theorem pyInt2_hex (m : Msg) (h : IsHex m) (hne : m ≠ []) :
    pyInt2 (.str m) (.num 16) = .val (Val.ofNat (hexToNatM m)) := by
  unfold pyInt2
  have h16 : (Val.num 16).int? = some (Int.ofNat 16) := by
    have := int?_natLit 16
    simpa using this
  rw [h16]
  simp [parseNat_hex m h hne]

theorem hex2bin_str (m : Msg) (h : IsHex m) (hne : m ≠ []) :
    Gen.py_common.hex2bin (.str m) = .val (Val.ofBits (hex2binM m)) := by
  unfold Gen.py_common.hex2bin
  have hlen : pyLen (.str m) = .val (Val.ofNat m.length) := rfl
  have h4 : (Val.num 4) = Val.ofNat 4 := by simp [Val.ofNat]
  simp only [hlen, Res.bind_val, pyInt2_hex m h hne, h4]
  have hmul : pyMul (Val.ofNat m.length) (Val.ofNat 4) = .val (Val.ofNat (m.length * 4)) := by
    simp [Val.ofNat]
  simp only [hmul, Res.bind_val, pyInt1_ofNat]
  simp only [pyBin, int?_ofNat, pySliceN_, pyZfill, Res.bind_val, List.drop_succ_cons, List.drop_zero, Int.toNat_natCast]
  have hL : (hex2binM m).length = m.length * 4 := by rw [hex2binM_length]; omega
  have hpos : 0 < m.length := List.length_pos_of_ne_nil hne
  obtain ⟨k, hk⟩ : ∃ k, m.length * 4 = k + 1 := ⟨m.length * 4 - 1, by omega⟩
  have hlt : hexToNatM m < 2 ^ (k + 1) := by
    rw [hexToNatM_eq_bin2int, ← hk, ← hL]; exact bin2int_lt _
  have := pad_toDigits2 k (hexToNatM m) hlt
  simp only [Val.ofBits]
  rw [hk, this, ← hk, ← hL, hexToNatM_eq_bin2int, natToBits_bin2int]


@[simp] theorem bin2int_ofBits (d : Bits) :
    Gen.py_common.bin2int (Val.ofBits d) = (bin2intR d >>= fun n => .val (Val.ofNat n)) := by
  unfold Gen.py_common.bin2int
  simp only [pyInt2_ofBits]

/-- `s[n]` for a string and a non-negative integer value -/
theorem pyIdx_str_ofNat (cs : List Char) (n : Nat) :
    Py.pyIdx (.str cs) (Val.ofNat n) = (idxR cs n >>= fun c => .val (.str [c])) := by
  have : ¬ ((n : Int) < 0) := by omega
  simp only [Py.pyIdx, int?_ofNat, idxList, this, if_false, Int.toNat_natCast, idxR]
  cases cs[n]? <;> rfl

/-- one look-up `cs += tbl[bin2int(d[a:b])]` of `callsign` / `cs20`, for any table -/
theorem table_step (tbl : List Char) (d : Bits) (acc : List Char) (a b : Nat) (k : Val → Res Val) :
    (do let x ← pySliceNN (Val.ofBits d) a b
        let n ← Gen.py_common.bin2int x
        let c ← Py.pyIdx (Val.str tbl) n
        let cs ← pyAdd (Val.str acc) c
        k cs) =
    (do let n ← bin2intR (slice a b d)
        let c ← idxR tbl n
        k (Val.str (acc ++ [c]))) := by
  simp only [pySliceNN_ofBits, Res.bind_val, bin2int_ofBits]
  rcases bin2intR (slice a b d) with (n | _ | _)
  · simp only [Res.bind_val, pyIdx_str_ofNat]
    rcases idxR tbl n with (c | _ | _) <;> rfl
  · rfl
  · rfl

theorem normBound_nonneg (n k : Nat) : normBound n (k : Int) = min k n := by
  simp [normBound]

theorem normBound_neg (n k : Nat) (hk : 0 < k) : normBound n (-(k : Int)) = n - k := by
  have : (-(k : Int)) < 0 := by omega
  simp only [normBound, this, if_true, Int.neg_neg, Int.toNat_natCast]

/-- `common.data(msg)` = `msg[8:-6]` -/
theorem data_str (m : Msg) : Gen.py_common.data (.str m) = .val (.str (dataM m)) := by
  unfold Gen.py_common.data
  have h8 : (Val.num 8).int? = some ((8 : Nat) : Int) := by simpa using int?_natLit 8
  have h6 : (Val.num (-6)).int? = some (-((6 : Nat) : Int)) := by
    simp [Val.int?]
  simp only [pySlice, optInt, h8, h6, Res.bind_val, sliceList, normBound_nonneg, normBound_neg _ 6 (by decide)]
  simp only [dataM, dropLast, slice]
  congr 2
  rw [List.drop_take]
  rcases Nat.lt_or_ge m.length 8 with h | h
  · rw [Nat.min_eq_right (by omega)]
    simp [List.drop_eq_nil_of_le (Nat.le_of_lt h), List.drop_length]
  · rw [Nat.min_eq_left h]

theorem dataM_28 (m : Msg) (hl : m.length = 28) : dataM m = slice 8 22 m := by
  simp only [dataM, dropLast, slice, hl, List.drop_take]

theorem isHex_take' {m : Msg} (h : IsHex m) (k : Nat) : IsHex (m.take k) := isHex_take h k

theorem pyMin2_num (a b : Rat) : pyMin2 (.num a) (.num b) = .val (.num (min a b)) := by
  simp only [pyMin2, num?_num]
  by_cases hlt : b < a
  · simp [hlt, min_eq_right (le_of_lt hlt)]
  · simp [hlt, min_eq_left (not_lt.mp hlt)]

theorem pyMax2_num (a b : Rat) : pyMax2 (.num a) (.num b) = .val (.num (max a b)) := by
  simp only [pyMax2, num?_num]
  by_cases hlt : a < b
  · simp [hlt, max_eq_right (le_of_lt hlt)]
  · simp [hlt, max_eq_left (not_lt.mp hlt)]

theorem pyMin2_ofNat_24 (x : Nat) : pyMin2 (Val.ofNat x) (.num 24) = .val (Val.ofNat (min x 24)) := by
  unfold pyMin2
  simp only [num?_ofNat, num?_num]
  by_cases h : 24 < x
  · have : ((24 : Rat) < (x : Rat)) := by exact_mod_cast h
    simp [this, Nat.min_eq_right (Nat.le_of_lt h), Val.ofNat]
  · have : ¬ ((24 : Rat) < (x : Rat)) := by exact_mod_cast h
    simp [this, Nat.min_eq_left (Nat.le_of_not_lt h)]

/-- `common.df(msg)` on a non-empty hex string (`bin2hex` can produce a single digit) -/
theorem df_str_ne_nil (m : Msg) (h : IsHex m) (hne : m ≠ []) :
    Gen.py_common.df (.str m) = .val (Val.ofNat (PyModeS.df m)) := by
  unfold Gen.py_common.df PyModeS.df
  have hpos : 0 < m.length := List.length_pos_of_ne_nil hne
  have hne : m.take 2 ≠ [] := by
    intro e; have := congrArg List.length e
    simp only [List.length_take, List.length_nil] at this; omega
  have h8 : 4 ≤ (hex2binM (m.take 2)).length := by
    rw [hex2binM_length, List.length_take]; omega
  have hs : 0 < (slice 0 5 (hex2binM (m.take 2))).length := by simp [slice]; omega
  simp only [pySlice_N, Res.bind_val, hex2bin_str _ (isHex_take' h 2) hne, pySliceNN_ofBits, bin2int_ofBits,
    bin2intR_of_length hs, pyMin2_ofNat_24]

/-- `common.df(msg)` on a hex string of at least two digits -/
theorem df_str (m : Msg) (h : IsHex m) (hl : 2 ≤ m.length) :
    Gen.py_common.df (.str m) = .val (Val.ofNat (PyModeS.df m)) :=
  df_str_ne_nil m h (by rintro rfl; exact absurd hl (by simp))


/-- `common.typecode(msg)` on a hex string of at least ten digits -/
theorem typecode_str (m : Msg) (h : IsHex m) (hl : 10 ≤ m.length) :
    Gen.py_common.typecode (.str m) = .val (Val.ofOptNat (PyModeS.typecode m)) := by
  unfold Gen.py_common.typecode PyModeS.typecode
  have hne : slice 8 10 m ≠ [] := by
    intro e; have := congrArg List.length e; simp [slice] at this; omega
  have h8 : (hex2binM (slice 8 10 m)).length = 8 := by
    rw [hex2binM_length]; simp [slice]; omega
  have hs : 0 < (slice 0 5 (hex2binM (slice 8 10 m))).length := by rw [slice_length, h8]; decide
  simp only [df_str m h (by omega), Res.bind_val, pyNotIn, pyIn, pyNot, Val.truth, pure]
  by_cases hd : PyModeS.df m = 17 ∨ PyModeS.df m = 18
  · have : (List.any [Val.num 17, Val.num 18] fun y => (Val.ofNat (PyModeS.df m)).beq y) = true := by
      rcases hd with hd | hd <;> rw [hd] <;> decide
    simp only [this, Bool.not_true, pyTruth, Val.truth, hd, if_true]
    have e : pySliceNN (Val.str m) 8 10 = .val (.str (slice 8 10 m)) := rfl
    simp only [e, Res.bind_val, hex2bin_str _ (isHex_slice h 8 10) hne, pySliceNN_ofBits, bin2int_ofBits,
      bin2intR_of_length hs, Val.ofOptNat]
    rfl
  · have : (List.any [Val.num 17, Val.num 18] fun y => (Val.ofNat (PyModeS.df m)).beq y) = false := by
      simp only [List.any_cons, List.any_nil, Bool.or_false, Val.ofNat, Val.beq, Bool.or_eq_false_iff, beq_eq_false_iff_ne, ne_eq]
      push Not at hd
      constructor
      · intro e; apply hd.1; exact_mod_cast e
      · intro e; apply hd.2; exact_mod_cast e
    simp [this, pyTruth, Val.truth, hd, Val.ofOptNat]

/-- `common.typecode(msg)` read on the bits of the frame -/
theorem typecode_hex (m : Msg) (h : IsHex m) (hl : 10 ≤ m.length) :
    Gen.py_common.typecode (.str m) = .val (Val.ofOptNat (tcB (hex2binM m))) := by
  rw [typecode_str m h hl, typecode_eq]

/-- the 56-bit MB field of a 28-digit frame: `hex2bin(data(msg))` -/
theorem hex2bin_data (m : Msg) (h : IsHex m) (hl : m.length = 28) :
    Gen.py_common.hex2bin (.str (dataM m)) = .val (Val.ofBits (slice 32 88 (hex2binM m))) := by
  rw [dataM_28 m hl]
  have hne : slice 8 22 m ≠ [] := by
    intro e; have := congrArg List.length e; simp [slice, hl] at this
  rw [hex2bin_str _ (isHex_slice h 8 22) hne, hex2binM_slice]

theorem mb_length (m : Msg) (hl : m.length = 28) : (slice 32 88 (hex2binM m)).length = 56 := by
  simp [slice, hex2binM_length, hl]

theorem frame_bits (m : Msg) (hl : m.length = 28) : (hex2binM m).length = 112 := by
  rw [hex2binM_length, hl]

theorem ne_nil_of_le {α} {m : List α} {k : Nat} (hl : k + 1 ≤ m.length) : m ≠ [] := by
  rintro rfl; exact absurd hl (by simp)

/-- `dataR` of the hand model on a 112-bit frame -/
theorem dataR_hex (m : Msg) (hl : m.length = 28) :
    dataR (hex2binM m) = .val (slice 32 88 (hex2binM m)) := by
  have : (slice 32 88 (hex2binM m)) ≠ [] := by
    intro e; have := congrArg List.length e; rw [mb_length m hl] at this; simp at this
  simp [dataR, hex2binM_length, hl, this]

theorem idxR_of_lt {α} (l : List α) (k : Nat) (h : k < l.length) : idxR l k = .val l[k] := idxR_eq h

theorem bin2intR_slice_of_lt (d : Bits) (a b : Nat) (h1 : a < b) (h2 : a < d.length) :
    bin2intR (slice a b d) = .val (PyModeS.bin2int (slice a b d)) :=
  PyModeS.bin2intR_slice_of_lt h1 h2

/-! ### slices with natural-number bounds -/

theorem sliceList_nn {α} (l : List α) (a c : Nat) :
    sliceList l (some (a : Int)) (some (c : Int)) = (l.drop a).take (c - a) := by
  simp only [sliceList, normBound_nonneg, slice]
  rcases Nat.lt_or_ge l.length a with hlt | hge
  · rw [Nat.min_eq_right (Nat.le_of_lt hlt), List.drop_eq_nil_of_le (Nat.le_refl _),
      List.drop_eq_nil_of_le (Nat.le_of_lt hlt)]
    simp
  · rw [Nat.min_eq_left hge]
    rcases Nat.lt_or_ge l.length c with hlt2 | hge2
    · rw [Nat.min_eq_right (Nat.le_of_lt hlt2)]
      rw [List.take_of_length_le (by simp only [List.length_drop]; omega),
        List.take_of_length_le (by simp only [List.length_drop]; omega)]
    · rw [Nat.min_eq_left hge2]

theorem optInt_ofNat (n : Nat) : optInt (some (Val.ofNat n)) = .val (some (n : Int)) := by
  have := int?_ofNat n
  unfold Val.ofNat at this ⊢
  simp only [optInt, this]

/-- `common.allzeros(msg)` -/
theorem allzeros_str (m : Msg) (h : IsHex m) (hl : m.length = 28) :
    Gen.py_common.allzeros (.str m) = .val (.bool (PyModeS.bin2int (slice 32 88 (hex2binM m)) = 0)) := by
  unfold Gen.py_common.allzeros
  have hpos : 0 < (slice 32 88 (hex2binM m)).length := by rw [mb_length m hl]; decide
  simp only [data_str, Res.bind_val, hex2bin_data m h hl, bin2int_ofBits, bin2intR_of_length hpos, Val.ofNat,
    pyGt_num]
  by_cases hz : PyModeS.bin2int (slice 32 88 (hex2binM m)) = 0
  · simp [hz]
  · have : (0 : Rat) < (PyModeS.bin2int (slice 32 88 (hex2binM m)) : Rat) := by
      exact_mod_cast Nat.pos_of_ne_zero hz
    simp [hz, this]

/-- `common.wrongstatus(d, sb, msb, lsb)` on a bit string, 1-based positions as in the source -/
theorem wrongstatus_ofBits (d : Bits) (sb msb lsb : Nat) (h1 : 1 ≤ sb) (h2 : 1 ≤ msb) :
    Gen.py_common.wrongstatus (Val.ofBits d) (Val.ofNat sb) (Val.ofNat msb) (Val.ofNat lsb) =
      (PyModeS.wrongstatus d sb msb lsb >>= fun b => .val (.bool b)) := by
  unfold Gen.py_common.wrongstatus PyModeS.wrongstatus
  have e1 : pySub (Val.ofNat sb) (Val.num 1) = .val (Val.ofNat (sb - 1)) := by
    simp [Val.ofNat, Nat.cast_sub h1]
  have e2 : pySub (Val.ofNat msb) (Val.num 1) = .val (Val.ofNat (msb - 1)) := by
    simp [Val.ofNat, Nat.cast_sub h2]
  have e3 : Py.pyIdx (Val.ofBits d) (Val.ofNat (sb - 1)) = pyIdxN (Val.ofBits d) (sb - 1) := by
    have : ¬ (((sb - 1 : Nat) : Int) < 0) := by omega
    simp only [Py.pyIdx, int?_ofNat, pyIdxN, Val.ofBits, idxList, this, if_false, Int.toNat_natCast]
  have e4 : pySlice (Val.ofBits d) (some (Val.ofNat (msb - 1))) (some (Val.ofNat lsb)) =
      .val (Val.ofBits (slice (msb - 1) lsb d)) := by
    simp only [pySlice, optInt_ofNat, Res.bind_val, Val.ofBits, sliceList_nn, slice, List.map_take, List.map_drop]
  simp only [e1, e2, e3, e4, Res.bind_val, pyIdxN_ofBits, bin2int_ofBits]
  cases hi : idxR d (sb - 1) with
  | rte => rfl
  | exc => rfl
  | val s =>
    simp only [Res.bind_val, pyInt1_digit]
    cases hv : bin2intR (slice (msb - 1) lsb d) with
    | rte => rfl
    | exc => rfl
    | val v =>
      simp only [Res.bind_val]
      cases s <;> by_cases hz : v = 0 <;> simp [pyNot, Val.truth, pyTruth, Val.ofNat, hz, pure]

theorem allzerosB_hex (m : Msg) (hl : m.length = 28) :
    allzerosB (hex2binM m) = .val (decide (PyModeS.bin2int (slice 32 88 (hex2binM m)) = 0)) := by
  simp [allzerosB, dataR_hex m hl]

/-- `wrongstatus_ofBits` with the three positions in the `Val.num` form the generated code uses -/
theorem ws_lit (d : Bits) (sb msb lsb : Nat) (h1 : 1 ≤ sb) (h2 : 1 ≤ msb) :
    Gen.py_common.wrongstatus (Val.ofBits d) (.num (sb : Rat)) (.num (msb : Rat)) (.num (lsb : Rat)) =
      (PyModeS.wrongstatus d sb msb lsb >>= fun b => .val (.bool b)) :=
  wrongstatus_ofBits d sb msb lsb h1 h2

end PyModeS.Tie
