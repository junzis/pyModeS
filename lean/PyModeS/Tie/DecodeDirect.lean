/-
  Property statements proved DIRECTLY about the generated `Gen.decode.Decode_process_raw`
  (`Generated/Src/decode.lean`, the translation of `Decode.process_raw` of pyModeS/streamer/decode.py): the live
  aircraft table of property C17.  The tracker model (`Model/Tracker.lean`, `Properties/C17.lean`) does not occur; of
  the hand model only the readers of a message (`PyModeS.icao`, `PyModeS.pyInt`) do.

  * The three loop bodies `adsbBody`, `commbBody`, `evictBody` are not retyped: `loop_body_def` extracts them from the
    value of the generated constant; `process_raw_decomp` (by `rfl`) says the function is the three loops over them.
  * (A) `evict_loop_spec`, `evict_loop_val`, `evict_absent`, `evict_present`: the clean-up loop leaves exactly
    `evict t timeout acs`, and returns exactly when every entry has a numeric `live` (`evict_loop_aux`).
  * (B) `commbBody_unknown(_hex)`: a Comm-B message of an unknown address changes nothing.
  * Each message loop body is walked once: `adsbBody_live`, `commbBody_post` say what a pass does to the table (key
    list, entries under other keys untouched, `live = int(t)` / `max(live, int(t))` under the message's address).
    Everything about the loops follows from these: `commbLoop_keys` (the Comm-B loop never changes the key list),
    (C) `adsbLoop_keys` (the ADS-B loop extends it by the addresses of the messages), `adsbLoop_rel`, `commbLoop_rel`
    (the table moves along a chain of per-message relations).
  * end to end: `process_raw_via` (the function as the composition of its phases), from which `process_raw_spec`,
    `process_raw_rel`, and then `keys_and_staleness_gen`, `absent_if_silent_gen`, `absent_after_61_gen`,
    `listed_if_recent_gen`.
  All end-to-end statements are partial-correctness statements (“if the call returns a value …”): that the call does
  return (no crash) needs totality of every decoder it calls and is NOT proved here.
-/
import PyModeS.Tie.Basic
import PyModeS.Tie.Common
import PyModeS.Tie.Attr
import PyModeS.Generated.Src.decode
import Lean
import PyModeS.Proofs.Tracker.Hoare
import PyModeS.Tie.Icao
open PyModeS PyModeS.Py PyModeS.CRC

namespace PyModeS.Tie.DecodeDirect
open Lean Elab Command Meta

/-- all loop bodies (third explicit argument of `forIn`) of a term, in textual order -/
partial def collectForInBodies (e : Expr) (acc : Array Expr) : Array Expr :=
  match e with
  | .app .. =>
    let acc := if e.isAppOfArity ``ForIn.forIn 8 then acc.push e.appArg! else acc
    e.getAppArgs.foldl (fun acc a => collectForInBodies a acc) (collectForInBodies e.getAppFn acc)
  | .lam _ t b _ => collectForInBodies b (collectForInBodies t acc)
  | .forallE _ t b _ => collectForInBodies b (collectForInBodies t acc)
  | .letE _ t v b _ => collectForInBodies b (collectForInBodies v (collectForInBodies t acc))
  | .mdata _ e => collectForInBodies e acc
  | .proj _ _ e => collectForInBodies e acc
  | _ => acc

/-- `loop_body_def name := c # i`: define `name` as the body of the `i`-th `for` loop of the constant `c` -/
elab "loop_body_def " n:ident " := " c:ident " # " i:num : command => do
  let cname ← liftCoreM <| realizeGlobalConstNoOverloadWithInfo c
  let cinfo ← getConstInfo cname
  let some v := cinfo.value? | throwError "no value"
  let bodies := collectForInBodies v #[]
  let some b := bodies[i.getNat]? | throwError "only {bodies.size} loops"
  if b.hasLooseBVars then throwError "loop body refers to outer variables"
  let ty ← liftTermElabM <| inferType b
  let ns ← getCurrNamespace
  let declName := ns ++ n.getId
  liftCoreM <| addDecl <| Declaration.defnDecl {
    name := declName, levelParams := [], type := ty, value := b,
    hints := ReducibilityHints.regular (getMaxHeight (← getEnv) b + 1), safety := DefinitionSafety.safe }
  let c := mkConst declName
  liftCoreM <| addDecl <| Declaration.thmDecl {
    name := declName ++ `def, levelParams := [], type := ← liftTermElabM (mkEq c b), value := ← liftTermElabM (mkEqRefl c) }

loop_body_def adsbBody := PyModeS.Gen.decode.Decode_process_raw # 0
loop_body_def commbBody := PyModeS.Gen.decode.Decode_process_raw # 1
loop_body_def evictBody := PyModeS.Gen.decode.Decode_process_raw # 2


/-- `process_raw` from `self.t = tnow` on, i.e. after `tnow` has been defaulted -/
noncomputable def phases (self adsb_ts adsb_msg commb_ts commb_msg tnow : Val) : Res Val := do
  let self ← pySetAttr self "t" tnow
  let items ← pyIter (← pyZip adsb_ts adsb_msg)
  let s ← forIn items (self, Val.none, Val.none, Val.none, Val.none, Val.none, Val.none, Val.none, Val.none, Val.none,
    Val.none, Val.none, Val.none, Val.none, Val.none, Val.none, Val.tuple [], Val.tuple []) adsbBody
  let items ← pyIter (← pyZip commb_ts commb_msg)
  let s ← forIn items (s.1, s.2.1, s.2.2.1, s.2.2.2.1, Val.none, Val.none, Val.none, Val.none, Val.none, Val.none,
    Val.none, Val.none, Val.none, Val.none, Val.none, s.2.2.2.2.2.2.2.2.2.2.2.2.2.2.2.2.2) commbBody
  let keys ← pyIter (← pyList (← pyKeys (← pyGetAttr s.1 "acs")))
  let s ← forIn keys (s.1, s.2.2.2.1) evictBody
  if pyTruth (← pyIsNot (← pyGetAttr s.1 "dumpto") Val.none) then
    (pyUnmodelled "method .strftime/1" : Res PUnit)
    (pyUnmodelled "format string '/pymodes_dump_%s.csv'" : Res PUnit)
    (pyUnmodelled "expression statement" : Res PUnit)
    (pyUnmodelled "statement With" : Res PUnit)
  return (Val.tuple [s.1, Val.none])

theorem process_raw_decomp (self adsb_ts adsb_msg commb_ts commb_msg tnow : Val) :
    Gen.decode.Decode_process_raw self adsb_ts adsb_msg commb_ts commb_msg tnow =
      (pyIs tnow Val.none >>= fun c =>
        if pyTruth c = true then
          Gen.Ext.time_time >>= fun tnow' => phases self adsb_ts adsb_msg commb_ts commb_msg tnow'
        else phases self adsb_ts adsb_msg commb_ts commb_msg tnow) := rfl


/-! ### dictionaries with string / `None` keys (look-up and item assignment for any key: `Tie/Attr.lean`) -/

/-- the values `pms.icao(msg)` can return: a string or `None` -/
def IsKey (v : Val) : Prop := v = .none ∨ ∃ s, v = .str s

theorem isKey_str (s : List Char) : IsKey (.str s) := Or.inr ⟨s, rfl⟩
theorem isKey_none : IsKey .none := Or.inl rfl
theorem isKey_attr (n : String) : IsKey (attrKey n) := Or.inr ⟨_, rfl⟩

theorem beq_key_left {k v : Val} (hk : IsKey k) : Val.beq k v = true ↔ v = k := by
  rcases hk with rfl | ⟨s, rfl⟩
  · cases v <;> simp [Val.beq]
  · cases v <;> simp [Val.beq]
    exact eq_comm

theorem beq_key_right {k v : Val} (hk : IsKey k) : Val.beq v k = true ↔ v = k := by
  rcases hk with rfl | ⟨s, rfl⟩
  · cases v <;> simp [Val.beq]
  · cases v <;> simp [Val.beq]

theorem beq_key_self {k : Val} (hk : IsKey k) : Val.beq k k = true := (beq_key_left hk).2 rfl

theorem dictFind_nil (k : Val) : dictFind [] k = none := rfl

theorem setPair_nil (k v : Val) : setPair k v [] = [(k, v)] := rfl

/-- the key list of a dictionary (insertion order) -/
def keysOf (l : List (Val × Val)) : List Val := l.map (·.1)

/-- `k in d` -/
def hasKey (l : List (Val × Val)) (k : Val) : Bool := l.any (fun kv => Val.beq k kv.1)

theorem hasKey_cons (k k' v : Val) (l : List (Val × Val)) :
    hasKey ((k', v) :: l) k = (Val.beq k k' || hasKey l k) := rfl

theorem hasKey_eq_any (l : List (Val × Val)) (k : Val) : hasKey l k = (keysOf l).any (fun k' => Val.beq k k') := by
  simp [hasKey, keysOf, List.any_map, Function.comp_def]

theorem any_beq_iff_mem {ic : Val} (hic : IsKey ic) (ks : List Val) :
    ks.any (fun k => Val.beq ic k) = true ↔ ic ∈ ks := by
  rw [List.any_eq_true]
  constructor
  · rintro ⟨k, hk, hb⟩
    rw [(beq_key_left hic).1 hb] at hk; exact hk
  · intro h; exact ⟨ic, h, beq_key_self hic⟩

theorem hasKey_iff_mem {k : Val} (hk : IsKey k) (l : List (Val × Val)) : hasKey l k = true ↔ k ∈ keysOf l := by
  rw [hasKey_eq_any]; exact any_beq_iff_mem hk _

theorem dictFind_isSome (l : List (Val × Val)) (k : Val) : (dictFind l k).isSome = hasKey l k := by
  induction l with
  | nil => rfl
  | cons kv l ih =>
    obtain ⟨k', v⟩ := kv
    rw [Beast.dictFind_cons, hasKey_cons]
    by_cases h : Val.beq k k' = true
    · simp [h]
    · simp [h, ih]

theorem hasKey_of_find {l : List (Val × Val)} {k e : Val} (h : dictFind l k = some e) : hasKey l k = true := by
  rw [← dictFind_isSome, h]; rfl

/-- item assignment keeps the key list when the key is present, and appends the key otherwise -/
theorem keysOf_setPair (k v : Val) (l : List (Val × Val)) :
    keysOf (setPair k v l) = if hasKey l k then keysOf l else keysOf l ++ [k] := by
  induction l with
  | nil => rfl
  | cons kv l ih =>
    obtain ⟨k', v'⟩ := kv
    rw [Beast.setPair_cons, hasKey_cons]
    by_cases h : Val.beq k k' = true
    · simp [h, keysOf]
    · simp only [h, if_false, Bool.false_or, Bool.false_eq_true]
      simp only [keysOf, List.map_cons] at ih ⊢
      rw [ih]
      split <;> simp

theorem dictFind_setPair_ne' {k k' : Val} (hk' : IsKey k') (hne : k ≠ k') (v : Val) (l : List (Val × Val)) :
    dictFind (setPair k v l) k' = dictFind l k' := by
  have hb : Val.beq k' k = false := by
    rw [Bool.eq_false_iff]; intro h; exact hne ((beq_key_left hk').1 h)
  induction l with
  | nil => simp [setPair_nil, Beast.dictFind_cons, hb, dictFind_nil]
  | cons kv l ih =>
    obtain ⟨k'', v'⟩ := kv
    rw [Beast.setPair_cons]
    by_cases h : Val.beq k k'' = true
    · rw [if_pos h, Beast.dictFind_cons, Beast.dictFind_cons]
      have : Val.beq k' k'' = false := by
        rw [Bool.eq_false_iff]; intro h'
        have e1 : k'' = k' := (beq_key_left hk').1 h'
        rw [e1] at h
        exact hne ((beq_key_right hk').1 h)
      simp [this]
    · rw [if_neg h, Beast.dictFind_cons, Beast.dictFind_cons, ih]


/-! ### the receiver: an attribute dictionary whose `acs` attribute is the aircraft table -/

/-- the receiver with attributes `a` and aircraft table `l` (`self.acs = l` on top of `a`) -/
def mk (a l : List (Val × Val)) : Val := .dict (setPair (attrKey "acs") (.dict l) a)

/-- any attribute dictionary that has a table under `acs` is of that form -/
theorem mk_of_find {a l : List (Val × Val)} (h : dictFind a (attrKey "acs") = some (.dict l)) :
    Val.dict a = mk a l := by
  unfold mk; rw [Beast.setPair_of_find h]

theorem get_acs (a l : List (Val × Val)) : pyGetAttr (mk a l) "acs" = .val (.dict l) := by
  unfold mk pyGetAttr
  simp only [Beast.dictFind_setPair_self (beq_key_self (isKey_attr "acs"))]

theorem set_acs (a l l' : List (Val × Val)) : pySetAttr (mk a l) "acs" (.dict l') = .val (mk a l') := by
  unfold mk pySetAttr
  simp only [Beast.setPair_setPair_self (beq_key_self (isKey_attr "acs"))]

/-- setting one attribute leaves the others alone -/
theorem dictFind_setPair_attr {n n' : String} (h : n ≠ n') (v : Val) (l : List (Val × Val)) :
    dictFind (setPair (attrKey n) v l) (attrKey n') = dictFind l (attrKey n') :=
  Beast.dictFind_setPair_ne _ _ (Beast.toList_ne h) v l

theorem get_other (a l : List (Val × Val)) (n : String) (h : n ≠ "acs") :
    pyGetAttr (mk a l) n = pyGetAttr (.dict a) n := by
  unfold mk pyGetAttr
  simp only [dictFind_setPair_attr (Ne.symm h)]

theorem get_t (a l : List (Val × Val)) : pyGetAttr (mk a l) "t" = pyGetAttr (.dict a) "t" :=
  get_other a l "t" (by decide)
theorem get_timeout (a l : List (Val × Val)) :
    pyGetAttr (mk a l) "cache_timeout" = pyGetAttr (.dict a) "cache_timeout" :=
  get_other a l "cache_timeout" (by decide)
theorem get_dumpto (a l : List (Val × Val)) : pyGetAttr (mk a l) "dumpto" = pyGetAttr (.dict a) "dumpto" :=
  get_other a l "dumpto" (by decide)
theorem get_lat0 (a l : List (Val × Val)) : pyGetAttr (mk a l) "lat0" = pyGetAttr (.dict a) "lat0" :=
  get_other a l "lat0" (by decide)
theorem get_lon0 (a l : List (Val × Val)) : pyGetAttr (mk a l) "lon0" = pyGetAttr (.dict a) "lon0" :=
  get_other a l "lon0" (by decide)

/-- the table of a receiver is determined by the receiver -/
theorem mk_inj {a l l' : List (Val × Val)} (h : mk a l = mk a l') : l = l' := by
  have h1 := get_acs a l
  rw [h, get_acs] at h1
  injection h1 with h1
  injection h1 with h1
  exact h1.symm

/-! ### (A) the eviction loop -/

abbrev liveKey : Val := Val.str ['l', 'i', 'v', 'e']

/-- `ac["live"]` as a number, when the table entry `ac` is a dictionary with a numeric `live` -/
def liveOf (e : Val) : Option Rat :=
  match e with
  | .dict ac => (match dictFind ac liveKey with
    | some x => x.num?
    | none => none)
  | _ => none

/-- the clean-up test of `process_raw`: the entry stays unless `t - live > timeout` -/
def keep (t timeout : Rat) (kv : Val × Val) : Bool :=
  match liveOf kv.2 with
  | some q => decide (t - q ≤ timeout)
  | none => true

/-- the table after the clean-up -/
def evict (t timeout : Rat) (acs : List (Val × Val)) : List (Val × Val) := acs.filter (keep t timeout)

theorem mem_evict {t timeout : Rat} {acs : List (Val × Val)} {kv : Val × Val} {q : Rat} (hq : liveOf kv.2 = some q) :
    kv ∈ evict t timeout acs ↔ kv ∈ acs ∧ t - q ≤ timeout := by
  simp [evict, keep, hq]

theorem pyIdx_live (e : Val) :
    (Py.pyIdx e liveKey >>= fun x => pySub (.num t) x) =
      match liveOf e with
      | some q => .val (.num (t - q))
      | none => .exc := by
  cases e with
  | dict ac =>
    simp only [Py.pyIdx, liveOf]
    cases dictFind ac liveKey with
    | none => rfl
    | some x =>
      simp only [bind_val', pySub, arith, num?_num]
      cases x.num? <;> rfl
  | _ => rfl

/-- one pass of the generated loop body on a key that is in the table -/
theorem evictBody_eval (a l : List (Val × Val)) (k ic e : Val) (t timeout : Rat)
    (ht : dictFind a (attrKey "t") = some (.num t))
    (hto : dictFind a (attrKey "cache_timeout") = some (.num timeout))
    (hk : dictFind l k = some e) :
    evictBody k (mk a l, ic) =
      match liveOf e with
      | none => .exc
      | some q =>
        if timeout < t - q then .val (.yield (mk a (l.filter (fun kv => !Val.beq k kv.1)), k))
        else .val (.yield (mk a l, k)) := by
  have h1 : pyGetAttr (mk a l) "t" = .val (.num t) := by rw [get_t]; simp only [pyGetAttr, ht]
  have h2 : pyGetAttr (mk a l) "cache_timeout" = .val (.num timeout) := by
    rw [get_timeout]; simp only [pyGetAttr, hto]
  have h3 : Py.pyIdx (.dict l) k = .val e := by simp only [Py.pyIdx, hk]
  have h4 := pyIdx_live (t := t) e
  have h5 : pyDelItem (.dict l) k = .val (.dict (l.filter (fun kv => !Val.beq k kv.1))) := by
    have := hasKey_of_find hk
    unfold hasKey at this
    simp only [pyDelItem, this, if_true]
  unfold evictBody
  simp only []
  rw [h1, bind_val', get_acs, bind_val', h3, bind_val']
  rw [← bind_assoc (Py.pyIdx e liveKey) (fun x => pySub (.num t) x), h4]
  cases liveOf e with
  | none => rfl
  | some q =>
    simp only []
    rw [bind_val', h2, bind_val', pyGt_num, bind_val', pyTruth_bool, bind_val', h5, bind_val', set_acs, bind_val']
    simp only [decide_eq_true_eq]
    rfl


/-- a well-formed table: every key is a string or `None` (what `pms.icao` returns) and no key occurs twice -/
def KeysOK (l : List (Val × Val)) : Prop := (∀ k ∈ keysOf l, IsKey k) ∧ (keysOf l).Nodup

theorem keysOf_append (l l' : List (Val × Val)) : keysOf (l ++ l') = keysOf l ++ keysOf l' := by
  simp [keysOf]

theorem keysOf_cons (kv : Val × Val) (l : List (Val × Val)) : keysOf (kv :: l) = kv.1 :: keysOf l := rfl

theorem dictFind_of_not_mem {k : Val} (hk : IsKey k) {l : List (Val × Val)} (h : k ∉ keysOf l) :
    dictFind l k = none := by
  cases hd : dictFind l k with
  | none => rfl
  | some x => exact absurd ((hasKey_iff_mem hk l).1 (hasKey_of_find hd)) h

theorem dictFind_append (l l' : List (Val × Val)) (k : Val) :
    dictFind (l ++ l') k = (dictFind l k).or (dictFind l' k) := by
  induction l with
  | nil => simp [dictFind_nil]
  | cons kv l ih =>
    obtain ⟨k', v⟩ := kv
    rw [List.cons_append, Beast.dictFind_cons, Beast.dictFind_cons, ih]
    split <;> rfl

theorem filter_not_beq_of_not_mem {k : Val} (hk : IsKey k) {l : List (Val × Val)} (h : k ∉ keysOf l) :
    l.filter (fun kv => !Val.beq k kv.1) = l := by
  rw [List.filter_eq_self]
  intro kv hkv
  have : Val.beq k kv.1 = false := by
    rw [Bool.eq_false_iff]; intro hb
    exact h ((beq_key_left hk).1 hb ▸ List.mem_map_of_mem hkv)
  simp [this]

/-- well-formedness passes to sublists (entries dropped, order kept) -/
theorem keysOK_sublist {l l' : List (Val × Val)} (h : l'.Sublist l) (hK : KeysOK l) : KeysOK l' :=
  ⟨fun k hk => hK.1 k ((h.map _).subset hk), hK.2.sublist (h.map _)⟩

theorem keysOK_drop {done todo : List (Val × Val)} {kv : Val × Val} (hK : KeysOK (done ++ kv :: todo)) :
    KeysOK (done ++ todo) :=
  keysOK_sublist ((List.sublist_cons_self kv todo).append_left done) hK

/-- one iteration of the eviction loop, from the middle: the entries `done` have been looked at (and kept), the entry
    `(k, e)` is next, `todo` are still to come -/
theorem evict_step (a : List (Val × Val)) (t timeout : Rat)
    (ht : dictFind a (attrKey "t") = some (.num t))
    (hto : dictFind a (attrKey "cache_timeout") = some (.num timeout))
    (done todo : List (Val × Val)) (k e ic : Val) (hK : KeysOK (done ++ (k, e) :: todo)) :
    forIn (keysOf ((k, e) :: todo)) (mk a (done ++ (k, e) :: todo), ic) evictBody =
      match liveOf e with
      | none => Res.exc
      | some q =>
        if timeout < t - q then forIn (keysOf todo) (mk a (done ++ todo), k) evictBody
        else forIn (keysOf todo) (mk a ((done ++ [(k, e)]) ++ todo), k) evictBody := by
  have hkeys : keysOf (done ++ (k, e) :: todo) = keysOf done ++ k :: keysOf todo := by
    rw [keysOf_append, keysOf_cons]
  have hkk : IsKey k := hK.1 k (by rw [hkeys]; simp)
  have hnd := hK.2
  rw [hkeys, List.nodup_append] at hnd
  have hk_done : k ∉ keysOf done := fun hm => hnd.2.2 k hm k (by simp) rfl
  have hk_todo : k ∉ keysOf todo := (List.nodup_cons.1 hnd.2.1).1
  have hfind : dictFind (done ++ (k, e) :: todo) k = some e := by
    rw [dictFind_append, dictFind_of_not_mem hkk hk_done, Beast.dictFind_cons, beq_key_self hkk]
    rfl
  rw [keysOf_cons, List.forIn_cons, evictBody_eval a _ k ic e t timeout ht hto hfind]
  cases liveOf e with
  | none => rfl
  | some q =>
    simp only []
    by_cases hstale : timeout < t - q
    · rw [if_pos hstale, if_pos hstale, bind_val']
      simp only []
      have hfil : (done ++ (k, e) :: todo).filter (fun kv => !Val.beq k kv.1) = done ++ todo := by
        rw [List.filter_append, List.filter_cons, filter_not_beq_of_not_mem hkk hk_done,
          filter_not_beq_of_not_mem hkk hk_todo]
        simp [beq_key_self hkk]
      rw [hfil]
    · rw [if_neg hstale, if_neg hstale, bind_val']
      simp only []
      have e1 : done ++ (k, e) :: todo = (done ++ [(k, e)]) ++ todo := by simp
      rw [e1]

theorem evict_cons (t timeout : Rat) (k e : Val) (todo : List (Val × Val)) (q : Rat) (hq : liveOf e = some q) :
    evict t timeout ((k, e) :: todo) =
      if timeout < t - q then evict t timeout todo else (k, e) :: evict t timeout todo := by
  simp only [evict, List.filter_cons, keep, hq, decide_eq_true_eq, ← not_lt, ite_not]

/-- the eviction loop, from the middle: if every remaining entry has a numeric `live` it returns the receiver with the
    table `done ++ evict t timeout todo`, and it returns only then -/
theorem evict_loop_aux (a : List (Val × Val)) (t timeout : Rat)
    (ht : dictFind a (attrKey "t") = some (.num t))
    (hto : dictFind a (attrKey "cache_timeout") = some (.num timeout))
    (todo : List (Val × Val)) : ∀ (done : List (Val × Val)) (ic : Val), KeysOK (done ++ todo) →
    ((∀ kv ∈ todo, ∃ q, liveOf kv.2 = some q) →
      ∃ ic', forIn (keysOf todo) (mk a (done ++ todo), ic) evictBody =
        Res.val (mk a (done ++ evict t timeout todo), ic')) ∧
    (∀ s, forIn (keysOf todo) (mk a (done ++ todo), ic) evictBody = Res.val s →
      ∀ kv ∈ todo, ∃ q, liveOf kv.2 = some q) := by
  induction todo with
  | nil => exact fun done ic _ => ⟨fun _ => ⟨ic, rfl⟩, fun _ _ kv hkv => nomatch hkv⟩
  | cons kv todo ih =>
    intro done ic hK
    obtain ⟨k, e⟩ := kv
    rw [evict_step a t timeout ht hto done todo k e ic hK]
    cases hq : liveOf e with
    | none =>
      refine ⟨fun hl => ?_, fun s hs => nomatch hs⟩
      obtain ⟨q, h⟩ := hl (k, e) List.mem_cons_self
      rw [hq] at h
      cases h
    | some q =>
      simp only [List.forall_mem_cons, evict_cons t timeout k e todo q hq]
      by_cases hstale : timeout < t - q
      · rw [if_pos hstale, if_pos hstale]
        obtain ⟨h1, h2⟩ := ih done k (keysOK_drop hK)
        exact ⟨fun hl => h1 hl.2, fun s hs => ⟨⟨q, hq⟩, h2 s hs⟩⟩
      · rw [if_neg hstale, if_neg hstale]
        obtain ⟨h1, h2⟩ := ih (done ++ [(k, e)]) k (by rw [List.append_assoc]; exact hK)
        refine ⟨fun hl => ?_, fun s hs => ⟨⟨q, hq⟩, h2 s hs⟩⟩
        obtain ⟨ic', h⟩ := h1 hl.2
        exact ⟨ic', by rw [h]; simp⟩

/-- **(A)** The generated clean-up loop, run on a receiver whose table `acs` is well formed and whose entries all have
    a numeric `live`, leaves exactly the entries with `t - live ≤ cache_timeout` (in their old order); no other
    attribute of the receiver changes. -/
theorem evict_loop_spec (a acs : List (Val × Val)) (t timeout : Rat) (ic : Val)
    (ht : dictFind a (attrKey "t") = some (.num t))
    (hto : dictFind a (attrKey "cache_timeout") = some (.num timeout))
    (hK : KeysOK acs) (hlive : ∀ kv ∈ acs, ∃ q, liveOf kv.2 = some q) :
    ∃ ic', forIn (keysOf acs) (mk a acs, ic) evictBody = Res.val (mk a (evict t timeout acs), ic') :=
  (evict_loop_aux a t timeout ht hto acs [] ic hK).1 hlive

/-- the same without the assumption on `live`: if the loop returns, the assumption held and the result is `evict` -/
theorem evict_loop_val (a acs : List (Val × Val)) (t timeout : Rat) (ic : Val) (s : Val × Val)
    (ht : dictFind a (attrKey "t") = some (.num t))
    (hto : dictFind a (attrKey "cache_timeout") = some (.num timeout))
    (hK : KeysOK acs) (h : forIn (keysOf acs) (mk a acs, ic) evictBody = Res.val s) :
    s.1 = mk a (evict t timeout acs) ∧ ∀ kv ∈ acs, ∃ q, liveOf kv.2 = some q := by
  have hlive := (evict_loop_aux a t timeout ht hto acs [] ic hK).2 s h
  obtain ⟨ic', h'⟩ := evict_loop_spec a acs t timeout ic ht hto hK hlive
  rw [h'] at h
  cases h
  exact ⟨rfl, hlive⟩


/-! #### staleness bounds: `live` is `int(t)` of the last message -/

/-- `int(t)` on a number is the truncation `pyInt` of the hand model (`Model/Tracker.lean`) -/
theorem pyInt1_num (q : Rat) : pyInt1 (.num q) = .val (.num (PyModeS.pyInt q : Rat)) := by
  unfold pyInt1 PyModeS.pyInt
  by_cases h : q < 0
  · have : ¬ (q ≥ 0) := not_le.2 h
    simp only [h, if_true, this, if_false]
  · have : q ≥ 0 := not_lt.1 h
    simp only [h, if_false, this, if_true]

/-- for a time stamp `t ≥ 0` that is `⌊t⌋` -/
theorem pyInt1_num_nonneg (q : Rat) (h : 0 ≤ q) : pyInt1 (.num q) = .val (.num (q.floor : Rat)) := by
  rw [pyInt1_num]; unfold PyModeS.pyInt; rw [if_pos h]

/-- an aircraft last heard (`live = int(tm)`) more than 61 s before `t` is not in the table after the clean-up
    (timeout 60 s, any sign of `tm`; for `tm ≥ 0` see `evict_absent_nonneg`) -/
theorem evict_absent (t tm : Rat) (acs : List (Val × Val)) (kv : Val × Val)
    (hlive : liveOf kv.2 = some (PyModeS.pyInt tm : Rat)) (hsilent : t - tm ≥ 61) : kv ∉ evict t 60 acs := by
  rw [mem_evict hlive]
  rintro ⟨_, h⟩
  have := (Tracker.pyInt_abs_lt tm).2
  linarith

/-- with `tm ≥ 0` (`int` = floor): more than 60 s of silence are enough -/
theorem evict_absent_nonneg (t tm : Rat) (acs : List (Val × Val)) (kv : Val × Val) (h0 : 0 ≤ tm)
    (hlive : liveOf kv.2 = some (tm.floor : Rat)) (hsilent : t - tm > 60) : kv ∉ evict t 60 acs := by
  have e : (tm.floor : Rat) = (PyModeS.pyInt tm : Rat) := by unfold PyModeS.pyInt; rw [if_pos h0]
  rw [e] at hlive
  rw [mem_evict hlive]
  rintro ⟨_, h⟩
  have := (Tracker.pyInt_nonneg_bounds tm h0).1
  linarith

/-- an aircraft heard within the last 59 s (`live = int(tm)`) stays in the table -/
theorem evict_present (t tm : Rat) (acs : List (Val × Val)) (kv : Val × Val) (hmem : kv ∈ acs)
    (hlive : liveOf kv.2 = some (PyModeS.pyInt tm : Rat)) (hrecent : t - tm ≤ 59) : kv ∈ evict t 60 acs := by
  rw [mem_evict hlive]
  refine ⟨hmem, ?_⟩
  have := (Tracker.pyInt_abs_lt tm).1
  linarith

/-- whatever stays has `t - live ≤ timeout` -/
theorem evict_fresh (t timeout : Rat) (acs : List (Val × Val)) (kv : Val × Val) (q : Rat)
    (hmem : kv ∈ evict t timeout acs) (hlive : liveOf kv.2 = some q) : t - q ≤ timeout :=
  ((mem_evict hlive).1 hmem).2

theorem evict_sublist (t timeout : Rat) (acs : List (Val × Val)) : (evict t timeout acs).Sublist acs :=
  List.filter_sublist

theorem keysOf_evict_subset (t timeout : Rat) (acs : List (Val × Val)) :
    ∀ k ∈ keysOf (evict t timeout acs), k ∈ keysOf acs :=
  fun _ hk => ((evict_sublist t timeout acs).map _).subset hk


/-! ### (B) Comm-B gating -/

theorem pyNotIn_dict (k : Val) (l : List (Val × Val)) : pyNotIn k (.dict l) = .val (.bool (!hasKey l k)) := rfl
theorem pyIn_dict (k : Val) (l : List (Val × Val)) : pyIn k (.dict l) = .val (.bool (hasKey l k)) := rfl

theorem commbBody_unknown (self : Val) (l : List (Val × Val)) (tv msg ic : Val)
    (t0 msg0 ic0 bds r50 t50 rt50 g50 ta50 i60 h60 m60 rb60 ri60 ob : Val)
    (hacs : pyGetAttr self "acs" = .val (.dict l)) (hic : Gen.py_common.icao msg = .val ic)
    (hnot : hasKey l ic = false) :
    commbBody (.tuple [tv, msg]) (self, t0, msg0, ic0, bds, r50, t50, rt50, g50, ta50, i60, h60, m60, rb60, ri60, ob) =
      .val (.yield (self, tv, msg, ic, bds, r50, t50, rt50, g50, ta50, i60, h60, m60, rb60, ri60, ob)) := by
  unfold commbBody
  extract_lets self'
  have hs : self' = self := rfl
  clear_value self'
  subst hs
  -- one known result at a time, from the front: a `rw` would search the whole body for each
  refine bind_eq (a := ()) rfl (bind_eq (a := tv) rfl (bind_eq (a := msg) rfl
    (bind_eq hic (bind_eq hacs (bind_eq (pyNotIn_dict _ _) ?_)))))
  rw [hnot]
  rfl

/-- the same for a hex frame: the address is `PyModeS.icao m` (`icao_tie`) -/
theorem commbBody_unknown_hex (self : Val) (l : List (Val × Val)) (tv : Val) (m : Msg)
    (t0 msg0 ic0 bds r50 t50 rt50 g50 ta50 i60 h60 m60 rb60 ri60 ob : Val)
    (hacs : pyGetAttr self "acs" = .val (.dict l)) (hm : IsHex m) (hl : 6 ≤ m.length)
    (hnot : hasKey l (Val.ofOptStr (PyModeS.icao m)) = false) :
    commbBody (.tuple [tv, .str m])
        (self, t0, msg0, ic0, bds, r50, t50, rt50, g50, ta50, i60, h60, m60, rb60, ri60, ob) =
      .val (.yield (self, tv, .str m, Val.ofOptStr (PyModeS.icao m), bds, r50, t50, rt50, g50, ta50, i60, h60, m60,
        rb60, ri60, ob)) :=
  commbBody_unknown self l tv (.str m) _ t0 msg0 ic0 bds r50 t50 rt50 g50 ta50 i60 h60 m60 rb60 ri60 ob hacs
    (icao_tie m hm hl) hnot

/-! ### the table during one pass of a message loop

  A pass touches the table only through `self.acs[ic][key] = v`, for the address `ic` of its message.  `InvF a ks F`
  says what is known about the receiver at a point of the pass; the predicates `F` used are `Frame` (entries under
  other keys untouched) together with what is known about `live` under `ic`. -/

open PyModeS.Tracker (RAll rall_val rall_pure rall_exc rall_bind rall_ite rall_mono rall_elim)

/-- the receiver is `a` with some table whose key list is `ks` -/
def Inv (a : List (Val × Val)) (ks : List Val) (self : Val) : Prop := ∃ l, self = mk a l ∧ keysOf l = ks

/-- the tables `l0` and `l` agree outside the key `ic` -/
def Frame (l0 : List (Val × Val)) (ic : Val) (l : List (Val × Val)) : Prop :=
  ∀ k, IsKey k → k ≠ ic → dictFind l k = dictFind l0 k

/-- the receiver is `a` with a table whose key list is `ks` and which satisfies `F` -/
def InvF (a : List (Val × Val)) (ks : List Val) (F : List (Val × Val) → Prop) (self : Val) : Prop :=
  ∃ l, self = mk a l ∧ keysOf l = ks ∧ F l

/-- `y` is `self.acs[ic]`, for a receiver as in `InvF a ks F` -/
def EntryAt (a : List (Val × Val)) (ks : List Val) (F : List (Val × Val) → Prop) (self ic y : Val) : Prop :=
  ∃ l, dictFind l ic = some y ∧ self = mk a l ∧ keysOf l = ks ∧ F l

/-- `F` survives `self.acs[ic][key] = v` for every `key` other than `"live"` -/
def Closed (ic : Val) (F : List (Val × Val) → Prop) : Prop :=
  ∀ l e key v s1, F l → dictFind l ic = some e → key ≠ liveKey → pySetItem e key v = .val s1 → F (setPair ic s1 l)

theorem isKey_liveKey : IsKey liveKey := isKey_str _

/-- an item assignment under another key leaves `live` alone -/
theorem liveOf_setItem_ne {e key v s1 : Val} (hkey : key ≠ liveKey) (h : pySetItem e key v = .val s1) :
    liveOf s1 = liveOf e := by
  cases e with
  | dict ee =>
    simp only [pySetItem, Res.val.injEq] at h
    subst h
    simp only [liveOf, dictFind_setPair_ne' isKey_liveKey hkey]
  | tuple l =>
    simp only [pySetItem] at h
    split at h
    · split at h
      · split at h
        · cases h; rfl
        · cases h
      · split at h
        · cases h; rfl
        · cases h
    · cases h
  | _ => cases h

/-- `ac["live"] = v` -/
theorem liveOf_setItem_live {e v s1 : Val} (h : pySetItem e liveKey v = .val s1) : liveOf s1 = v.num? := by
  cases e with
  | dict ee =>
    simp only [pySetItem, Res.val.injEq] at h
    subst h
    simp only [liveOf, Beast.dictFind_setPair_self (beq_key_self isKey_liveKey)]
  | tuple l =>
    have : liveKey.int? = none := rfl
    simp only [pySetItem, this] at h
    cases h
  | _ => cases h

/-- `self.acs[ic]` (read): the entry, with what is known of the table it was read from -/
theorem rall_entry {β} {a : List (Val × Val)} {ks : List Val} {self : Val} {F : List (Val × Val) → Prop}
    (ic : Val) (K : Val → Res β) (P : β → Prop) (hI : InvF a ks F self)
    (hK : ∀ y, EntryAt a ks F self ic y → RAll P (K y)) :
    RAll P (pyGetAttr self "acs" >>= fun x => Py.pyIdx x ic >>= K) := by
  obtain ⟨l, rfl, hks, hF⟩ := hI
  rw [get_acs, bind_val']
  simp only [Py.pyIdx]
  cases hf : dictFind l ic with
  | none => simp only [bind_exc', rall_exc]
  | some e =>
    simp only [bind_val']
    exact hK e ⟨l, hf, rfl, hks, hF⟩

/-- `y[key] = v; self.acs[ic] = y` for the entry `y` of `ic` (what the translator emits for `self.acs[ic][key] = v`
    after the read of `y`), with a transition `F → F'` of the table predicate; the key list stays -/
theorem rall_setentry {β} {a : List (Val × Val)} {ks : List Val} {self : Val} {F : List (Val × Val) → Prop}
    (F' : List (Val × Val) → Prop) (ic y key v : Val) (K : Val → Res β) (P : β → Prop)
    (he : EntryAt a ks F self ic y)
    (htr : ∀ l s1, F l → dictFind l ic = some y → pySetItem y key v = .val s1 → F' (setPair ic s1 l))
    (hK : ∀ self', InvF a ks F' self' → RAll P (K self')) :
    RAll P (pySetItem y key v >>= fun s1 =>
      pyGetAttr self "acs" >>= fun x' => pySetItem x' ic s1 >>= fun s2 => pySetAttr self "acs" s2 >>= K) := by
  obtain ⟨l, hf, rfl, hks, hF⟩ := he
  refine rall_bind.2 (fun s1 hr => ?_)
  rw [get_acs, bind_val']
  simp only [pySetItem, bind_val', set_acs]
  refine hK _ ⟨_, rfl, ?_, htr l s1 hF hf hr⟩
  rw [keysOf_setPair, hasKey_of_find hf, if_pos rfl, hks]

/-- the same for a key other than `"live"` and a predicate that such assignments keep -/
theorem rall_setentryF {β} {a : List (Val × Val)} {ks : List Val} {self : Val} {F : List (Val × Val) → Prop}
    (ic y key v : Val) (K : Val → Res β) (P : β → Prop) (he : EntryAt a ks F self ic y) (hc : Closed ic F)
    (hkey : key ≠ liveKey) (hK : ∀ self', InvF a ks F self' → RAll P (K self')) :
    RAll P (pySetItem y key v >>= fun s1 =>
      pyGetAttr self "acs" >>= fun x' => pySetItem x' ic s1 >>= fun s2 => pySetAttr self "acs" s2 >>= K) :=
  rall_setentry F ic y key v K P he (fun l s1 hF hf hr => hc l y key v s1 hF hf hkey hr) hK

theorem rall_bind_any {α β} {P : β → Prop} {x : Res α} {f : α → Res β} (h : ∀ a, RAll P (f a)) :
    RAll P (x >>= f) := rall_bind.2 (fun a _ => h a)

/-- the first computation is known to return `a` -/
theorem rall_bind_val {α β} {P : β → Prop} {x : Res α} {f : α → Res β} {a : α} (hx : x = .val a)
    (h : RAll P (f a)) : RAll P (x >>= f) := by
  rw [hx, bind_val']; exact h

theorem rall_runK {α β} {P : β → Prop} (e : Option α) (kc : Unit → Res β) (ks : α → Res β)
    (hc : RAll P (kc ())) (hs : ∀ x, RAll P (ks x)) : RAll P (Continue.runK e kc ks) := by
  cases e with
  | none => exact hc
  | some x => exact hs x

theorem pyInt1_isNum {v r : Val} (h : pyInt1 v = .val r) : ∃ q, r = .num q := by
  unfold pyInt1 at h
  split at h
  · cases h; exact ⟨_, rfl⟩
  · cases h; exact ⟨_, rfl⟩
  · split at h
    · cases h; exact ⟨_, rfl⟩
    · cases h
  · split at h
    · cases h; exact ⟨_, rfl⟩
    · cases h
  · cases h

/-- `oe = pms.adsb.oe_flag(msg)` is a number, so the key `oe` is never `"live"` -/
theorem rall_oe_flag {β} (msg : Val) (K : Val → Res β) (P : β → Prop)
    (hK : ∀ oe, oe ≠ liveKey → RAll P (K oe)) : RAll P (Gen.adsb.oe_flag msg >>= K) := by
  unfold Gen.adsb.oe_flag
  simp only [bind_assoc]
  refine rall_bind.2 fun b _ => rall_bind.2 fun c _ => rall_bind.2 fun oe hoe => hK oe ?_
  obtain ⟨q, rfl⟩ := pyInt1_isNum hoe
  exact fun h => nomatch h

/-- the key `"t" + str(oe)` is not `"live"` either -/
theorem rall_tkey {β} (so : Val) (K : Val → Res β) (P : β → Prop)
    (hK : ∀ key, key ≠ liveKey → RAll P (K key)) : RAll P (pyAdd (Val.str ['t']) so >>= K) := by
  refine rall_bind.2 (fun key hkey => hK key ?_)
  rintro rfl
  cases so with
  | str z => simp only [pyAdd, Res.val.injEq, Val.str.injEq] at hkey; cases hkey
  | _ => cases hkey

/-- what a loop body must return: `yield` of a state whose receiver still satisfies the invariant -/
abbrev YieldInv {σ} (I : Val → Prop) (proj : σ → Val) (r : ForInStep σ) : Prop := ∃ s', r = .yield s' ∧ I (proj s')

/-! cheap syntactic dispatch for the walk: the shape of the computation in a goal `RAll P x` (below leading `have`s) -/

open Lean Elab Tactic Meta in
/-- the computation `x` of a goal `RAll P x`, with leading `have`s substituted -/
def rallComp : TacticM Expr := do
  let g ← instantiateMVars (← getMainTarget)
  let g := g.consumeMData
  unless g.isApp do throwError "not an application"
  let mut x := g.appArg!.consumeMData
  for _ in [0:64] do
    if x.isLet then x := (x.letBody!.instantiate1 x.letValue!).consumeMData else break
  return x

open Lean Elab Tactic Meta in
/-- succeeds iff the goal is `RAll P x` with `x` an application of the constant `c` -/
elab "guard_head " c:ident : tactic => do
  let cname ← realizeGlobalConstNoOverloadWithInfo c
  let x ← rallComp
  unless x.getAppFn.isConstOf cname do throwError "head mismatch"

open Lean Elab Tactic Meta in
/-- succeeds iff the goal is `RAll P (x >>= f)` with `x` an application of the constant `c` -/
elab "guard_bind_head " c:ident : tactic => do
  let cname ← realizeGlobalConstNoOverloadWithInfo c
  let x ← rallComp
  unless x.isAppOfArity ``Bind.bind 6 do throwError "not a bind"
  unless (x.getArg! 4).consumeMData.getAppFn.isConstOf cname do throwError "head mismatch"


open Lean Elab Tactic Meta in
/-- `RAll P ((fun x => b) a)` to `RAll P b[a]` (below leading `have`s) -/
elab "rall_beta" : tactic => do
  let g ← getMainGoal
  let t := (← instantiateMVars (← g.getType)).consumeMData
  let x ← rallComp
  unless x.getAppFn.isLambda do throwError "not a beta redex"
  let g' ← g.replaceTargetDefEq (mkApp t.appFn! x.headBeta)
  replaceMainGoal [g']

macro "key_ne" : tactic => `(tactic| first | (intro h; injection h with h; revert h; decide) | assumption)

/-- one step of the walk through a loop body under `InvF`: each alternative is chosen by the head of the computation,
    so that no rule is tried where it cannot apply.  A read `self.acs[ic]` leaves its `EntryAt` fact in the context,
    where the assignment that follows finds it. -/
macro "walkF_step" : tactic => `(tactic| first
  | (guard_bind_head pyGetAttr
     first
     | (refine rall_entry _ _ _ (by assumption) (fun _ he => ?_))
     | (refine rall_bind_any (fun _ => ?_)))
  | (guard_bind_head pySetItem
     refine rall_setentryF _ _ _ _ _ _ (by assumption) (by assumption) ?hk (fun self' hI' => ?_)
     case hk => key_ne)
  | (guard_bind_head Gen.adsb.oe_flag; refine rall_oe_flag _ _ _ (fun oe hoe => ?_))
  | (guard_bind_head pyAdd; refine rall_tkey _ _ _ (fun key hkey => ?_))
  | (guard_head Bind.bind; refine rall_bind_any (fun _ => ?_))
  | (guard_head Pure.pure; refine rall_pure.2 ⟨_, rfl, by assumption⟩)
  | (guard_head ite; refine rall_ite.2 ⟨fun _ => ?_, fun _ => ?_⟩)
  | (guard_head Continue.runK; refine rall_runK _ _ _ ?_ (fun _ => ?_))
  | rall_beta)

/- the join points of the ADS-B loop body after the time stamps are stored (`J2`: everything after the call-sign block,
   …, `K31`: the version block), each proved to keep the invariant `Q` of the receiver with the walk `w`; leaves `hJ2`
   in the context -/
set_option hygiene false in
macro "adsb_tail " Q:term " with " w:tacticSeq : tactic => `(tactic| (
  extract_lets s5 s8 s11 s38 J2 J1
  have hJ2 : ∀ r self cs ob, $Q self → RAll (YieldInv $Q (·.1)) (J2 r self cs ob) := by
    intro r self cs ob hI
    simp -zeta only [J2]
    refine rall_bind_any (fun c => ?_)
    extract_lets J3
    have hJ3 : ∀ r self vdata spd trk roc tag ob, $Q self →
        RAll (YieldInv $Q (·.1)) (J3 r self vdata spd trk roc tag ob) := by
      intro r self vdata spd trk roc tag ob hI
      simp -zeta only [J3]
      refine rall_bind_any (fun c => ?_)
      extract_lets J4
      have hJ4 : ∀ r self oe rlat rlon latlon alt lu ob, $Q self →
          RAll (YieldInv $Q (·.1)) (J4 r self oe rlat rlon latlon alt lu ob) := by
        intro r self oe rlat rlon latlon alt lu ob hI
        simp -zeta only [J4]
        refine rall_bind_any (fun c => ?_)
        extract_lets K31 K29 K19 Knuc
        have hK31 : ∀ r self, $Q self → RAll (YieldInv $Q (·.1)) (K31 r self) := by
          intro r self hI
          simp -zeta only [K31]
          repeat' ($w)
        clear_value K31
        have hK29 : ∀ r self, $Q self → RAll (YieldInv $Q (·.1)) (K29 r self) := by
          intro r self hI
          simp -zeta only [K29]
          repeat' (first | ($w) | (apply hK31; assumption))
        clear_value K29
        have hK19 : ∀ r self, $Q self → RAll (YieldInv $Q (·.1)) (K19 r self) := by
          intro r self hI
          simp -zeta only [K19]
          repeat' (first | ($w) | (apply hK29; assumption))
        clear_value K19
        have hKnuc : ∀ r self, $Q self → RAll (YieldInv $Q (·.1)) (Knuc r self) := by
          intro r self hI
          simp -zeta only [Knuc]
          repeat' (first | ($w) | (apply hK19; assumption))
        clear_value Knuc
        repeat' (first | ($w) | (apply hKnuc; assumption))
      clear_value J4
      repeat' (first | ($w) | (apply hJ4; assumption))
    clear_value J3
    repeat' (first | ($w) | (apply hJ3; assumption))
  clear_value J2))

/-! ### what one pass does to the table -/

/-- the key list after `if icao not in self.acs: self.acs[icao] = {...}` -/
def addKey (ks : List Val) (ic : Val) : List Val := if ks.any (fun k => Val.beq ic k) then ks else ks ++ [ic]

theorem frame_refl (l0 : List (Val × Val)) (ic : Val) : Frame l0 ic l0 := fun _ _ _ => rfl

theorem frame_setPair {l0 l : List (Val × Val)} {ic : Val} (s1 : Val) (h : Frame l0 ic l) :
    Frame l0 ic (setPair ic s1 l) := by
  intro k hk hne
  rw [dictFind_setPair_ne' hk (Ne.symm hne), h k hk hne]

theorem closed_frame (l0 : List (Val × Val)) (ic : Val) : Closed ic (Frame l0 ic) :=
  fun _ _ _ _ s1 hF _ _ _ => frame_setPair s1 hF

/-- the `live` stamp filed under the key `k` (if there is an entry with a numeric `live`) -/
def liveAt (l : List (Val × Val)) (k : Val) : Option Rat :=
  match dictFind l k with
  | some e => liveOf e
  | none => none

theorem liveAt_of_find {l : List (Val × Val)} {k e : Val} (h : dictFind l k = some e) : liveAt l k = liveOf e := by
  simp only [liveAt, h]

theorem liveAt_frame {l0 l : List (Val × Val)} {ic k : Val} (h : Frame l0 ic l) (hk : IsKey k) (hne : k ≠ ic) :
    liveAt l k = liveAt l0 k := by
  simp only [liveAt, h k hk hne]

theorem liveAt_setPair {l : List (Val × Val)} {ic e : Val} (s1 : Val) (h : dictFind l ic = some e) :
    liveAt (setPair ic s1 l) ic = liveOf s1 :=
  liveAt_of_find (Beast.dictFind_setPair_of_find s1 h)

/-- after `self.acs[ic]["live"] = int(tv)`: the table agrees with `l0` outside `ic`, and the entry of `ic` has
    `live = int(tv)` -/
def FA1 (l0 : List (Val × Val)) (ic tv : Val) (l : List (Val × Val)) : Prop :=
  Frame l0 ic l ∧ ∃ e lv, dictFind l ic = some e ∧ pyInt1 tv = .val lv ∧ liveOf e = lv.num?

theorem closed_FA1 (l0 : List (Val × Val)) (ic tv : Val) : Closed ic (FA1 l0 ic tv) := by
  rintro l e key v s1 ⟨hfr, e', lv, he', hlv, hl⟩ hf hkey hr
  rw [hf] at he'
  cases he'
  exact ⟨frame_setPair s1 hfr, s1, lv, Beast.dictFind_setPair_of_find s1 hf, hlv, (liveOf_setItem_ne hkey hr).trans hl⟩

/-- one pass of the ADS-B loop body on `(tv, msg)` from the table `l0`: if it returns, `common.icao` gave an address
    `ic`, the key list is `addKey (keysOf l0) ic`, every entry under another key is untouched and the entry of `ic` has
    `live = int(tv)` -/
theorem adsbBody_live (a l0 : List (Val × Val)) (tv msg : Val)
    (s : Val × Val × Val × Val × Val × Val × Val × Val × Val × Val × Val × Val × Val × Val × Val × Val × Val × Val)
    (hs : s.1 = mk a l0) :
    RAll (fun r => ∃ ic, Gen.py_common.icao msg = .val ic ∧
        YieldInv (InvF a (addKey (keysOf l0) ic) (FA1 l0 ic tv)) (·.1) r)
      (adsbBody (.tuple [tv, msg]) s) := by
  unfold adsbBody
  extract_lets self0
  have hs0 : self0 = mk a l0 := hs
  clear_value self0
  subst hs0
  clear hs
  refine rall_bind_any (fun _ => ?_)
  refine rall_bind_val (a := tv) rfl (rall_bind_val (a := msg) rfl ?_)
  refine rall_bind.2 (fun ic hic => ?_)
  refine rall_mono (P := YieldInv (InvF a (addKey (keysOf l0) ic) (FA1 l0 ic tv)) (·.1)) ?_
    (fun r hr => ⟨ic, hic, hr⟩)
  refine rall_bind_any (fun tc => ?_)
  refine rall_bind_val (get_acs a l0) (rall_bind_val (pyNotIn_dict ic l0) ?_)
  have hc0 := closed_frame l0 ic
  have hc1 := closed_FA1 l0 ic tv
  adsb_tail (InvF a (addKey (keysOf l0) ic) (FA1 l0 ic tv)) with walkF_step
  have hJ1 : ∀ r self, InvF a (addKey (keysOf l0) ic) (Frame l0 ic) self →
      RAll (YieldInv (InvF a (addKey (keysOf l0) ic) (FA1 l0 ic tv)) (·.1)) (J1 r self) := by
    intro r self hI
    unfold J1
    iterate 6 walkF_step
    refine rall_bind.2 (fun lv hlv => ?_)
    refine rall_entry _ _ _ (by assumption) (fun e he => ?_)
    refine rall_setentry (FA1 l0 ic tv) _ _ _ _ _ _ he ?_ (fun self' hI' => ?_)
    · intro l s1 hF hf hr
      exact ⟨frame_setPair s1 hF, s1, lv, Beast.dictFind_setPair_of_find s1 hf, hlv, liveOf_setItem_live hr⟩
    repeat' (first | walkF_step | (apply hJ2; assumption))
  clear_value J1
  have hany : (keysOf l0).any (fun k => Val.beq ic k) = hasKey l0 ic := by rw [hasKey_eq_any]
  by_cases hk : hasKey l0 ic = true
  · rw [hk]
    simp only [pyTruth_bool, Bool.not_true, Bool.false_eq_true, if_false]
    refine hJ1 _ _ ⟨l0, rfl, ?_, frame_refl l0 ic⟩
    unfold addKey
    rw [hany, hk, if_pos rfl]
  · have hk' : hasKey l0 ic = false := by simpa using hk
    rw [hk']
    simp only [pyTruth_bool, Bool.not_false, if_true, get_acs, bind_val', pySetItem, set_acs]
    refine hJ1 _ _ ⟨_, rfl, ?_, frame_setPair _ (frame_refl l0 ic)⟩
    unfold addKey
    rw [hany, hk', keysOf_setPair, hk']

theorem liveOf_of_idx {e ov : Val} (h : Py.pyIdx e liveKey = .val ov) : liveOf e = ov.num? := by
  cases e with
  | dict ee =>
    simp only [Py.pyIdx] at h
    simp only [liveOf]
    cases hd : dictFind ee liveKey with
    | none => rw [hd] at h; cases h
    | some x => rw [hd] at h; cases h; rfl
  | _ => cases h

theorem pyMax2_val {x y r : Val} (h : pyMax2 x y = .val r) :
    ∃ p q, x.num? = some p ∧ y.num? = some q ∧ r.num? = some (max p q) := by
  unfold pyMax2 at h
  cases hx : x.num? with
  | none => rw [hx] at h; cases h
  | some p =>
    cases hy : y.num? with
    | none => rw [hx, hy] at h; cases h
    | some q =>
      rw [hx, hy] at h
      simp only [Res.val.injEq] at h
      refine ⟨p, q, rfl, rfl, ?_⟩
      by_cases hpq : p < q
      · rw [if_pos hpq] at h; rw [← h, hy, max_eq_right (le_of_lt hpq)]
      · rw [if_neg hpq] at h; rw [← h, hx, max_eq_left (not_lt.1 hpq)]

/-- Comm-B pass, before `live` is updated: only the entry of `ic` has changed, and its `live` is the old one -/
def FC0 (l0 : List (Val × Val)) (ic : Val) (l : List (Val × Val)) : Prop :=
  Frame l0 ic l ∧ liveAt l ic = liveAt l0 ic

/-- Comm-B pass, after `self.acs[ic]["live"] = max(self.acs[ic]["live"], int(tv))` -/
def FC1 (l0 : List (Val × Val)) (ic tv : Val) (l : List (Val × Val)) : Prop :=
  Frame l0 ic l ∧ ∃ x nv y, liveAt l0 ic = some x ∧ pyInt1 tv = .val nv ∧ nv.num? = some y ∧
    liveAt l ic = some (max x y)

theorem closed_FC0 (l0 : List (Val × Val)) (ic : Val) : Closed ic (FC0 l0 ic) := by
  rintro l e key v s1 ⟨hfr, hl⟩ hf hkey hr
  refine ⟨frame_setPair s1 hfr, ?_⟩
  rw [liveAt_setPair s1 hf, liveOf_setItem_ne hkey hr, ← liveAt_of_find hf, hl]

theorem closed_FC1 (l0 : List (Val × Val)) (ic tv : Val) : Closed ic (FC1 l0 ic tv) := by
  rintro l e key v s1 ⟨hfr, x, nv, y, h1, h2, h3, hl⟩ hf hkey hr
  refine ⟨frame_setPair s1 hfr, x, nv, y, h1, h2, h3, ?_⟩
  rw [liveAt_setPair s1 hf, liveOf_setItem_ne hkey hr, ← liveAt_of_find hf, hl]

/-- what one pass of the Comm-B loop body on `(tv, msg)` does to the table `l0` -/
def CommbPost (l0 : List (Val × Val)) (tv msg : Val) (l' : List (Val × Val)) : Prop :=
  ∃ ic, Gen.py_common.icao msg = .val ic ∧ Frame l0 ic l' ∧
    ((hasKey l0 ic = false ∧ l' = l0) ∨
     (∃ x nv y, liveAt l0 ic = some x ∧ pyInt1 tv = .val nv ∧ nv.num? = some y ∧ liveAt l' ic = some (max x y)))

/-- the join point `k` after an `if` of the Comm-B loop body (it takes the variables the `if` may assign: `self` and
    `output_buffer`) keeps `Q` -/
abbrev JoinOK {τ} (Q : Val → Prop) (k : Unit → Val → Val → Res (ForInStep (Val × τ))) : Prop :=
  ∀ r self ob, Q self → RAll (YieldInv Q (·.1)) (k r self ob)

/-- one pass of the Comm-B loop body on any item `it` from the table `l0`: if it returns, `it` unpacks into some
    `(tv, msg)`, the key list is unchanged, every entry under a key other than the message's address `ic` is untouched,
    and either `ic` is unknown and nothing has changed at all, or the entry of `ic` now has
    `live = max(old live, int(tv))` -/
theorem commbBody_post (a l0 : List (Val × Val)) (it : Val) (s : Val × _) (hs : s.1 = mk a l0) :
    RAll (fun r => ∃ tv msg, pyIdxN it 0 = .val tv ∧ pyIdxN it 1 = .val msg ∧
        YieldInv (InvF a (keysOf l0) (CommbPost l0 tv msg)) (·.1) r) (commbBody it s) := by
  unfold commbBody
  extract_lets self0
  have hs0 : self0 = mk a l0 := hs
  clear_value self0
  subst hs0
  clear hs
  refine rall_bind_any (fun _ => ?_)
  refine rall_bind.2 (fun tv h0 => ?_)
  refine rall_bind.2 (fun msg h1 => ?_)
  refine rall_mono (P := YieldInv (InvF a (keysOf l0) (CommbPost l0 tv msg)) (·.1)) ?_
    (fun r hr => ⟨tv, msg, h0, h1, hr⟩)
  refine rall_bind.2 (fun ic hic => ?_)
  refine rall_bind_val (get_acs a l0) (rall_bind_val (pyNotIn_dict ic l0) ?_)
  refine rall_ite.2 ⟨fun hk => ?_, fun hk => ?_⟩
  swap
  · rw [pyTruth_bool, Bool.not_eq_true', Bool.not_eq_false] at hk
    have hc0 := closed_FC0 l0 ic
    have hc1 := closed_FC1 l0 ic tv
    have hI0 : InvF a (keysOf l0) (FC0 l0 ic) (mk a l0) := ⟨l0, rfl, rfl, frame_refl l0 ic, rfl⟩
    refine rall_mono (P := YieldInv (InvF a (keysOf l0) (FC1 l0 ic tv)) (·.1)) ?_ ?_
    swap
    · rintro r ⟨s', rfl, l', h1, h2, hfr, hrest⟩
      exact ⟨s', rfl, l', h1, h2, ic, hic, hfr, Or.inr hrest⟩
    iterate 7 walkF_step
    refine rall_entry _ _ _ (by assumption) (fun e he => ?_)
    obtain ⟨l, hfe, -, -, -, hl⟩ := he
    refine rall_bind.2 (fun ov hov => ?_)
    refine rall_bind.2 (fun nv hnv => ?_)
    refine rall_bind.2 (fun s181 hmax => ?_)
    obtain ⟨p, q, hp, hq, hr⟩ := pyMax2_val hmax
    have hold : liveAt l0 ic = some p := by
      rw [← hl, liveAt_of_find hfe, liveOf_of_idx hov, hp]
    refine rall_entry _ _ _ (by assumption) (fun e2 he2 => ?_)
    refine rall_setentry (FC1 l0 ic tv) _ _ _ _ _ _ he2 ?_ (fun self' hI' => ?_)
    · rintro l2 s1 ⟨hfr2, _⟩ hf2 hr2
      refine ⟨frame_setPair s1 hfr2, p, nv, q, hold, hnv, hq, ?_⟩
      rw [liveAt_setPair s1 hf2, liveOf_setItem_live hr2, hr]
    -- Each `if` of the BDS 5,0 and BDS 6,0 blocks continues in a join point.  Where the block starts these are
    -- closed terms, so one `extract_lets` brings all of them out (last first), and each is walked once.
    iterate 3 walkF_step
    · iterate 7 walkF_step
      extract_lets s199 Jgs s196 Jtrk s193 Jrtrk s190 Jroll
      have hgs : JoinOK (InvF a (keysOf l0) (FC1 l0 ic tv)) Jgs := by
        intro r self ob hI; unfold Jgs; repeat' walkF_step
      clear_value Jgs
      have htrk : JoinOK (InvF a (keysOf l0) (FC1 l0 ic tv)) Jtrk := by
        intro r self ob hI; unfold Jtrk; repeat' (first | walkF_step | (apply hgs; assumption))
      clear_value Jtrk
      have hrtrk : JoinOK (InvF a (keysOf l0) (FC1 l0 ic tv)) Jrtrk := by
        intro r self ob hI; unfold Jrtrk; repeat' (first | walkF_step | (apply htrk; assumption))
      clear_value Jrtrk
      have hroll : JoinOK (InvF a (keysOf l0) (FC1 l0 ic tv)) Jroll := by
        intro r self ob hI; unfold Jroll; repeat' (first | walkF_step | (apply hrtrk; assumption))
      clear_value Jroll
      repeat' (first | walkF_step | (apply hroll; assumption))
    iterate 2 walkF_step
    · iterate 5 walkF_step
      extract_lets s219 Jins s216 Jbaro s213 Jmach s210 Jhdg s207 Jias
      have hins : JoinOK (InvF a (keysOf l0) (FC1 l0 ic tv)) Jins := by
        intro r self ob hI; unfold Jins; repeat' walkF_step
      clear_value Jins
      have hbaro : JoinOK (InvF a (keysOf l0) (FC1 l0 ic tv)) Jbaro := by
        intro r self ob hI; unfold Jbaro; repeat' (first | walkF_step | (apply hins; assumption))
      clear_value Jbaro
      have hmach : JoinOK (InvF a (keysOf l0) (FC1 l0 ic tv)) Jmach := by
        intro r self ob hI; unfold Jmach; repeat' (first | walkF_step | (apply hbaro; assumption))
      clear_value Jmach
      have hhdg : JoinOK (InvF a (keysOf l0) (FC1 l0 ic tv)) Jhdg := by
        intro r self ob hI; unfold Jhdg; repeat' (first | walkF_step | (apply hmach; assumption))
      clear_value Jhdg
      have hias : ∀ r self, InvF a (keysOf l0) (FC1 l0 ic tv) self →
          RAll (YieldInv (InvF a (keysOf l0) (FC1 l0 ic tv)) (·.1)) (Jias r self) := by
        intro r self hI; unfold Jias; repeat' (first | walkF_step | (apply hhdg; assumption))
      clear_value Jias
      repeat' (first | walkF_step | (apply hias; assumption))
    repeat' walkF_step
  · rw [pyTruth_bool, Bool.not_eq_true'] at hk
    exact rall_pure.2 ⟨_, rfl, l0, rfl, rfl, ic, hic, frame_refl l0 ic, Or.inl ⟨hk, rfl⟩⟩

/-- the same on an item `(tv, msg)` -/
theorem commbBody_live (a l0 : List (Val × Val)) (tv msg : Val)
    (s : Val × Val × Val × Val × Val × Val × Val × Val × Val × Val × Val × Val × Val × Val × Val × Val)
    (hs : s.1 = mk a l0) :
    RAll (YieldInv (InvF a (keysOf l0) (CommbPost l0 tv msg)) (·.1)) (commbBody (.tuple [tv, msg]) s) := by
  refine rall_mono (commbBody_post a l0 _ s hs) ?_
  rintro r ⟨tv', msg', h0, h1, hr⟩
  cases h0
  cases h1
  exact hr

/-! #### the key list as a set: `addKey` on well-formed key lists -/

def KeysOKl (ks : List Val) : Prop := (∀ k ∈ ks, IsKey k) ∧ ks.Nodup

theorem keysOK_iff (l : List (Val × Val)) : KeysOK l ↔ KeysOKl (keysOf l) := Iff.rfl

theorem addKey_of_isKey {ic : Val} (hic : IsKey ic) (ks : List Val) [Decidable (ic ∈ ks)] :
    addKey ks ic = if ic ∈ ks then ks else ks ++ [ic] := by
  unfold addKey
  by_cases h : ic ∈ ks
  · rw [if_pos h, if_pos ((any_beq_iff_mem hic ks).2 h)]
  · rw [if_neg h, if_neg (fun h' => h ((any_beq_iff_mem hic ks).1 h'))]

theorem mem_addKey {ic : Val} (hic : IsKey ic) (ks : List Val) (k : Val) :
    k ∈ addKey ks ic ↔ k ∈ ks ∨ k = ic := by
  classical
  rw [addKey_of_isKey hic]
  by_cases h : ic ∈ ks
  · rw [if_pos h]
    constructor
    · exact Or.inl
    · rintro (h' | rfl)
      · exact h'
      · exact h
  · rw [if_neg h]; simp

theorem keysOKl_addKey {ic : Val} (hic : IsKey ic) {ks : List Val} (h : KeysOKl ks) : KeysOKl (addKey ks ic) := by
  classical
  rw [addKey_of_isKey hic]
  by_cases hm : ic ∈ ks
  · rw [if_pos hm]; exact h
  · rw [if_neg hm]
    refine ⟨fun k hk => ?_, ?_⟩
    · rcases List.mem_append.1 hk with h' | h'
      · exact h.1 k h'
      · rw [List.mem_singleton.1 h']; exact hic
    · rw [List.nodup_append]
      refine ⟨h.2, by simp, ?_⟩
      intro x hx y hy
      rw [List.mem_singleton.1 hy]
      rintro rfl
      exact hm hx

theorem keysOKl_foldl {ics : List Val} (hics : ∀ ic ∈ ics, IsKey ic) : ∀ {ks : List Val}, KeysOKl ks →
    KeysOKl (ics.foldl addKey ks) := by
  induction ics with
  | nil => intro ks h; exact h
  | cons ic ics ih =>
    intro ks h
    exact ih (fun x hx => hics x (List.mem_cons_of_mem _ hx)) (keysOKl_addKey (hics ic (by simp)) h)

theorem mem_foldl_addKey {ics : List Val} (hics : ∀ ic ∈ ics, IsKey ic) : ∀ (ks : List Val) (k : Val),
    k ∈ ics.foldl addKey ks ↔ k ∈ ks ∨ k ∈ ics := by
  induction ics with
  | nil => intro ks k; simp
  | cons ic ics ih =>
    intro ks k
    rw [List.foldl_cons, ih (fun x hx => hics x (List.mem_cons_of_mem _ hx)), mem_addKey (hics ic (by simp))]
    rw [List.mem_cons, or_assoc]

/-- the key `process_raw` files a hex frame under: `pms.icao(msg)` (a 6-character string, or `None`) -/
def icaoKey (m : Msg) : Val := Val.ofOptStr (PyModeS.icao m)

theorem isKey_icaoKey (m : Msg) : IsKey (icaoKey m) := by
  unfold icaoKey
  cases PyModeS.icao m with
  | none => exact isKey_none
  | some s => exact isKey_str s


/-! ### the two message loops -/

/-- loop rule (partial correctness): an invariant kept by every pass of the body holds after the loop -/
theorem rall_forIn {σ} (I : σ → Prop) (f : Val → σ → Res (ForInStep σ)) (items : List Val)
    (hstep : ∀ it ∈ items, ∀ s, I s → RAll (fun r => ∃ s', r = ForInStep.yield s' ∧ I s') (f it s)) :
    ∀ s0, I s0 → RAll I (forIn items s0 f) := by
  induction items with
  | nil => intro s0 h0; exact rall_val.2 h0
  | cons it items ih =>
    intro s0 h0
    rw [List.forIn_cons]
    refine rall_bind.2 (fun r hr => ?_)
    obtain ⟨s', rfl, hs'⟩ := rall_elim (hstep it (by simp) s0 h0) hr
    exact ih (fun it' hit' => hstep it' (List.mem_cons_of_mem _ hit')) s' hs'

/-- **(B)** The whole Comm-B loop, on any list of items and from any state whose receiver has the key list `ks`:
    if it returns, the receiver still has exactly the key list `ks` (same keys, same order) -- a Comm-B message never
    adds (or removes) an aircraft -- and no attribute other than `acs` has changed. -/
theorem commbLoop_keys (a : List (Val × Val)) (ks : List Val) (items : List Val)
    (s : Val × Val × Val × Val × Val × Val × Val × Val × Val × Val × Val × Val × Val × Val × Val × Val)
    (hI : Inv a ks s.1) : RAll (fun s' => Inv a ks s'.1) (forIn items s commbBody) := by
  refine rall_forIn (fun s' => Inv a ks s'.1) commbBody items (fun it _ s hs => ?_) s hI
  obtain ⟨l0, hs, rfl⟩ := hs
  refine rall_mono (commbBody_post a l0 it s hs) ?_
  rintro r ⟨_, _, _, _, s', rfl, l', h1, h2, _⟩
  exact ⟨s', rfl, l', h1, h2⟩

theorem commbLoop_keys_val {a : List (Val × Val)} {items : List Val}
    {s s' : Val × Val × Val × Val × Val × Val × Val × Val × Val × Val × Val × Val × Val × Val × Val × Val}
    {l : List (Val × Val)} (hs : s.1 = mk a l) (h : forIn items s commbBody = .val s') :
    ∃ l', s'.1 = mk a l' ∧ keysOf l' = keysOf l := by
  exact rall_elim (P := fun s' => Inv a (keysOf l) s'.1) (commbLoop_keys a (keysOf l) items s ⟨l, hs, rfl⟩) h

/-- a `[t, msg]` item of `zip(adsb_ts, adsb_msg)` -/
def encPair (p : Val × Val) : Val := .tuple [p.1, p.2]

/-- **(C)** The whole ADS-B loop over the items `zip(ts, msgs)`, from any state whose receiver has the key list `ks`:
    if it returns, `common.icao` returned an address `ic` for every message and the receiver's key list is `ks` extended,
    in order, by every address that was not yet present (`addKey`); no attribute other than `acs` has changed. -/
theorem adsbLoop_keys (a : List (Val × Val)) (pairs : List (Val × Val)) :
    ∀ (ks : List Val)
      (s : Val × Val × Val × Val × Val × Val × Val × Val × Val × Val × Val × Val × Val × Val × Val × Val × Val × Val),
    Inv a ks s.1 →
    RAll (fun s' => ∃ ics, List.Forall₂ (fun p ic => Gen.py_common.icao p.2 = .val ic) pairs ics ∧
        Inv a (ics.foldl addKey ks) s'.1)
      (forIn (pairs.map encPair) s adsbBody) := by
  induction pairs with
  | nil => intro ks s hI; exact rall_val.2 ⟨[], List.Forall₂.nil, hI⟩
  | cons p pairs ih =>
    rintro ks s ⟨l0, hs, rfl⟩
    rw [List.map_cons, List.forIn_cons]
    refine rall_bind.2 (fun r hr => ?_)
    obtain ⟨ic, hic, s', rfl, l1, hs', hk1, _⟩ := rall_elim (adsbBody_live a l0 p.1 p.2 s hs) hr
    refine rall_mono (ih (addKey (keysOf l0) ic) s' ⟨l1, hs', hk1⟩) ?_
    rintro s'' ⟨ics, hics, hI''⟩
    exact ⟨ic :: ics, List.Forall₂.cons hic hics, hI''⟩

/-! #### the loops on `(time stamp, hex frame)` batches: chains of per-message relations on the table -/

/-- what one ADS-B message `(q, m)` (time stamp `q`, hex frame `m`) does to the table: the key list gains the address if
    it is new, entries under other keys are untouched, the entry of the address has `live = int(q)` -/
def AdsbStepRel (p : Rat × Msg) (l l' : List (Val × Val)) : Prop :=
  keysOf l' = addKey (keysOf l) (icaoKey p.2) ∧ Frame l (icaoKey p.2) l' ∧
    liveAt l' (icaoKey p.2) = some (PyModeS.pyInt p.1 : Rat)

/-- what one Comm-B message `(q, m)` does to the table: same key list, entries under other keys untouched; an unknown
    address changes nothing at all, a known one gets `live = max(live, int(q))` -/
def CommbStepRel (p : Rat × Msg) (l l' : List (Val × Val)) : Prop :=
  keysOf l' = keysOf l ∧ Frame l (icaoKey p.2) l' ∧
    ((hasKey l (icaoKey p.2) = false ∧ l' = l) ∨
     (∃ x, liveAt l (icaoKey p.2) = some x ∧ liveAt l' (icaoKey p.2) = some (max x (PyModeS.pyInt p.1 : Rat))))

/-- `l'` is reached from `l` by one `R`-step per message, in order -/
def relChain (R : Rat × Msg → List (Val × Val) → List (Val × Val) → Prop) :
    List (Rat × Msg) → List (Val × Val) → List (Val × Val) → Prop
  | [], l, l' => l' = l
  | p :: ps, l, l' => ∃ l1, R p l l1 ∧ relChain R ps l1 l'

/-- a `[t, msg]` item with a numeric time stamp and a hex frame -/
def encMsg (p : Rat × Msg) : Val := encPair (.num p.1, .str p.2)

/-- loop rule for a batch: if every pass of the body takes the receiver's table one `R`-step further, the loop takes
    it along an `R`-chain -/
theorem rall_forIn_chain {σ} (a : List (Val × Val)) (proj : σ → Val)
    (R : Rat × Msg → List (Val × Val) → List (Val × Val) → Prop) (f : Val → σ → Res (ForInStep σ))
    (ps : List (Rat × Msg))
    (hstep : ∀ p ∈ ps, ∀ l s, proj s = mk a l →
      RAll (fun r => ∃ s' l', r = ForInStep.yield s' ∧ proj s' = mk a l' ∧ R p l l') (f (encMsg p) s)) :
    ∀ l0 s, proj s = mk a l0 →
      RAll (fun s' => ∃ l', proj s' = mk a l' ∧ relChain R ps l0 l') (forIn (ps.map encMsg) s f) := by
  induction ps with
  | nil => intro l0 s hs; exact rall_val.2 ⟨l0, hs, rfl⟩
  | cons p ps ih =>
    intro l0 s hs
    rw [List.map_cons, List.forIn_cons]
    refine rall_bind.2 (fun r hr => ?_)
    obtain ⟨s', l1, rfl, hs', hR⟩ := rall_elim (hstep p (by simp) l0 s hs) hr
    refine rall_mono (ih (fun p' hp' => hstep p' (List.mem_cons_of_mem _ hp')) l1 s' hs') ?_
    rintro s'' ⟨l', hs'', hch⟩
    exact ⟨l', hs'', l1, hR, hch⟩

theorem num?_pyInt1 {q : Rat} {lv : Val} (h : pyInt1 (.num q) = .val lv) :
    lv.num? = some (PyModeS.pyInt q : Rat) := by
  rw [pyInt1_num] at h
  cases h
  rfl

/-- **the ADS-B loop, values**: on `(time stamp, hex frame)` items the table after the loop is reached from the table
    before by one `AdsbStepRel` per message -/
theorem adsbLoop_rel (a : List (Val × Val)) (pairs : List (Rat × Msg))
    (hhex : ∀ p ∈ pairs, IsHex p.2 ∧ 6 ≤ p.2.length) :
    ∀ (l0 : List (Val × Val)) (s : Val × _), s.1 = mk a l0 →
    RAll (fun s' => ∃ l', s'.1 = mk a l' ∧ relChain AdsbStepRel pairs l0 l')
      (forIn (pairs.map encMsg) s adsbBody) := by
  refine rall_forIn_chain a (·.1) AdsbStepRel adsbBody pairs (fun p hp l s hs => ?_)
  refine rall_mono (adsbBody_live a l (.num p.1) (.str p.2) s hs) ?_
  rintro r ⟨ic, hic, s', rfl, l1, hs', hk1, hfr, e, lv, hfe, hlv, hle⟩
  rw [icao_tie p.2 (hhex p hp).1 (hhex p hp).2] at hic
  obtain rfl : icaoKey p.2 = ic := Res.val.inj hic
  exact ⟨s', l1, rfl, hs', hk1, hfr, by rw [liveAt_of_find hfe, hle, num?_pyInt1 hlv]⟩

/-- **the Comm-B loop, values** -/
theorem commbLoop_rel (a : List (Val × Val)) (pairs : List (Rat × Msg))
    (hhex : ∀ p ∈ pairs, IsHex p.2 ∧ 6 ≤ p.2.length) :
    ∀ (l0 : List (Val × Val)) (s : Val × _), s.1 = mk a l0 →
    RAll (fun s' => ∃ l', s'.1 = mk a l' ∧ relChain CommbStepRel pairs l0 l')
      (forIn (pairs.map encMsg) s commbBody) := by
  refine rall_forIn_chain a (·.1) CommbStepRel commbBody pairs (fun p hp l s hs => ?_)
  refine rall_mono (commbBody_live a l (.num p.1) (.str p.2) s hs) ?_
  rintro r ⟨s', rfl, l1, hs', hk1, ic, hic, hfr, hcase⟩
  rw [icao_tie p.2 (hhex p hp).1 (hhex p hp).2] at hic
  obtain rfl : icaoKey p.2 = ic := Res.val.inj hic
  refine ⟨s', l1, rfl, hs', hk1, hfr, ?_⟩
  rcases hcase with h | ⟨x, nv, y, hx, hnv, hy, hl⟩
  · exact Or.inl h
  · rw [num?_pyInt1 hnv] at hy
    obtain rfl := Option.some.inj hy
    exact Or.inr ⟨x, hx, hl⟩


/-! #### consequences of the chains: key lists and bounds on `live` -/

/-- what every step of a chain keeps, the chain keeps -/
theorem relChain_keeps {R : Rat × Msg → List (Val × Val) → List (Val × Val) → Prop} {P : List (Val × Val) → Prop} :
    ∀ (ps : List (Rat × Msg)) (l l' : List (Val × Val)), relChain R ps l l' →
    (∀ p ∈ ps, ∀ l1 l2, R p l1 l2 → P l1 → P l2) → P l → P l' := by
  intro ps
  induction ps with
  | nil => intro l l' h _ hl; rw [show l' = l from h]; exact hl
  | cons p ps ih =>
    rintro l l' ⟨l1, hstep, hch⟩ hR hl
    exact ih l1 l' hch (fun p' hp' => hR p' (List.mem_cons_of_mem _ hp')) (hR p (by simp) l l1 hstep hl)

theorem adsbChain_keys : ∀ (ps : List (Rat × Msg)) (l l' : List (Val × Val)), relChain AdsbStepRel ps l l' →
    keysOf l' = (ps.map (fun p => icaoKey p.2)).foldl addKey (keysOf l) := by
  intro ps
  induction ps with
  | nil => intro l l' h; rw [show l' = l from h]; rfl
  | cons p ps ih =>
    rintro l l' ⟨l1, ⟨hk, _, _⟩, hch⟩
    rw [ih l1 l' hch, hk]
    rfl

theorem commbChain_keys (ps : List (Rat × Msg)) (l l' : List (Val × Val)) (h : relChain CommbStepRel ps l l') :
    keysOf l' = keysOf l :=
  relChain_keeps (P := fun l1 => keysOf l1 = keysOf l) ps l l' h (fun _ _ _ _ hR hP => hR.1.trans hP) rfl

/-- every numeric `live` filed under `k` is at most `L` -/
def LiveLe (k : Val) (L : Rat) (l : List (Val × Val)) : Prop := ∀ q, liveAt l k = some q → q ≤ L

/-- `k` is in the table with a numeric `live ≥ G` -/
def LiveGe (k : Val) (G : Rat) (l : List (Val × Val)) : Prop := ∃ q, liveAt l k = some q ∧ G ≤ q

/-- an ADS-B step stamps the message's address with `int(t)` and leaves every other `live` alone -/
theorem adsbStep_liveAt {k : Val} (hk : IsKey k) {p : Rat × Msg} {l l' : List (Val × Val)} (h : AdsbStepRel p l l') :
    (icaoKey p.2 = k ∧ liveAt l' k = some (PyModeS.pyInt p.1 : Rat)) ∨ liveAt l' k = liveAt l k := by
  by_cases hkk : k = icaoKey p.2
  · exact Or.inl ⟨hkk.symm, hkk ▸ h.2.2⟩
  · exact Or.inr (liveAt_frame h.2.1 hk hkk)

/-- a Comm-B step raises the `live` of the message's address to `int(t)` if it is lower and leaves every other alone -/
theorem commbStep_liveAt {k : Val} (hk : IsKey k) {p : Rat × Msg} {l l' : List (Val × Val)} (h : CommbStepRel p l l') :
    (icaoKey p.2 = k ∧ ∃ x, liveAt l k = some x ∧ liveAt l' k = some (max x (PyModeS.pyInt p.1 : Rat))) ∨
      liveAt l' k = liveAt l k := by
  by_cases hkk : k = icaoKey p.2
  · subst hkk
    rcases h.2.2 with ⟨_, rfl⟩ | hx
    · exact Or.inr rfl
    · exact Or.inl ⟨rfl, hx⟩
  · exact Or.inr (liveAt_frame h.2.1 hk hkk)

theorem adsbStep_liveLe {k : Val} (hk : IsKey k) {L : Rat} {p : Rat × Msg} {l l' : List (Val × Val)}
    (h : AdsbStepRel p l l') (hl : LiveLe k L l) (hp : icaoKey p.2 = k → (PyModeS.pyInt p.1 : Rat) ≤ L) :
    LiveLe k L l' := by
  intro q hq
  rcases adsbStep_liveAt hk h with ⟨e, h'⟩ | h' <;> rw [h'] at hq
  · cases hq; exact hp e
  · exact hl q hq

theorem commbStep_liveLe {k : Val} (hk : IsKey k) {L : Rat} {p : Rat × Msg} {l l' : List (Val × Val)}
    (h : CommbStepRel p l l') (hl : LiveLe k L l) (hp : icaoKey p.2 = k → (PyModeS.pyInt p.1 : Rat) ≤ L) :
    LiveLe k L l' := by
  intro q hq
  rcases commbStep_liveAt hk h with ⟨e, x, hx, h'⟩ | h' <;> rw [h'] at hq
  · cases hq; exact max_le (hl x hx) (hp e)
  · exact hl q hq

theorem adsbStep_liveGe {k : Val} (hk : IsKey k) {G : Rat} {p : Rat × Msg} {l l' : List (Val × Val)}
    (h : AdsbStepRel p l l') (hl : LiveGe k G l) (hp : icaoKey p.2 = k → G ≤ (PyModeS.pyInt p.1 : Rat)) :
    LiveGe k G l' := by
  rcases adsbStep_liveAt hk h with ⟨e, h'⟩ | h'
  · exact ⟨_, h', hp e⟩
  · obtain ⟨q, hq, hG⟩ := hl
    exact ⟨q, h'.trans hq, hG⟩

theorem commbStep_liveGe {k : Val} (hk : IsKey k) {G : Rat} {p : Rat × Msg} {l l' : List (Val × Val)}
    (h : CommbStepRel p l l') (hl : LiveGe k G l) : LiveGe k G l' := by
  obtain ⟨q, hq, hG⟩ := hl
  rcases commbStep_liveAt hk h with ⟨_, x, hx, h'⟩ | h'
  · obtain rfl : q = x := Option.some.inj (hq.symm.trans hx)
    exact ⟨_, h', le_trans hG (le_max_left _ _)⟩
  · exact ⟨q, h'.trans hq, hG⟩

theorem relChain_append {R : Rat × Msg → List (Val × Val) → List (Val × Val) → Prop} :
    ∀ (ps qs : List (Rat × Msg)) (l l' : List (Val × Val)), relChain R (ps ++ qs) l l' →
    ∃ l1, relChain R ps l l1 ∧ relChain R qs l1 l' := by
  intro ps
  induction ps with
  | nil => intro qs l l' h; exact ⟨l, rfl, h⟩
  | cons p ps ih =>
    rintro qs l l' ⟨l1, hstep, hch⟩
    obtain ⟨l2, h1, h2⟩ := ih qs l1 l' hch
    exact ⟨l2, ⟨l1, hstep, h1⟩, h2⟩

/-! #### the clean-up, by key -/

theorem dictFind_iff_mem {l : List (Val × Val)} (hK : KeysOK l) {k : Val} (hk : IsKey k) (e : Val) :
    dictFind l k = some e ↔ (k, e) ∈ l := by
  induction l with
  | nil => simp [dictFind_nil]
  | cons kv l ih =>
    obtain ⟨k', v⟩ := kv
    have hK' : KeysOK l := keysOK_drop (done := []) hK
    have hnd : k' ∉ keysOf l := (List.nodup_cons.1 hK.2).1
    rw [Beast.dictFind_cons]
    by_cases hb : Val.beq k k' = true
    · have hkk : k' = k := (beq_key_left hk).1 hb
      subst hkk
      rw [if_pos hb]
      constructor
      · intro h; cases h; exact List.mem_cons_self
      · intro h
        rcases List.mem_cons.1 h with h | h
        · cases h; rfl
        · exact absurd (List.mem_map_of_mem (f := (·.1)) h) hnd
    · rw [if_neg hb, ih hK']
      constructor
      · exact List.mem_cons_of_mem _
      · intro h
        rcases List.mem_cons.1 h with h | h
        · cases h; exact absurd (beq_key_self hk) hb
        · exact h

theorem keysOK_evict {l : List (Val × Val)} (hK : KeysOK l) (t timeout : Rat) : KeysOK (evict t timeout l) :=
  keysOK_sublist (evict_sublist t timeout l) hK

/-- silent for too long: not listed after the clean-up -/
theorem absent_of_liveLe {mid : List (Val × Val)} (hK : KeysOK mid) (hlive : ∀ kv ∈ mid, ∃ q, liveOf kv.2 = some q)
    {k : Val} (hk : IsKey k) {L t timeout : Rat} (hL : LiveLe k L mid) (hsilent : t - L > timeout) :
    k ∉ keysOf (evict t timeout mid) := by
  intro hmem
  obtain ⟨kv, hkv, rfl⟩ := List.mem_map.1 hmem
  obtain ⟨k, e⟩ := kv
  have hin : (k, e) ∈ mid := List.mem_of_mem_filter hkv
  obtain ⟨q, hq⟩ := hlive (k, e) hin
  have hfind := (dictFind_iff_mem hK hk e).2 hin
  have hle := hL q (by rw [liveAt_of_find hfind]; exact hq)
  have := ((mem_evict (kv := (k, e)) hq).1 hkv).2
  linarith

/-- heard recently enough: listed after the clean-up, with the same `live` -/
theorem present_of_liveGe {mid : List (Val × Val)} (hK : KeysOK mid) {k : Val} (hk : IsKey k) {G t timeout : Rat}
    (hG : LiveGe k G mid) (hrecent : t - G ≤ timeout) :
    k ∈ keysOf (evict t timeout mid) ∧ LiveGe k G (evict t timeout mid) := by
  obtain ⟨q, hq, hGq⟩ := hG
  unfold liveAt at hq
  cases hf : dictFind mid k with
  | none => rw [hf] at hq; cases hq
  | some e =>
    rw [hf] at hq
    have hin : (k, e) ∈ mid := (dictFind_iff_mem hK hk e).1 hf
    have hin' : (k, e) ∈ evict t timeout mid := (mem_evict (kv := (k, e)) hq).2 ⟨hin, by linarith⟩
    refine ⟨List.mem_map_of_mem (f := (·.1)) hin', q, ?_, hGq⟩
    rw [liveAt_of_find ((dictFind_iff_mem (keysOK_evict hK t timeout) hk e).2 hin')]
    exact hq



/-! ### `Decode.process_raw` end to end -/

theorem pyZip_tuple (xs ys : List Val) :
    pyZip (.tuple xs) (.tuple ys) = .val (.tuple ((xs.zip ys).map encPair)) := rfl

/-- a call with a numeric `tnow` takes no default -/
theorem process_raw_num (self ats ams cts cms : Val) (t : Rat) :
    Gen.decode.Decode_process_raw self ats ams cts cms (.num t) = phases self ats ams cts cms (.num t) := rfl

/-- `for k in list(d.keys())` runs over `keysOf d` -/
theorem iter_keys {β} (l : List (Val × Val)) (K : List Val → Res β) :
    (pyKeys (.dict l) >>= fun ks => pyList ks >>= fun ks => pyIter ks >>= K) = K (keysOf l) := rfl

/-- `self.t = t` on a receiver with the table `acs` -/
theorem set_t {attrs acs : List (Val × Val)} (t : Rat) (hacs : dictFind attrs (attrKey "acs") = some (.dict acs)) :
    pySetAttr (.dict attrs) "t" (.num t) = .val (mk (setPair (attrKey "t") (.num t) attrs) acs) := by
  rw [← mk_of_find ((dictFind_setPair_attr (by decide) _ _).trans hacs)]
  rfl

/-- `Decode.process_raw` is `self.t = tnow`, the ADS-B loop, the Comm-B loop and the clean-up, in this order.  Whatever
    the two loops guarantee about the table they leave (`Q1` for the ADS-B loop from the old table; `Q2` for the Comm-B
    loop from there, which has to include that the table is well formed) holds of the tables `l1` and `mid` between the
    phases of a call that returns; every entry of `mid` has a numeric `live`, and the result is `(self', None)`,
    `self'` = `attrs` with `t := tnow` and `acs := evict t timeout mid`. -/
theorem process_raw_via (attrs acs : List (Val × Val)) (ats ams cts cms : Val) (t timeout : Rat) (r : Val)
    (Q1 : List (Val × Val) → Prop) (Q2 : List (Val × Val) → List (Val × Val) → Prop)
    (hacs : dictFind attrs (attrKey "acs") = some (.dict acs))
    (hto : dictFind attrs (attrKey "cache_timeout") = some (.num timeout))
    (hA : ∀ a items s, pyZip ats ams >>= pyIter = .val items → s.1 = mk a acs →
      RAll (fun s' => ∃ l1, s'.1 = mk a l1 ∧ Q1 l1) (forIn items s adsbBody))
    (hB : ∀ a l1 items s, Q1 l1 → pyZip cts cms >>= pyIter = .val items → s.1 = mk a l1 →
      RAll (fun s' => ∃ mid, s'.1 = mk a mid ∧ KeysOK mid ∧ Q2 l1 mid) (forIn items s commbBody))
    (h : Gen.decode.Decode_process_raw (.dict attrs) ats ams cts cms (.num t) = .val r) :
    ∃ l1 mid : List (Val × Val), Q1 l1 ∧ Q2 l1 mid ∧ KeysOK mid ∧ (∀ kv ∈ mid, ∃ q, liveOf kv.2 = some q) ∧
      r = .tuple [mk (setPair (attrKey "t") (.num t) attrs) (evict t timeout mid), .none] := by
  rw [process_raw_num] at h
  have hset := set_t t hacs
  have ht' : dictFind (setPair (attrKey "t") (.num t) attrs) (attrKey "t") = _ := Beast.dictFind_setPair_same _ _ _
  have hto' := (dictFind_setPair_attr (n := "t") (by decide) (.num t) attrs).trans hto
  generalize setPair (attrKey "t") (.num t) attrs = a' at hset ht' hto' ⊢
  refine rall_elim (P := fun r => ∃ l1 mid : List (Val × Val), Q1 l1 ∧ Q2 l1 mid ∧ KeysOK mid ∧
      (∀ kv ∈ mid, ∃ q, liveOf kv.2 = some q) ∧ r = .tuple [mk a' (evict t timeout mid), .none]) ?_ h
  unfold phases
  rw [hset, bind_val']
  refine rall_bind.2 (fun z hz => ?_)
  refine rall_bind.2 (fun items hit => ?_)
  refine rall_bind.2 (fun s1 hs1 => ?_)
  obtain ⟨l1, hl1, hQ1⟩ := rall_elim (hA a' items _ (by rw [hz, bind_val']; exact hit) rfl) hs1
  refine rall_bind.2 (fun z2 hz2 => ?_)
  refine rall_bind.2 (fun items2 hit2 => ?_)
  refine rall_bind.2 (fun s2 hs2 => ?_)
  obtain ⟨l2, hl2, hK2, hQ2⟩ := rall_elim (hB a' l1 items2 _ hQ1 (by rw [hz2, bind_val']; exact hit2) hl1) hs2
  rw [hl2, get_acs, bind_val', iter_keys]
  refine rall_bind.2 (fun s3 hs3 => ?_)
  obtain ⟨h31, hlive⟩ := evict_loop_val a' l2 t timeout _ s3 ht' hto' hK2 hs3
  refine rall_bind_any (fun d => ?_)
  refine rall_bind_any (fun c => ?_)
  refine rall_ite.2 ⟨fun _ => ?_, fun _ => ?_⟩
  · exact (rall_exc.2 trivial : RAll _ Res.exc)
  · exact rall_pure.2 ⟨l1, l2, hQ1, hQ2, hK2, hlive, by rw [h31]⟩

/-- on hex frames the addresses the ADS-B loop files the messages under are `icaoKey` (`icao_tie`) -/
theorem ics_of_hex : ∀ (ts : List Val) (ms : List Msg) (ics : List Val), (∀ m ∈ ms, IsHex m ∧ 6 ≤ m.length) →
    List.Forall₂ (fun (p : Val × Val) ic => Gen.py_common.icao p.2 = .val ic) (ts.zip (ms.map Val.str)) ics →
    ics = (ts.zip ms).map (fun p => icaoKey p.2) := by
  intro ts
  induction ts with
  | nil => intro ms ics _ h; cases h; rfl
  | cons t ts ih =>
    intro ms ics hms h
    cases ms with
    | nil => cases h; rfl
    | cons m ms =>
      simp only [List.map_cons, List.zip_cons_cons] at h ⊢
      cases h with
      | cons h1 h2 =>
        have hm := hms m (by simp)
        rw [icao_tie m hm.1 hm.2] at h1
        injection h1 with h1
        rw [← h1, ih ms _ (fun m' hm' => hms m' (List.mem_cons_of_mem _ hm')) h2]
        rfl

theorem keysOK_of_foldl {α} {ps : List (α × Msg)} {l acs : List (Val × Val)} (hK : KeysOK acs)
    (h : keysOf l = (ps.map (fun p => icaoKey p.2)).foldl addKey (keysOf acs)) : KeysOK l := by
  rw [keysOK_iff, h]
  exact keysOKl_foldl (fun ic hic => by
    obtain ⟨p, _, rfl⟩ := List.mem_map.1 hic
    exact isKey_icaoKey p.2) hK

/-- **`Decode.process_raw` (generated definition), end to end.**  Receiver: any attribute dictionary `attrs` whose `acs`
    is a well-formed table and whose `cache_timeout` is a number; ADS-B messages: hex strings; Comm-B arguments: any
    values; `tnow = t`.  If the call returns at all, then there is a table `mid` (the table after the two message
    loops) such that
    * the key list of `mid` is the old key list extended, in order, by the addresses of the processed ADS-B messages
      that were not yet present -- Comm-B messages add nothing;
    * every entry of `mid` has a numeric `live`;
    * the result is `(self', None)` where `self'` is `attrs` with `t := tnow` and `acs := evict t timeout mid`:
      exactly the entries of `mid` with `t - live ≤ cache_timeout`, nothing else changed. -/
theorem process_raw_spec (attrs acs : List (Val × Val)) (ts : List Val) (ms : List Msg) (cts cms : Val)
    (t timeout : Rat) (r : Val)
    (hacs : dictFind attrs (attrKey "acs") = some (.dict acs)) (hK : KeysOK acs)
    (hto : dictFind attrs (attrKey "cache_timeout") = some (.num timeout))
    (hms : ∀ m ∈ ms, IsHex m ∧ 6 ≤ m.length)
    (h : Gen.decode.Decode_process_raw (.dict attrs) (.tuple ts) (.tuple (ms.map Val.str)) cts cms (.num t) = .val r) :
    ∃ mid : List (Val × Val),
      keysOf mid = ((ts.zip ms).map (fun p => icaoKey p.2)).foldl addKey (keysOf acs) ∧
      (∀ kv ∈ mid, ∃ q, liveOf kv.2 = some q) ∧
      r = .tuple [mk (setPair (attrKey "t") (.num t) attrs) (evict t timeout mid), .none] := by
  have H := process_raw_via attrs acs _ _ cts cms t timeout r
    (fun l1 => keysOf l1 = ((ts.zip ms).map (fun p => icaoKey p.2)).foldl addKey (keysOf acs))
    (fun l1 mid => keysOf mid = keysOf l1) hacs hto ?_ ?_ h
  · obtain ⟨l1, mid, h1, h2, _, hlive, hr⟩ := H
    exact ⟨mid, h2.trans h1, hlive, hr⟩
  · intro a items s hitems hs
    rw [pyZip_tuple, bind_val'] at hitems
    cases hitems
    refine rall_mono (adsbLoop_keys a _ (keysOf acs) s ⟨acs, hs, rfl⟩) ?_
    rintro s' ⟨ics, hics, l1, hl1, hk1⟩
    rw [ics_of_hex ts ms ics hms hics] at hk1
    exact ⟨l1, hl1, hk1⟩
  · intro a l1 items s h1 _ hs
    refine rall_mono (commbLoop_keys a (keysOf l1) items s ⟨l1, hs, rfl⟩) ?_
    rintro s' ⟨mid, hmid, hk⟩
    exact ⟨mid, hmid, keysOK_of_foldl hK (hk.trans h1), hk⟩

/-- the time stamps / frames of a batch as the Python lists handed to `process_raw` -/
def tsOf (ps : List (Rat × Msg)) : Val := .tuple (ps.map (fun p => .num p.1))
def msgsOf (ps : List (Rat × Msg)) : Val := .tuple (ps.map (fun p => .str p.2))

theorem pyZip_batch (ps : List (Rat × Msg)) : pyZip (tsOf ps) (msgsOf ps) = .val (.tuple (ps.map encMsg)) := by
  unfold tsOf msgsOf
  rw [pyZip_tuple, List.zip_map', List.map_map]
  rfl

/-- **`Decode.process_raw` (generated definition), end to end, with values.**  Batches of `(time stamp, hex frame)`
    pairs for both loops, `tnow = t`.  If the call returns, there are tables `l1` (after the ADS-B loop) and `mid` (after
    the Comm-B loop) with: `l1` reached from the old table by one `AdsbStepRel` per ADS-B message, `mid` reached from
    `l1` by one `CommbStepRel` per Comm-B message, `mid` well formed with a numeric `live` everywhere, and the result
    is `(self', None)`, `self'` = `attrs` with `t := tnow` and `acs := evict t timeout mid`. -/
theorem process_raw_rel (attrs acs : List (Val × Val)) (adsb commb : List (Rat × Msg)) (t timeout : Rat) (r : Val)
    (hacs : dictFind attrs (attrKey "acs") = some (.dict acs)) (hK : KeysOK acs)
    (hto : dictFind attrs (attrKey "cache_timeout") = some (.num timeout))
    (hadsb : ∀ p ∈ adsb, IsHex p.2 ∧ 6 ≤ p.2.length) (hcommb : ∀ p ∈ commb, IsHex p.2 ∧ 6 ≤ p.2.length)
    (h : Gen.decode.Decode_process_raw (.dict attrs) (tsOf adsb) (msgsOf adsb) (tsOf commb) (msgsOf commb) (.num t) =
      .val r) :
    ∃ l1 mid : List (Val × Val),
      relChain AdsbStepRel adsb acs l1 ∧ relChain CommbStepRel commb l1 mid ∧ KeysOK mid ∧
      (∀ kv ∈ mid, ∃ q, liveOf kv.2 = some q) ∧
      r = .tuple [mk (setPair (attrKey "t") (.num t) attrs) (evict t timeout mid), .none] := by
  refine process_raw_via attrs acs _ _ _ _ t timeout r (relChain AdsbStepRel adsb acs)
    (fun l1 mid => relChain CommbStepRel commb l1 mid) hacs hto ?_ ?_ h
  · intro a items s hitems hs
    rw [pyZip_batch, bind_val'] at hitems
    cases hitems
    exact adsbLoop_rel a adsb hadsb acs s hs
  · intro a l1 items s h1 hitems hs
    rw [pyZip_batch, bind_val'] at hitems
    cases hitems
    refine rall_mono (commbLoop_rel a commb hcommb l1 s hs) ?_
    rintro s' ⟨mid, hmid, h2⟩
    exact ⟨mid, hmid, keysOK_of_foldl hK ((commbChain_keys commb l1 mid h2).trans (adsbChain_keys adsb acs l1 h1)), h2⟩

/-- **absent_if_silent, on the generated code.**  `L` bounds every `live` stamp the address `k` can end the loops with:
    its stamp before the call and `int(t)` of every message (ADS-B or Comm-B) of this call filed under `k`.  If
    `tnow - L > cache_timeout`, `k` is not in the table after the call. -/
theorem absent_if_silent_gen (attrs acs : List (Val × Val)) (adsb commb : List (Rat × Msg)) (t timeout : Rat)
    (self' res : Val)
    (hacs : dictFind attrs (attrKey "acs") = some (.dict acs)) (hK : KeysOK acs)
    (hto : dictFind attrs (attrKey "cache_timeout") = some (.num timeout))
    (hadsb : ∀ p ∈ adsb, IsHex p.2 ∧ 6 ≤ p.2.length) (hcommb : ∀ p ∈ commb, IsHex p.2 ∧ 6 ≤ p.2.length)
    (h : Gen.decode.Decode_process_raw (.dict attrs) (tsOf adsb) (msgsOf adsb) (tsOf commb) (msgsOf commb) (.num t) =
      .val (.tuple [self', res]))
    (k : Val) (hk : IsKey k) (L : Rat)
    (hold : ∀ q, liveAt acs k = some q → q ≤ L)
    (ha : ∀ p ∈ adsb, icaoKey p.2 = k → (PyModeS.pyInt p.1 : Rat) ≤ L)
    (hc : ∀ p ∈ commb, icaoKey p.2 = k → (PyModeS.pyInt p.1 : Rat) ≤ L)
    (hsilent : t - L > timeout) :
    ∃ acs', pyGetAttr self' "acs" = .val (.dict acs') ∧ k ∉ keysOf acs' := by
  obtain ⟨l1, mid, h1, h2, hKm, hlive, hr⟩ :=
    process_raw_rel attrs acs adsb commb t timeout _ hacs hK hto hadsb hcommb h
  injection hr with hr
  injection hr with hr _
  subst hr
  refine ⟨_, get_acs _ _, ?_⟩
  have hL1 : LiveLe k L l1 :=
    relChain_keeps adsb acs l1 h1 (fun p hp _ _ hR hl => adsbStep_liveLe hk hR hl (ha p hp)) hold
  have hL2 : LiveLe k L mid :=
    relChain_keeps commb l1 mid h2 (fun p hp _ _ hR hl => commbStep_liveLe hk hR hl (hc p hp)) hL1
  exact absent_of_liveLe hKm hlive hk hL2 hsilent


/-- **absent_after_61, on the generated code**: everything known about `k` -- the stamp stored before the call (`int`
    of a time `≤ T`) and every message of this call filed under `k` -- dates from `T` or earlier, the timeout is 60 s
    and `tnow - T > 61`: `k` is absent after the call. -/
theorem absent_after_61_gen (attrs acs : List (Val × Val)) (adsb commb : List (Rat × Msg)) (t : Rat)
    (self' res : Val)
    (hacs : dictFind attrs (attrKey "acs") = some (.dict acs)) (hK : KeysOK acs)
    (hto : dictFind attrs (attrKey "cache_timeout") = some (.num 60))
    (hadsb : ∀ p ∈ adsb, IsHex p.2 ∧ 6 ≤ p.2.length) (hcommb : ∀ p ∈ commb, IsHex p.2 ∧ 6 ≤ p.2.length)
    (h : Gen.decode.Decode_process_raw (.dict attrs) (tsOf adsb) (msgsOf adsb) (tsOf commb) (msgsOf commb) (.num t) =
      .val (.tuple [self', res]))
    (k : Val) (hk : IsKey k) (T : Rat)
    (hold : ∀ q, liveAt acs k = some q → ∃ t0, t0 ≤ T ∧ q = (PyModeS.pyInt t0 : Rat))
    (ha : ∀ p ∈ adsb, icaoKey p.2 = k → p.1 ≤ T)
    (hc : ∀ p ∈ commb, icaoKey p.2 = k → p.1 ≤ T)
    (hsilent : t - T > 61) :
    ∃ acs', pyGetAttr self' "acs" = .val (.dict acs') ∧ k ∉ keysOf acs' := by
  have hmono : ∀ {x y : Rat}, x ≤ y → (PyModeS.pyInt x : Rat) ≤ (PyModeS.pyInt y : Rat) :=
    fun hxy => by exact_mod_cast Tracker.pyInt_mono hxy
  refine absent_if_silent_gen attrs acs adsb commb t 60 self' res hacs hK hto hadsb hcommb h k hk
    (PyModeS.pyInt T : Rat) ?_ (fun p hp e => hmono (ha p hp e)) (fun p hp e => hmono (hc p hp e)) ?_
  · intro q hq
    obtain ⟨t0, ht0, rfl⟩ := hold q hq
    exact hmono ht0
  · have := (Tracker.pyInt_bounds T).1
    linarith

/-- **listed_if_recent (last message form), on the generated code.**  The ADS-B batch is `pre ++ (q, m) :: post` where
    every later message of the same address has `int(t') ≥ int(q)` (in particular: `(q, m)` is the last message of its
    address, or the batch is sorted by time).  If `tnow - q ≤ 59` and the timeout is 60 s, the address is in the table
    after the call, with a numeric `live ≥ int(q)`. -/
theorem listed_if_recent_gen (attrs acs : List (Val × Val)) (pre post commb : List (Rat × Msg)) (q : Rat) (m : Msg)
    (t : Rat) (self' res : Val)
    (hacs : dictFind attrs (attrKey "acs") = some (.dict acs)) (hK : KeysOK acs)
    (hto : dictFind attrs (attrKey "cache_timeout") = some (.num 60))
    (hadsb : ∀ p ∈ pre ++ (q, m) :: post, IsHex p.2 ∧ 6 ≤ p.2.length)
    (hcommb : ∀ p ∈ commb, IsHex p.2 ∧ 6 ≤ p.2.length)
    (h : Gen.decode.Decode_process_raw (.dict attrs) (tsOf (pre ++ (q, m) :: post)) (msgsOf (pre ++ (q, m) :: post))
      (tsOf commb) (msgsOf commb) (.num t) = .val (.tuple [self', res]))
    (hpost : ∀ p ∈ post, icaoKey p.2 = icaoKey m → (PyModeS.pyInt q : Rat) ≤ (PyModeS.pyInt p.1 : Rat))
    (hrecent : t - q ≤ 59) :
    ∃ acs', pyGetAttr self' "acs" = .val (.dict acs') ∧ icaoKey m ∈ keysOf acs' ∧
      LiveGe (icaoKey m) (PyModeS.pyInt q : Rat) acs' := by
  obtain ⟨l1, mid, h1, h2, hKm, hlive, hr⟩ :=
    process_raw_rel attrs acs (pre ++ (q, m) :: post) commb t 60 _ hacs hK hto hadsb hcommb h
  injection hr with hr
  injection hr with hr _
  subst hr
  obtain ⟨l0, hpre, hrest⟩ := relChain_append pre ((q, m) :: post) acs l1 h1
  have hrest' : ∃ l0', AdsbStepRel (q, m) l0 l0' ∧ relChain AdsbStepRel post l0' l1 := hrest
  obtain ⟨l0', hstep, hpostc⟩ := hrest'
  have hk := isKey_icaoKey m
  have g1 : LiveGe (icaoKey m) (PyModeS.pyInt q : Rat) l1 :=
    relChain_keeps post l0' l1 hpostc (fun p hp _ _ hR hl => adsbStep_liveGe hk hR hl (hpost p hp))
      ⟨_, hstep.2.2, le_refl _⟩
  have g2 : LiveGe (icaoKey m) (PyModeS.pyInt q : Rat) mid :=
    relChain_keeps commb l1 mid h2 (fun _ _ _ _ hR hl => commbStep_liveGe hk hR hl) g1
  have hb := (Tracker.pyInt_bounds q).2
  obtain ⟨hin, hge⟩ := present_of_liveGe (t := t) (timeout := 60) hKm hk g2 (by linarith)
  exact ⟨_, get_acs _ _, hin, hge⟩


/-- **keys_grow_only_by_adsb / stale_removed, on the generated code**: after a call that returns, every key of the table
    was there before or is the address of an ADS-B message of the call (Comm-B messages add nothing), the table is well
    formed, and every listed aircraft has a numeric `live` with `tnow - live ≤ cache_timeout`. -/
theorem keys_and_staleness_gen (attrs acs : List (Val × Val)) (adsb commb : List (Rat × Msg)) (t timeout : Rat)
    (self' res : Val)
    (hacs : dictFind attrs (attrKey "acs") = some (.dict acs)) (hK : KeysOK acs)
    (hto : dictFind attrs (attrKey "cache_timeout") = some (.num timeout))
    (hadsb : ∀ p ∈ adsb, IsHex p.2 ∧ 6 ≤ p.2.length) (hcommb : ∀ p ∈ commb, IsHex p.2 ∧ 6 ≤ p.2.length)
    (h : Gen.decode.Decode_process_raw (.dict attrs) (tsOf adsb) (msgsOf adsb) (tsOf commb) (msgsOf commb) (.num t) =
      .val (.tuple [self', res])) :
    res = .none ∧ ∃ acs', pyGetAttr self' "acs" = .val (.dict acs') ∧ KeysOK acs' ∧
      (∀ k ∈ keysOf acs', k ∈ keysOf acs ∨ ∃ p ∈ adsb, k = icaoKey p.2) ∧
      (∀ kv ∈ acs', ∃ q, liveOf kv.2 = some q ∧ t - q ≤ timeout) := by
  obtain ⟨l1, mid, h1, h2, hKm, hlive, hr⟩ :=
    process_raw_rel attrs acs adsb commb t timeout _ hacs hK hto hadsb hcommb h
  injection hr with hr
  injection hr with hr hr2
  injection hr2 with hr2 _
  subst hr
  refine ⟨hr2, _, get_acs _ _, keysOK_evict hKm t timeout, ?_, ?_⟩
  · intro k hk
    have hk' := keysOf_evict_subset t timeout mid k hk
    rw [commbChain_keys commb l1 mid h2, adsbChain_keys adsb acs l1 h1, mem_foldl_addKey (fun ic hic => by
      obtain ⟨p, _, rfl⟩ := List.mem_map.1 hic
      exact isKey_icaoKey p.2)] at hk'
    rcases hk' with h | h
    · exact Or.inl h
    · obtain ⟨p, hp, rfl⟩ := List.mem_map.1 h
      exact Or.inr ⟨p, hp, rfl⟩
  · intro kv hkv
    obtain ⟨q, hq⟩ := hlive kv (List.mem_of_mem_filter hkv)
    exact ⟨q, hq, evict_fresh t timeout mid kv q hkv hq⟩

/-! audited names (the harness audits the axioms of every theorem whose name ends in `_tie`) -/
theorem process_raw_decomp_tie : type_of% @process_raw_decomp := @process_raw_decomp
theorem evict_loop_spec_tie : type_of% @evict_loop_spec := @evict_loop_spec
theorem evict_loop_val_tie : type_of% @evict_loop_val := @evict_loop_val
theorem evict_absent_tie : type_of% @evict_absent := @evict_absent
theorem evict_absent_nonneg_tie : type_of% @evict_absent_nonneg := @evict_absent_nonneg
theorem evict_present_tie : type_of% @evict_present := @evict_present
theorem commbBody_unknown_hex_tie : type_of% @commbBody_unknown_hex := @commbBody_unknown_hex
theorem commbLoop_keys_tie : type_of% @commbLoop_keys := @commbLoop_keys
theorem commbLoop_keys_val_tie : type_of% @commbLoop_keys_val := @commbLoop_keys_val
theorem adsbLoop_keys_tie : type_of% @adsbLoop_keys := @adsbLoop_keys
theorem adsbBody_live_tie : type_of% @adsbBody_live := @adsbBody_live
theorem commbBody_live_tie : type_of% @commbBody_live := @commbBody_live
theorem process_raw_spec_tie : type_of% @process_raw_spec := @process_raw_spec
theorem process_raw_rel_tie : type_of% @process_raw_rel := @process_raw_rel
theorem absent_if_silent_gen_tie : type_of% @absent_if_silent_gen := @absent_if_silent_gen
theorem absent_after_61_gen_tie : type_of% @absent_after_61_gen := @absent_after_61_gen
theorem listed_if_recent_gen_tie : type_of% @listed_if_recent_gen := @listed_if_recent_gen
theorem keys_and_staleness_gen_tie : type_of% @keys_and_staleness_gen := @keys_and_staleness_gen

