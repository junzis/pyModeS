/-
  Tie: generated `decoder/adsb.py` (quality indicators and dispatchers) = hand model (`Model/Adsb.lean`).

  * bit picks with a type-code guard: `oe_flag`, `version`, `nic_s`, `nic_a_c`, `nic_b` (any hex frame of >= 10 digits);
  * table look-ups `nuc_p`, `nuc_v`, `nac_p`, `nac_v`, `sil`, `nic_v1`, `nic_v2`: the generated `Val.dict` tables of
    `Generated/Src/uncertainty.lean` against `Tables.*`, by evaluation on the finite key sets (type code < 32, field
    value < 2^width, `NICs` in {0, 1, >= 2} / {0, 1, 2, 3, >= 4});
  * dispatchers `altitude`, `position_with_ref`, `velocity`, `position`: routing by type code relative to the decoders
    of bds05 / bds06 / bds09, which stay opaque (`*_tie`), and, given the ties of those decoders as hypotheses,
    equality with `adsbAltitude` / `positionWithRef` / `position` (`*_tie_of_callee(s)`);
  * `speed_heading` relative to `Gen.adsb.velocity` (no hand-model counterpart); `df`, `icao`, `typecode` re-exports.

  Theorems whose plain name would clash with `Tie/Common.lean` carry the prefix `adsb_`.
-/
import PyModeS.Tie.Basic
import PyModeS.Tie.Common
import PyModeS.Tie.Icao
import PyModeS.Tie.Bds61
import PyModeS.Generated.Src.adsb
import PyModeS.Proofs.Fields.Frame

namespace PyModeS.Tie
open PyModeS PyModeS.Py PyModeS.CRC

/-- `adsb.typecode(msg)` in terms of the bit string of the frame -/
theorem Adsb.typecode_hex (m : Msg) (h : IsHex m) (hl : 10 ≤ m.length) :
    Gen.adsb.typecode (.str m) = .val (Val.ofOptNat (tcB (hex2binM m))) := by
  unfold Gen.adsb.typecode
  rw [typecode_str m h hl, typecode_eq]

/- helper lemmas and encoders are named `Adsb.*`; the tie theorems are in `PyModeS.Tie` -/
open Adsb

theorem Adsb.ofNat_b2n (b : Bool) : Val.num (if b = true then 1 else 0) = Val.ofNat (b2n b) := by
  cases b <;> simp [Val.ofNat, b2n]

theorem oe_flag_tie (m : Msg) (h : IsHex m) (hne : m ≠ []) :
    Gen.adsb.oe_flag (.str m) = (PyModeS.oeFlag (hex2binM m) >>= fun n => .val (Val.ofNat n)) := by
  unfold Gen.adsb.oe_flag PyModeS.oeFlag
  rw [hex2bin_str m h hne, bind_val', pyIdxN_ofBits]
  rcases idxR (hex2binM m) 53 with (b | _ | _)
  · simp only [bind_val', pyInt1_digit, ofNat_b2n, Res.pure_eq]
  · rfl
  · rfl

/-- `typecode(msg) != k` for a literal `k` -/
theorem Adsb.pyNe_lit (o : Option Nat) (k : Nat) [k.AtLeastTwo] :
    pyNe (Val.ofOptNat o) (.num ofNat(k)) = .val (.bool (decide (o ≠ some ofNat(k)))) := by
  have hk := pyNe_ofOptNat o (OfNat.ofNat k)
  simp only [Nat.cast_ofNat] at hk
  exact hk

theorem version_tie (m : Msg) (h : IsHex m) (hl : 10 ≤ m.length) :
    Gen.adsb.version (.str m) = (PyModeS.version (hex2binM m) >>= fun n => .val (Val.ofNat n)) := by
  unfold Gen.adsb.version PyModeS.version
  rw [Adsb.typecode_hex m h hl, bind_val', pyNe_lit, bind_val', hex2bin_str m h (ne_nil_of_le hl)]
  by_cases e : tcB (hex2binM m) = some 31
  · simp only [e, pyTruth_bool, ne_eq, not_true_eq_false, decide_false, Bool.false_eq_true, if_false, bind_val',
      pySliceNN_ofBits, bin2int_ofBits]
  · simp only [e, pyTruth_bool, ne_eq, not_false_eq_true, decide_true, if_true, bind_rte']

theorem nic_s_tie (m : Msg) (h : IsHex m) (hl : 10 ≤ m.length) :
    Gen.adsb.nic_s (.str m) = (PyModeS.nicS (hex2binM m) >>= fun n => .val (Val.ofNat n)) := by
  unfold Gen.adsb.nic_s PyModeS.nicS
  rw [Adsb.typecode_hex m h hl, bind_val', pyNe_lit, bind_val', hex2bin_str m h (ne_nil_of_le hl)]
  by_cases e : tcB (hex2binM m) = some 31
  · simp only [e, pyTruth_bool, ne_eq, not_true_eq_false, decide_false, Bool.false_eq_true, if_false, bind_val',
      pyIdxN_ofBits]
    rcases idxR (hex2binM m) 75 with (b | _ | _)
    · simp only [bind_val', pyInt1_digit, ofNat_b2n, Res.pure_eq]
    · rfl
    · rfl
  · simp only [e, pyTruth_bool, ne_eq, not_false_eq_true, decide_true, if_true, bind_rte']

/-- Python returns the pair `(NICa, NICc)` -/
theorem nic_a_c_tie (m : Msg) (h : IsHex m) (hl : 10 ≤ m.length) :
    Gen.adsb.nic_a_c (.str m) =
      (PyModeS.nicAC (hex2binM m) >>= fun p => .val (.tuple [Val.ofNat p.1, Val.ofNat p.2])) := by
  unfold Gen.adsb.nic_a_c PyModeS.nicAC
  rw [Adsb.typecode_hex m h hl, bind_val', pyNe_lit, bind_val', hex2bin_str m h (ne_nil_of_le hl)]
  by_cases e : tcB (hex2binM m) = some 31
  · simp only [e, pyTruth_bool, ne_eq, not_true_eq_false, decide_false, Bool.false_eq_true, if_false, bind_val',
      pyIdxN_ofBits]
    rcases idxR (hex2binM m) 75 with (a | _ | _)
    · simp only [bind_val', pyInt1_digit, ofNat_b2n]
      rcases idxR (hex2binM m) 51 with (c | _ | _)
      · simp only [bind_val', pyInt1_digit, ofNat_b2n, Res.pure_eq]
      · rfl
      · rfl
    · rfl
    · rfl
  · simp only [e, pyTruth_bool, ne_eq, not_false_eq_true, decide_true, if_true, bind_rte']

/-! ### comparisons of a type code with a literal, in the form left by unfolding `Val.ofOptNat (some n)` -/

theorem Adsb.lt_lit (n k : Nat) [k.AtLeastTwo] :
    pyLt (.num (n : Rat)) (.num (ofNat(k))) = .val (.bool (decide (n < ofNat(k)))) := pyLt_ofNat_lit n k
theorem Adsb.le_lit (n k : Nat) [k.AtLeastTwo] :
    pyLe (.num (n : Rat)) (.num (ofNat(k))) = .val (.bool (decide (n ≤ ofNat(k)))) := pyLe_ofNat_lit n k
theorem Adsb.lit_le (n k : Nat) [k.AtLeastTwo] :
    pyLe (.num (ofNat(k))) (.num (n : Rat)) = .val (.bool (decide (ofNat(k) ≤ n))) := pyLe_lit_ofNat n k
theorem Adsb.gt_lit (n k : Nat) [k.AtLeastTwo] :
    pyGt (.num (n : Rat)) (.num (ofNat(k))) = .val (.bool (decide (ofNat(k) < n))) := pyGt_ofNat_lit n k
theorem Adsb.ge_lit (n k : Nat) [k.AtLeastTwo] :
    pyGe (.num (n : Rat)) (.num (ofNat(k))) = .val (.bool (decide (ofNat(k) ≤ n))) := pyGe_ofNat_lit n k
theorem Adsb.eq_lit (n k : Nat) [k.AtLeastTwo] :
    pyEq (.num (n : Rat)) (.num (ofNat(k))) = .val (.bool (decide (n = ofNat(k)))) := pyEq_ofNat_lit n k

/-- `tc is None or tc < 5 or tc == 19 or tc > 22` -/
def Adsb.posBad : Option Nat → Bool
  | none => true
  | some tc => decide (tc < 5 ∨ tc = 19 ∨ tc > 22)

theorem Adsb.guard_pos (o : Option Nat) :
    (do let b__1 ← pyIs (Val.ofOptNat o) Val.none; if pyTruth b__1 then pure b__1 else (do let b__2 ← pyLt (Val.ofOptNat o) (Val.num 5); if pyTruth b__2 then pure b__2 else (do let b__3 ← pyEq (Val.ofOptNat o) (Val.num 19); if pyTruth b__3 then pure b__3 else pyGt (Val.ofOptNat o) (Val.num 22)))) =
      .val (.bool (posBad o)) := by
  rcases o with _ | tc
  · rfl
  · simp only [Val.ofOptNat, pyIs_none_num, bind_val', pyTruth_bool, Bool.false_eq_true, if_false, lt_lit, eq_lit, gt_lit,
      posBad, Res.pure_eq]
    by_cases h1 : tc < 5
    · simp [h1]
    by_cases h2 : tc = 19
    · simp [h2]
    by_cases h3 : 22 < tc <;> simp [h1, h2, h3]

/-- `tc is None or tc < 9 or tc > 18` -/
def Adsb.nicbBad : Option Nat → Bool
  | none => true
  | some tc => decide (tc < 9 ∨ tc > 18)

theorem Adsb.guard_nicb (o : Option Nat) :
    (do let b__1 ← pyIs (Val.ofOptNat o) Val.none; if pyTruth b__1 then pure b__1 else (do let b__2 ← pyLt (Val.ofOptNat o) (Val.num 9); if pyTruth b__2 then pure b__2 else pyGt (Val.ofOptNat o) (Val.num 18))) =
      .val (.bool (nicbBad o)) := by
  rcases o with _ | tc
  · rfl
  · simp only [Val.ofOptNat, pyIs_none_num, bind_val', pyTruth_bool, Bool.false_eq_true, if_false, lt_lit, gt_lit,
      nicbBad, Res.pure_eq]
    by_cases h1 : tc < 9
    · simp [h1]
    by_cases h3 : 18 < tc <;> simp [h1, h3]

theorem nic_b_tie (m : Msg) (h : IsHex m) (hl : 10 ≤ m.length) :
    Gen.adsb.nic_b (.str m) = (PyModeS.nicB (hex2binM m) >>= fun n => .val (Val.ofNat n)) := by
  unfold Gen.adsb.nic_b PyModeS.nicB
  rw [Adsb.typecode_hex m h hl, bind_val', guard_nicb, bind_val', hex2bin_str m h (ne_nil_of_le hl)]
  generalize tcB (hex2binM m) = o
  rcases o with _ | tc
  · rfl
  · simp only [nicbBad, pyTruth_bool, decide_eq_true_eq]
    by_cases e : tc < 9 ∨ tc > 18
    · simp only [e, if_true, bind_rte']
    · simp only [e, if_false, bind_val', pyIdxN_ofBits]
      rcases idxR (hex2binM m) 39 with (b | _ | _)
      · simp only [bind_val', pyInt1_digit, ofNat_b2n, Res.pure_eq]
      · rfl
      · rfl

/-! ### table look-ups -/

theorem Adsb.bin2intR_val_lt {d : Bits} {a b v : Nat} (h : bin2intR (slice a b d) = .val v) : v < 2 ^ (b - a) := by
  unfold bin2intR at h
  split at h
  · cases h
  · injection h with h
    subst h
    have h1 := bin2int_lt (slice a b d)
    have h2 : (slice a b d).length ≤ b - a := by simp [slice]
    exact Nat.lt_of_lt_of_le h1 (Nat.pow_le_pow_right (by omega) h2)

/-- encoding of `(value, a, b)` as Python returns it -/
def Adsb.enc3 (p : Nat × Option Rat × Option Rat) : Val :=
  .tuple [Val.ofNat p.1, Val.ofOptRat p.2.1, Val.ofOptRat p.2.2]

/-- Python returns `(NUCv, HVE, VVE)` -/
theorem nuc_v_tie (m : Msg) (h : IsHex m) (hl : 10 ≤ m.length) :
    Gen.adsb.nuc_v (.str m) = (PyModeS.nucV (hex2binM m) >>= fun p => .val (enc3 p)) := by
  unfold Gen.adsb.nuc_v PyModeS.nucV
  rw [Adsb.typecode_hex m h hl, bind_val', pyNe_lit, bind_val', hex2bin_str m h (ne_nil_of_le hl)]
  by_cases e : tcB (hex2binM m) = some 19
  · simp only [e, pyTruth_bool, ne_eq, not_true_eq_false, decide_false, Bool.false_eq_true, if_false, bind_val',
      pySliceNN_ofBits, bin2int_ofBits]
    rcases hr : bin2intR (slice 42 45 (hex2binM m)) with (v | _ | _)
    · have hv := bin2intR_val_lt hr
      simp only [bind_val']
      clear hr
      interval_cases v <;> rfl
    · rfl
    · rfl
  · simp only [e, pyTruth_bool, ne_eq, not_false_eq_true, decide_true, if_true, bind_rte']

/-- Python returns `(NACv, HFOMr, VFOMr)` -/
theorem nac_v_tie (m : Msg) (h : IsHex m) (hl : 10 ≤ m.length) :
    Gen.adsb.nac_v (.str m) = (PyModeS.nacV (hex2binM m) >>= fun p => .val (enc3 p)) := by
  unfold Gen.adsb.nac_v PyModeS.nacV
  rw [Adsb.typecode_hex m h hl, bind_val', pyNe_lit, bind_val', hex2bin_str m h (ne_nil_of_le hl)]
  by_cases e : tcB (hex2binM m) = some 19
  · simp only [e, pyTruth_bool, ne_eq, not_true_eq_false, decide_false, Bool.false_eq_true, if_false, bind_val',
      pySliceNN_ofBits, bin2int_ofBits]
    rcases hr : bin2intR (slice 42 45 (hex2binM m)) with (v | _ | _)
    · have hv := bin2intR_val_lt hr
      simp only [bind_val']
      clear hr
      interval_cases v <;> rfl
    · rfl
    · rfl
  · simp only [e, pyTruth_bool, ne_eq, not_false_eq_true, decide_true, if_true, bind_rte']

/-- `tc not in [29, 31]` -/
theorem Adsb.notIn_29_31 (o : Option Nat) :
    pyNotIn (Val.ofOptNat o) (.tuple [.num 29, .num 31]) = .val (.bool (decide (o ≠ some 29 ∧ o ≠ some 31))) := by
  rcases o with _ | n
  · rfl
  · have := pyNotIn_ofNat n [29, 31]
    simp only [List.map_cons, List.map_nil, Nat.cast_ofNat] at this
    simp only [Val.ofOptNat]
    rw [show Val.num (n : Rat) = Val.ofNat n from rfl, this]
    simp

/-- Python returns `(NACp, EPU, VEPU)` -/
theorem nac_p_tie (m : Msg) (h : IsHex m) (hl : 10 ≤ m.length) :
    Gen.adsb.nac_p (.str m) = (PyModeS.nacP (hex2binM m) >>= fun p => .val (enc3 p)) := by
  unfold Gen.adsb.nac_p PyModeS.nacP
  rw [Adsb.typecode_hex m h hl, bind_val', notIn_29_31, bind_val', hex2bin_str m h (ne_nil_of_le hl)]
  by_cases e : tcB (hex2binM m) = some 29
  · simp only [e, Val.ofOptNat, bind_val', pySliceNN_ofBits, bin2int_ofBits]
    rcases hr : bin2intR (slice 71 75 (hex2binM m)) with (v | _ | _)
    · have hv := bin2intR_val_lt hr
      clear hr
      interval_cases v <;> rfl
    · rfl
    · rfl
  by_cases e' : tcB (hex2binM m) = some 31
  · simp only [e', Val.ofOptNat, bind_val', pySliceNN_ofBits, bin2int_ofBits]
    rcases hr : bin2intR (slice 76 80 (hex2binM m)) with (v | _ | _)
    · have hv := bin2intR_val_lt hr
      clear hr
      interval_cases v <;> rfl
    · rfl
    · rfl
  · have hg : decide (tcB (hex2binM m) ≠ some 29 ∧ tcB (hex2binM m) ≠ some 31) = true := by simp [e, e']
    rw [hg]
    simp only [pyTruth_bool, if_true, bind_rte']

/-- `version == 2` for `version` an integer or `None` -/
theorem Adsb.pyEq_optlit (o : Option Nat) (k : Nat) [k.AtLeastTwo] :
    pyEq (Val.ofOptNat o) (.num ofNat(k)) = .val (.bool (decide (o = some ofNat(k)))) := by
  rcases o with _ | n
  · simp [pyEq, Val.ofOptNat, Val.beq]
  · simp only [Val.ofOptNat, eq_lit, Option.some.injEq]

theorem Adsb.ofOptNat_some (n : Nat) : Val.ofOptNat (some n) = .num (n : Rat) := rfl

/-- encoding of `(PE_RCu, PE_VPL, base)` as Python returns it -/
def Adsb.encSil (p : Option Rat × Option Rat × String) : Val :=
  .tuple [Val.ofOptRat p.1, Val.ofOptRat p.2.1, .str p.2.2.toList]

/-- Python returns `(PE_RCu, PE_VPL, base)`; `version` is an integer or `None` -/
theorem sil_tie (m : Msg) (h : IsHex m) (hl : 10 ≤ m.length) (version : Option Nat) :
    Gen.adsb.sil (.str m) (Val.ofOptNat version) =
      (PyModeS.sil (hex2binM m) version >>= fun p => .val (encSil p)) := by
  unfold Gen.adsb.sil PyModeS.sil
  rw [Adsb.typecode_hex m h hl, bind_val', notIn_29_31, bind_val', hex2bin_str m h (ne_nil_of_le hl)]
  have hver : pyEq (Val.ofOptNat version) (Val.num 2) = .val (.bool (decide (version = some 2))) := pyEq_optlit version 2
  by_cases e : tcB (hex2binM m) = some 29
  · simp only [e, hver, ofOptNat_some, bind_val', pySliceNN_ofBits, bin2int_ofBits, pyIdxN_ofBits]
    rcases hr : bin2intR (slice 76 78 (hex2binM m)) with (v | _ | _)
    · have hv := bin2intR_val_lt hr
      clear hr
      by_cases hv2 : version = some 2
      · simp only [hv2]
        rcases idxR (hex2binM m) 39 with (b | _ | _)
        · cases b <;> interval_cases v <;> rfl
        · interval_cases v <;> rfl
        · interval_cases v <;> rfl
      · simp only [hv2]
        interval_cases v <;> rfl
    · rfl
    · rfl
  by_cases e' : tcB (hex2binM m) = some 31
  · simp only [e', hver, ofOptNat_some, bind_val', pySliceNN_ofBits, bin2int_ofBits, pyIdxN_ofBits]
    rcases hr : bin2intR (slice 82 84 (hex2binM m)) with (v | _ | _)
    · have hv := bin2intR_val_lt hr
      clear hr
      by_cases hv2 : version = some 2
      · simp only [hv2]
        rcases idxR (hex2binM m) 86 with (b | _ | _)
        · cases b <;> interval_cases v <;> rfl
        · interval_cases v <;> rfl
        · interval_cases v <;> rfl
      · simp only [hv2]
        interval_cases v <;> rfl
    · rfl
    · rfl
  · have hg : decide (tcB (hex2binM m) ≠ some 29 ∧ tcB (hex2binM m) ≠ some 31) = true := by simp [e, e']
    rw [hg]
    simp only [pyTruth_bool, if_true, bind_rte']
    generalize tcB (hex2binM m) = o at e e'
    rcases o with _ | tc
    · rfl
    · have h1 : tc ≠ 29 := fun c => e (by rw [c])
      have h2 : tc ≠ 31 := fun c => e' (by rw [c])
      simp only [h1, h2, ne_eq, not_false_eq_true, and_self, if_true, bind_rte']

/-- encoding of `(NUCp, HPL, RCu, RCv)` as Python returns it -/
def Adsb.enc4 (p : Nat × Option Rat × Option Rat × Option Rat) : Val :=
  .tuple [Val.ofNat p.1, Val.ofOptRat p.2.1, Val.ofOptRat p.2.2.1, Val.ofOptRat p.2.2.2]

/-- outside the position type codes both sides raise before any look-up -/
theorem Adsb.posBad_rte {α} (tc : Nat) (hbad : tc < 5 ∨ tc = 19 ∨ tc > 22) (K : Res Val) (f : Res α) (enc : α → Res Val) :
    (if pyTruth (.bool (posBad (some tc))) = true then ((Res.rte : Res PUnit) >>= fun _ => K) else K) =
      ((if tc < 5 ∨ tc = 19 ∨ tc > 22 then Res.rte else f) >>= enc) := by
  simp only [posBad, hbad, decide_true, pyTruth_bool, if_true, bind_rte']

/-- Python returns `(NUCp, HPL, RCu, RCv)` -/
theorem nuc_p_tie (m : Msg) (h : IsHex m) (hl : 10 ≤ m.length) :
    Gen.adsb.nuc_p (.str m) = (PyModeS.nucP (hex2binM m) >>= fun p => .val (enc4 p)) := by
  unfold Gen.adsb.nuc_p PyModeS.nucP
  rw [Adsb.typecode_hex m h hl, bind_val', guard_pos, bind_val']
  generalize tcB (hex2binM m) = o
  rcases o with _ | tc
  · rfl
  · by_cases hbad : tc < 5 ∨ tc = 19 ∨ tc > 22
    · exact posBad_rte tc hbad _ _ _
    · have h5 : 5 ≤ tc := by omega
      have h22 : tc ≤ 22 := by omega
      interval_cases tc <;> rfl

/-- Python returns `(NIC, Rc, VPL)`; `NICs` is a non-negative integer -/
theorem nic_v1_tie (m : Msg) (h : IsHex m) (hl : 10 ≤ m.length) (nics : Nat) :
    Gen.adsb.nic_v1 (.str m) (Val.ofNat nics) = (PyModeS.nicV1 (hex2binM m) nics >>= fun p => .val (enc3 p)) := by
  unfold Gen.adsb.nic_v1 PyModeS.nicV1
  rw [Adsb.typecode_hex m h hl, bind_val', guard_pos, bind_val']
  generalize tcB (hex2binM m) = o
  rcases o with _ | tc
  · rfl
  · by_cases hbad : tc < 5 ∨ tc = 19 ∨ tc > 22
    · exact posBad_rte tc hbad _ _ _
    · have h5 : 5 ≤ tc := by omega
      have h22 : tc ≤ 22 := by omega
      rcases nics with _ | _ | n
      · interval_cases tc <;> rfl
      · interval_cases tc <;> rfl
      · interval_cases tc <;> rfl

theorem Adsb.pyMul_ofNat_two (a : Nat) : pyMul (Val.ofNat a) (Val.num 2) = .val (Val.ofNat (a * 2)) := by
  simp [Val.ofNat, pyMul_num]

/-- encoding of `(NIC, Rc)`, or `(None, None)` when a look-up inside the `try` failed -/
def Adsb.encNic2 : Option (Nat × Option Rat) → Val
  | none => .tuple [.none, .none]
  | some p => .tuple [Val.ofNat p.1, Val.ofOptRat p.2]

/-- Python returns `(NIC, Rc)` or `(None, None)`; `NICa`, `NICbc` are non-negative integers -/
theorem nic_v2_tie (m : Msg) (h : IsHex m) (hl : 10 ≤ m.length) (nica nicbc : Nat) :
    Gen.adsb.nic_v2 (.str m) (Val.ofNat nica) (Val.ofNat nicbc) =
      (PyModeS.nicV2 (hex2binM m) nica nicbc >>= fun p => .val (encNic2 p)) := by
  unfold Gen.adsb.nic_v2 PyModeS.nicV2
  rw [Adsb.typecode_hex m h hl, bind_val', guard_pos, bind_val']
  simp only [pyMul_ofNat_two, pyAdd_ofNat, bind_val']
  generalize tcB (hex2binM m) = o
  generalize nica * 2 + nicbc = nics
  rcases o with _ | tc
  · rfl
  · by_cases hbad : tc < 5 ∨ tc = 19 ∨ tc > 22
    · exact posBad_rte tc hbad _ _ _
    have h5 : 5 ≤ tc := by omega
    have h22 : tc ≤ 22 := by omega
    rcases nics with _ | _ | _ | _ | n
    · interval_cases tc <;> rfl
    · interval_cases tc <;> rfl
    · interval_cases tc <;> rfl
    · interval_cases tc <;> rfl
    · interval_cases tc <;> rfl

/-! ### dispatchers: the routing by type code; the decoders of `bds05` / `bds06` / `bds09` that are called stay opaque -/

/-- `adsb.altitude` relative to `bds05.altitude`: the routing is that of `adsbAltitude` -/
theorem adsb_altitude_tie (m : Msg) (h : IsHex m) (hl : 10 ≤ m.length) :
    Gen.adsb.altitude (.str m) =
      (match tcB (hex2binM m) with
       | none => .rte
       | some tc =>
         if tc < 5 ∨ tc = 19 ∨ tc > 22 then .rte
         else if tc ≥ 5 ∧ tc ≤ 8 then .val (.num 0)
         else Gen.bds05.altitude (.str m)) := by
  unfold Gen.adsb.altitude
  rw [Adsb.typecode_hex m h hl, bind_val', guard_pos, bind_val']
  have hlt : ∀ tc, tcB (hex2binM m) = some tc → tc < 32 := fun tc e => Fields.tcB_lt e
  generalize tcB (hex2binM m) = o at hlt
  generalize Gen.bds05.altitude (.str m) = A
  rcases o with _ | tc
  · rfl
  · have := hlt tc rfl
    clear hlt
    rcases A with (a | _ | _) <;> interval_cases tc <;> rfl

/-- `adsb.altitude` = `adsbAltitude`, given the tie of the callee `bds05.altitude` (`bds05_altitude_tie`) -/
theorem adsb_altitude_tie_of_callee (m : Msg) (h : IsHex m) (hl : 10 ≤ m.length)
    (h05 : Gen.bds05.altitude (.str m) = (altitude05 (hex2binM m) >>= fun o => .val (Val.ofOptRat o))) :
    Gen.adsb.altitude (.str m) = (adsbAltitude (hex2binM m) >>= fun o => .val (Val.ofOptRat o)) := by
  rw [adsb_altitude_tie m h hl, h05]
  unfold adsbAltitude
  rcases tcB (hex2binM m) with _ | tc
  · rfl
  · simp only []
    split_ifs <;> rfl

/-- `a <= tc <= b` (chained comparison), in the form `simp only [bind_val', Res.pure_eq]` leaves it -/
theorem Adsb.range_guard (n a b : Nat) [a.AtLeastTwo] [b.AtLeastTwo] :
    (pyLe (Val.num ofNat(a)) (Val.num (n : Rat)) >>= fun c =>
        if pyTruth c = true then pyLe (Val.num (n : Rat)) (Val.num ofNat(b)) else Res.val c) =
      .val (.bool (decide (ofNat(a) ≤ n ∧ n ≤ ofNat(b)))) := by
  simp only [lit_le, le_lit, bind_val', pyTruth_bool]
  by_cases h1 : ofNat(a) ≤ n <;> simp [h1]

theorem Adsb.bind_pure' {α} (x : Res α) : (x >>= fun r => pure r) = x := bind_val_id x

/-- `adsb.position_with_ref` relative to the two decoders it calls: the routing is `positionWithRefRoute`.
    `la`, `lo` are passed through unchanged. -/
theorem position_with_ref_tie (m : Msg) (h : IsHex m) (hl : 10 ≤ m.length) (la lo : Val) :
    Gen.adsb.position_with_ref (.str m) la lo =
      (positionWithRefRoute (hex2binM m) >>= fun k =>
        match k with
        | .surface => Gen.bds06.surface_position_with_ref (.str m) la lo
        | .airborne => Gen.bds05.airborne_position_with_ref (.str m) la lo) := by
  unfold Gen.adsb.position_with_ref positionWithRefRoute
  rw [Adsb.typecode_hex m h hl, bind_val']
  generalize tcB (hex2binM m) = o
  generalize Gen.bds06.surface_position_with_ref (.str m) la lo = A
  generalize Gen.bds05.airborne_position_with_ref (.str m) la lo = B
  rcases o with _ | tc
  · rfl
  · simp only [ofOptNat_some, pyIs_none_num, bind_val', pyTruth_bool, Bool.false_eq_true, if_false, Res.pure_eq,
      range_guard]
    by_cases s : 5 ≤ tc ∧ tc ≤ 8
    · simp [s]
    by_cases a1 : 9 ≤ tc ∧ tc ≤ 18
    · simp [s, a1]
    by_cases a2 : 20 ≤ tc ∧ tc ≤ 22 <;> simp [s, a1, a2]

/-- a position `(lat, lon)` as Python returns it -/
def Adsb.encPos (p : Rat × Rat) : Val := .tuple [.num p.1, .num p.2]

/-- `adsb.position_with_ref` = `positionWithRef`, given the ties of the two decoders it calls -/
theorem position_with_ref_tie_of_callees (m : Msg) (h : IsHex m) (hl : 10 ≤ m.length) (la lo : Rat)
    (hs : Gen.bds06.surface_position_with_ref (.str m) (.num la) (.num lo) =
      (surfacePositionWithRef (hex2binM m) la lo >>= fun p => .val (encPos p)))
    (ha : Gen.bds05.airborne_position_with_ref (.str m) (.num la) (.num lo) =
      (airbornePositionWithRef (hex2binM m) la lo >>= fun p => .val (encPos p))) :
    Gen.adsb.position_with_ref (.str m) (.num la) (.num lo) =
      (positionWithRef (hex2binM m) la lo >>= fun p => .val (encPos p)) := by
  rw [position_with_ref_tie m h hl, hs, ha]
  unfold positionWithRef
  rcases positionWithRefRoute (hex2binM m) with (k | _ | _)
  · cases k <;> rfl
  · rfl
  · rfl

/-- `adsb.velocity` relative to the two decoders it calls: the routing is `velocityRoute`.
    `source` is passed through unchanged. -/
theorem velocity_tie (m : Msg) (h : IsHex m) (hl : 10 ≤ m.length) (source : Val) :
    Gen.adsb.velocity (.str m) source =
      (velocityRoute (hex2binM m) >>= fun k =>
        match k with
        | .surface => Gen.bds06.surface_velocity (.str m) source
        | .airborne => Gen.bds09.airborne_velocity (.str m) source) := by
  unfold Gen.adsb.velocity velocityRoute
  rw [Adsb.typecode_hex m h hl, bind_val']
  generalize tcB (hex2binM m) = o
  generalize Gen.bds06.surface_velocity (.str m) source = A
  generalize Gen.bds09.airborne_velocity (.str m) source = B
  rcases o with _ | tc
  · rfl
  · simp only [ofOptNat_some, pyIs_none_num, bind_val', pyTruth_bool, Bool.false_eq_true, if_false, Res.pure_eq,
      range_guard, eq_lit]
    by_cases s : 5 ≤ tc ∧ tc ≤ 8
    · simp [s]
    by_cases a1 : tc = 19 <;> simp [s, a1]

theorem Adsb.pyIs_none (v : Val) : pyIs v .none = .val (.bool (v.beq .none)) := rfl
theorem Adsb.num_beq_none (q : Rat) : (Val.num q).beq .none = false := rfl

/-- both reference coordinates are given (`not (lat_ref is None or lon_ref is None)`) -/
def Adsb.haveRef (la lo : Val) : Bool := !(Val.beq la .none || Val.beq lo .none)

/-- `adsb.position` relative to the two decoders it calls: the routing is `positionRoute`.
    The times and the reference position are passed through unchanged. -/
theorem position_tie (m0 m1 : Msg) (h0 : IsHex m0) (h1 : IsHex m1) (hl0 : 10 ≤ m0.length) (hl1 : 10 ≤ m1.length)
    (t0 t1 la lo : Val) :
    Gen.adsb.position (.str m0) (.str m1) t0 t1 la lo =
      (positionRoute (hex2binM m0) (hex2binM m1) (haveRef la lo) >>= fun k =>
        match k with
        | .surface => Gen.bds06.surface_position (.str m0) (.str m1) t0 t1 la lo
        | .airborne => Gen.bds05.airborne_position (.str m0) (.str m1) t0 t1) := by
  unfold Gen.adsb.position positionRoute
  rw [Adsb.typecode_hex m0 h0 hl0, bind_val', Adsb.typecode_hex m1 h1 hl1, bind_val']
  generalize tcB (hex2binM m0) = o0
  generalize tcB (hex2binM m1) = o1
  generalize Gen.bds06.surface_position (.str m0) (.str m1) t0 t1 la lo = A
  generalize Gen.bds05.airborne_position (.str m0) (.str m1) t0 t1 = B
  rcases o0 with _ | tc0 <;> rcases o1 with _ | tc1
  · rfl
  · rfl
  · rfl
  · simp only [ofOptNat_some, bind_val', pyTruth_bool, Bool.false_eq_true, if_false, Res.pure_eq,
      range_guard, pyIs_none, num_beq_none, haveRef, decide_eq_true_eq, and_block, and_assoc,
      Res.ite_bind, bind_rte']
    by_cases hp : la.beq .none = true <;> by_cases hq : lo.beq .none = true <;> simp [hp, hq]

/-- `None` or a position `(lat, lon)` -/
def Adsb.encOptPos : Option (Rat × Rat) → Val
  | none => .none
  | some p => encPos p

theorem Adsb.positionRoute_noRef (b0 b1 : Bits) : positionRoute b0 b1 false ≠ .val .surface := by
  unfold positionRoute
  rcases tcB b0 with _ | tc0 <;> rcases tcB b1 with _ | tc1 <;> try (intro e; cases e)
  simp only []
  split_ifs <;> intro e <;> contradiction

/-- `adsb.position` = `position`, given the ties of the two decoders it calls.  The optional reference position of
    the model is passed as two numbers or as `None, None`. -/
theorem position_tie_of_callees (m0 m1 : Msg) (h0 : IsHex m0) (h1 : IsHex m1) (hl0 : 10 ≤ m0.length)
    (hl1 : 10 ≤ m1.length) (t0 t1 : Rat) (ref : Option (Rat × Rat))
    (hs : ∀ la lo, ref = some (la, lo) →
      Gen.bds06.surface_position (.str m0) (.str m1) (.num t0) (.num t1) (.num la) (.num lo) =
        (surfacePosition (hex2binM m0) (hex2binM m1) t0 t1 la lo >>= fun o => .val (encOptPos o)))
    (ha : Gen.bds05.airborne_position (.str m0) (.str m1) (.num t0) (.num t1) =
      (airbornePosition (hex2binM m0) (hex2binM m1) t0 t1 >>= fun o => .val (encOptPos o))) :
    Gen.adsb.position (.str m0) (.str m1) (.num t0) (.num t1)
        (match ref with | none => Val.none | some r => .num r.1) (match ref with | none => Val.none | some r => .num r.2) =
      (PyModeS.position (hex2binM m0) (hex2binM m1) t0 t1 ref >>= fun o => .val (encOptPos o)) := by
  rw [position_tie m0 m1 h0 h1 hl0 hl1, ha]
  unfold PyModeS.position
  rcases ref with _ | ⟨la, lo⟩
  · have hr : haveRef Val.none Val.none = false := rfl
    simp only [hr, Option.isSome_none]
    have := positionRoute_noRef (hex2binM m0) (hex2binM m1)
    rcases hk : positionRoute (hex2binM m0) (hex2binM m1) false with (k | _ | _)
    · cases k
      · exact absurd hk this
      · rfl
    · rfl
    · rfl
  · have hr : haveRef (Val.num la) (Val.num lo) = true := rfl
    simp only [hr, Option.isSome_some, hs la lo rfl]
    rcases positionRoute (hex2binM m0) (hex2binM m1) true with (k | _ | _)
    · cases k <;> rfl
    · rfl
    · rfl

/-! ### `speed_heading`: the first two members of what `velocity(msg)` returns (no hand-model counterpart;
    stated relative to `Gen.adsb.velocity`) -/

theorem speed_heading_tie (msg spd trk rocd tag : Val)
    (hv : Gen.adsb.velocity msg (.bool false) = .val (.tuple [spd, trk, rocd, tag])) :
    Gen.adsb.speed_heading msg = .val (.tuple [spd, trk]) := by
  unfold Gen.adsb.speed_heading
  rw [hv]
  rfl

theorem speed_heading_none (msg : Val) (hv : Gen.adsb.velocity msg (.bool false) = .val .none) :
    Gen.adsb.speed_heading msg = .val .none := by
  unfold Gen.adsb.speed_heading
  rw [hv]
  rfl

theorem speed_heading_rte (msg : Val) (hv : Gen.adsb.velocity msg (.bool false) = .rte) :
    Gen.adsb.speed_heading msg = .rte := by
  unfold Gen.adsb.speed_heading
  rw [hv]
  rfl

theorem speed_heading_exc (msg : Val) (hv : Gen.adsb.velocity msg (.bool false) = .exc) :
    Gen.adsb.speed_heading msg = .exc := by
  unfold Gen.adsb.speed_heading
  rw [hv]
  rfl

/-! ### the re-exported `df`, `icao`, `typecode` -/

theorem adsb_df_tie (m : Msg) (h : IsHex m) (hl : 2 ≤ m.length) :
    Gen.adsb.df (.str m) = .val (Val.ofNat (PyModeS.df m)) := by
  unfold Gen.adsb.df
  rw [df_str m h hl]

theorem adsb_icao_tie (m : Msg) (h : IsHex m) (hl : 6 ≤ m.length) :
    Gen.adsb.icao (.str m) = .val (Val.ofOptStr (PyModeS.icao m)) := by
  unfold Gen.adsb.icao
  rw [icao_tie m h hl]

theorem adsb_typecode_tie (m : Msg) (h : IsHex m) (hl : 10 ≤ m.length) :
    Gen.adsb.typecode (.str m) = .val (Val.ofOptNat (PyModeS.typecode m)) := by
  unfold Gen.adsb.typecode
  rw [typecode_str m h hl]

end PyModeS.Tie
