/-
  Tie: generated `bds.infer` (`decoder/bds/__init__.py`) = hand model `PyModeS.infer` (`Model/Commb.lean`) on every
  28-digit hex frame, for the float-conversion instance `extIas` of `Tie/Is60.lean`.

  The string-list part `",".join(sorted(allbds[mask]))` is proved for an arbitrary label list that is strictly
  increasing (so that `sorted` is the identity on every masked sub-list) and instantiated for the two fixed lists.
-/
import PyModeS.Tie.Common
import PyModeS.Tie.Bds10
import PyModeS.Tie.Bds17
import PyModeS.Tie.Bds20
import PyModeS.Tie.Bds40
import PyModeS.Tie.Bds44
import PyModeS.Tie.Bds45
import PyModeS.Tie.Bds50
import PyModeS.Tie.Is60
import PyModeS.Generated.Src.bds

namespace PyModeS.Tie
open PyModeS PyModeS.Py PyModeS.CRC

/-- `None` or a string of the hand model (the result of `infer`) -/
def Val.ofOptLabel : Option String → Val
  | none => .none
  | some s => .str s.toList

/-! ### `allbds[mask]`, `sorted`, `",".join` on lists of strings -/

/-- the items of `l` whose mask entry is set (`numpy` boolean-mask selection) -/
def sel {α} : List α → List Bool → List α
  | x :: xs, b :: bs => if b then x :: sel xs bs else sel xs bs
  | _, _ => []

theorem sel_cons {α} (x : α) (xs : List α) (b : Bool) (bs : List Bool) :
    sel (x :: xs) (b :: bs) = (if b then [x] else []) ++ sel xs bs := by
  cases b <;> rfl

theorem sel_nil {α} : sel ([] : List α) [] = [] := rfl

theorem sel_sublist {α} (l : List α) (bs : List Bool) : (sel l bs).Sublist l := by
  induction l generalizing bs with
  | nil => cases bs <;> exact List.Sublist.refl _
  | cons x xs ih =>
    cases bs with
    | nil => exact List.nil_sublist _
    | cons b bs =>
      cases b
      · exact (ih bs).cons _
      · exact (ih bs).cons_cons _

theorem sel_map {α β} (f : α → β) (l : List α) (bs : List Bool) : (sel l bs).map f = sel (l.map f) bs := by
  induction l generalizing bs with
  | nil => cases bs <;> rfl
  | cons x xs ih =>
    cases bs with
    | nil => rfl
    | cons b bs =>
      cases b
      · exact ih bs
      · exact congrArg (f x :: ·) (ih bs)

private theorem filterMap_mask {α} (f : α → Val) (ls : List α) (bs : List Bool) :
    List.filterMap (fun p : Val × Val => if p.2.truth = true then some p.1 else none)
      ((ls.map f).zip (bs.map Val.bool)) = (sel ls bs).map f := by
  induction ls generalizing bs with
  | nil => cases bs <;> rfl
  | cons x xs ih =>
    cases bs with
    | nil => rfl
    | cons b bs =>
      have t0 : (Val.bool false).truth = false := rfl
      have t1 : (Val.bool true).truth = true := rfl
      cases b
      · simp only [List.map_cons, List.zip_cons_cons, List.filterMap_cons, t0, Bool.false_eq_true, if_false,
          sel, ih]
      · simp only [List.map_cons, List.zip_cons_cons, List.filterMap_cons, t1, if_true, sel, ih]

/-- `allbds[mask]` for a list of strings and a list of booleans of the same length -/
theorem pyIdx_mask (ls : List String) (bs : List Bool) (h : bs.length = ls.length) :
    Py.pyIdx (Val.ofStrs ls) (.tuple (bs.map Val.bool)) = .val (Val.ofStrs (sel ls bs)) := by
  simp only [Py.pyIdx, Val.ofStrs, List.length_map, h, filterMap_mask]
  rw [if_pos ⟨trivial, by simp [List.all_map]⟩]

private theorem mapM_str (f : Val → Option (List Char)) (hf : ∀ s, f (.str s) = some s) (ss : List (List Char)) :
    (ss.map Val.str).mapM f = some ss := by
  induction ss with
  | nil => rfl
  | cons s ss ih => simp [List.mapM_cons, ih, hf]

/-- `sorted(l)` for a list of strings -/
theorem pySorted_strs (ss : List (List Char)) :
    pySorted (.tuple (ss.map Val.str)) = .val (.tuple ((ss.foldr insertSorted []).map Val.str)) := by
  simp only [pySorted]
  rw [mapM_str _ (fun _ => rfl)]

/-- `sep.join(l)` for a list of strings -/
theorem pyJoin_strs (sep : List Char) (ss : List (List Char)) :
    pyJoin (.str sep) (.tuple (ss.map Val.str)) = .val (.str (sep.intercalate ss)) := by
  simp only [pyJoin]
  rw [mapM_str _ (fun _ => rfl)]

private theorem pyLen_str (s : List Char) : pyLen (.str s) = .val (Val.ofNat s.length) := rfl

private theorem ofStrs_eq (l : List String) : Val.ofStrs l = .tuple ((l.map String.toList).map Val.str) := by
  simp [Val.ofStrs, List.map_map]

/-- the order of `sorted` on two strings: `x` strictly before `y` -/
def strictlyBefore (x y : List Char) : Prop := ¬ (strLt y x ∨ y = x)

instance (x y : List Char) : Decidable (strictlyBefore x y) := by unfold strictlyBefore; infer_instance

/-- insertion sort leaves a strictly increasing list alone -/
theorem sorted_of_pairwise (ss : List (List Char)) (h : ss.Pairwise strictlyBefore) :
    ss.foldr insertSorted [] = ss := by
  induction ss with
  | nil => rfl
  | cons x xs ih =>
    rw [List.foldr_cons, ih (List.Pairwise.of_cons h)]
    cases xs with
    | nil => rfl
    | cons y ys =>
      have hxy : strictlyBefore x y := List.rel_of_pairwise_cons h (by simp)
      unfold strictlyBefore at hxy
      simp only [insertSorted, hxy, if_false]

theorem intercalate_length_zero (sep : List Char) (ss : List (List Char)) (hne : ∀ s ∈ ss, s ≠ []) :
    (sep.intercalate ss).length = 0 ↔ ss = [] := by
  cases ss with
  | nil => simp [List.intercalate]
  | cons s rest =>
    have hs : s ≠ [] := hne s (by simp)
    constructor
    · intro hlen
      exfalso
      have : sep.intercalate (s :: rest) = [] := List.length_eq_zero_iff.mp hlen
      cases rest with
      | nil => simp [List.intercalate, hs] at this
      | cons r rest => simp [List.intercalate, List.intersperse, hs] at this
    · intro e; cases e

/-- `",".join(sorted(allbds[mask]))` followed by the `len(bds) == 0` test, for any strictly increasing list of
    non-empty labels: `None`, or the selected labels joined by commas -/
theorem join_sorted_mask (ls : List String) (bs : List Bool) (h : bs.length = ls.length)
    (hs : (ls.map String.toList).Pairwise strictlyBefore) (hne : ∀ s ∈ ls.map String.toList, s ≠ []) :
    (do let bds ← pyJoin (Val.str [',']) (← pySorted (← Py.pyIdx (Val.ofStrs ls) (.tuple (bs.map Val.bool))))
        if pyTruth (← pyEq (← pyLen bds) (Val.num 0)) then return Val.none else return bds) =
      .val (Val.ofOptLabel (if (sel ls bs).isEmpty then none else some (",".intercalate (sel ls bs)))) := by
  have hsub : ((sel ls bs).map String.toList).Sublist (ls.map String.toList) := (sel_sublist ls bs).map _
  have hsorted := sorted_of_pairwise _ (hs.sublist hsub)
  have hne' : ∀ s ∈ (sel ls bs).map String.toList, s ≠ [] := fun s hs' => hne s (hsub.subset hs')
  have hlen := intercalate_length_zero [','] _ hne'
  rw [pyIdx_mask ls bs h]
  simp only [bind_val']
  rw [ofStrs_eq, pySorted_strs, hsorted]
  simp only [bind_val', pyJoin_strs, pyLen_str]
  have hz := pyEq_ofNat ([','].intercalate ((sel ls bs).map String.toList)).length 0
  simp only [Nat.cast_zero] at hz
  simp only [hz, bind_val', pyTruth_bool, Res.pure_eq]
  by_cases hemp : sel ls bs = []
  · simp [hemp, Val.ofOptLabel]
  · have h1 : ¬ (([','].intercalate ((sel ls bs).map String.toList)).length = 0) := by
      rw [hlen]; simpa using hemp
    have h2 : (sel ls bs).isEmpty = false := by
      cases hq : sel ls bs with
      | nil => exact absurd hq hemp
      | cons _ _ => rfl
    simp only [h1, decide_false, Bool.false_eq_true, if_false, h2, Val.ofOptLabel, String.toList_intercalate]
    rfl

/-- the selection of the hand model (`filter` on the rule triples) as a mask selection -/
theorem rules_sel (mrar : Bool) (rs : List (String × Bool × Bool)) :
    (rs.filter (fun r => r.2.1 && (mrar || !r.2.2))).map (·.1) =
      sel (rs.map (·.1)) (rs.map (fun r => r.2.1 && (mrar || !r.2.2))) := by
  induction rs with
  | nil => rfl
  | cons r rs ih =>
    rw [List.map_cons, List.map_cons, sel_cons, List.filter_cons]
    cases hc : (r.2.1 && (mrar || !r.2.2)) <;> simp [ih]

def labels9 : List String := ["BDS10", "BDS17", "BDS20", "BDS30", "BDS40", "BDS44", "BDS45", "BDS50", "BDS60"]
def labels7 : List String := ["BDS10", "BDS17", "BDS20", "BDS30", "BDS40", "BDS50", "BDS60"]

theorem labels9_sorted : (labels9.map String.toList).Pairwise strictlyBefore := by decide
theorem labels9_ne : ∀ s ∈ labels9.map String.toList, s ≠ [] := by decide

/-- without `mrar` the source selects from the nine labels less BDS44 and BDS45 -/
theorem labels7_sublist : (labels7.map String.toList).Sublist (labels9.map String.toList) :=
  (sel_sublist labels9 [true, true, true, true, true, false, false, true, true]).map _

theorem labels7_sorted : (labels7.map String.toList).Pairwise strictlyBefore := labels9_sorted.sublist labels7_sublist
theorem labels7_ne : ∀ s ∈ labels7.map String.toList, s ≠ [] := fun s hs => labels9_ne s (labels7_sublist.subset hs)

theorem labels9_lit :
    Val.tuple [Val.str ['B', 'D', 'S', '1', '0'], Val.str ['B', 'D', 'S', '1', '7'], Val.str ['B', 'D', 'S', '2', '0'],
      Val.str ['B', 'D', 'S', '3', '0'], Val.str ['B', 'D', 'S', '4', '0'], Val.str ['B', 'D', 'S', '4', '4'],
      Val.str ['B', 'D', 'S', '4', '5'], Val.str ['B', 'D', 'S', '5', '0'], Val.str ['B', 'D', 'S', '6', '0']] =
      Val.ofStrs labels9 := rfl

theorem labels7_lit :
    Val.tuple [Val.str ['B', 'D', 'S', '1', '0'], Val.str ['B', 'D', 'S', '1', '7'], Val.str ['B', 'D', 'S', '2', '0'],
      Val.str ['B', 'D', 'S', '3', '0'], Val.str ['B', 'D', 'S', '4', '0'], Val.str ['B', 'D', 'S', '5', '0'],
      Val.str ['B', 'D', 'S', '6', '0']] = Val.ofStrs labels7 := rfl

private theorem pyList_ofStrs (l : List String) : pyList (Val.ofStrs l) = .val (Val.ofStrs l) := rfl

/-- the Comm-B part of `infer`: the nine rules are evaluated (in the order of the source), then the labels of the
    satisfied ones are selected, sorted and joined -/
theorem infer_rules_tie (mrar : Bool) (r10 r17 r20 r30 r40 r50 r60 r44 r45 : Res Bool) :
    (do
      let IS10 ← (r10 >>= fun b => Res.val (Val.bool b))
      let IS17 ← (r17 >>= fun b => Res.val (Val.bool b))
      let IS20 ← (r20 >>= fun b => Res.val (Val.bool b))
      let IS30 ← (r30 >>= fun b => Res.val (Val.bool b))
      let IS40 ← (r40 >>= fun b => Res.val (Val.bool b))
      let IS50 ← (r50 >>= fun b => Res.val (Val.bool b))
      let IS60 ← (r60 >>= fun b => Res.val (Val.bool b))
      let IS44 ← (r44 >>= fun b => Res.val (Val.bool b))
      let IS45 ← (r45 >>= fun b => Res.val (Val.bool b))
      if pyTruth (Val.bool mrar) = true then do
        let allbds ← pyList (Val.tuple [Val.str ['B', 'D', 'S', '1', '0'], Val.str ['B', 'D', 'S', '1', '7'],
          Val.str ['B', 'D', 'S', '2', '0'], Val.str ['B', 'D', 'S', '3', '0'], Val.str ['B', 'D', 'S', '4', '0'],
          Val.str ['B', 'D', 'S', '4', '4'], Val.str ['B', 'D', 'S', '4', '5'], Val.str ['B', 'D', 'S', '5', '0'],
          Val.str ['B', 'D', 'S', '6', '0']])
        let sel ← Py.pyIdx allbds (Val.tuple [IS10, IS17, IS20, IS30, IS40, IS44, IS45, IS50, IS60])
        let srt ← pySorted sel
        let bds ← pyJoin (Val.str [',']) srt
        let n ← pyLen bds
        let c ← pyEq n (Val.num 0)
        if pyTruth c = true then Res.val Val.none else Res.val bds
      else do
        let allbds ← pyList (Val.tuple [Val.str ['B', 'D', 'S', '1', '0'], Val.str ['B', 'D', 'S', '1', '7'],
          Val.str ['B', 'D', 'S', '2', '0'], Val.str ['B', 'D', 'S', '3', '0'], Val.str ['B', 'D', 'S', '4', '0'],
          Val.str ['B', 'D', 'S', '5', '0'], Val.str ['B', 'D', 'S', '6', '0']])
        let sel ← Py.pyIdx allbds (Val.tuple [IS10, IS17, IS20, IS30, IS40, IS50, IS60])
        let srt ← pySorted sel
        let bds ← pyJoin (Val.str [',']) srt
        let n ← pyLen bds
        let c ← pyEq n (Val.num 0)
        if pyTruth c = true then Res.val Val.none else Res.val bds) =
    ((do
      let rules ← (do
        let i10 ← r10
        let i17 ← r17
        let i20 ← r20
        let i30 ← r30
        let i40 ← r40
        let i50 ← r50
        let i60 ← r60
        let i44 ← r44
        let i45 ← r45
        Res.val [("BDS10", i10, false), ("BDS17", i17, false), ("BDS20", i20, false), ("BDS30", i30, false),
          ("BDS40", i40, false), ("BDS44", i44, true), ("BDS45", i45, true), ("BDS50", i50, false),
          ("BDS60", i60, false)])
      if (List.map (fun x => x.1) (List.filter (fun r => r.2.1 && (mrar || !r.2.2)) rules)).isEmpty = true then
        Res.val none
      else
        Res.val (some (",".intercalate
          (List.map (fun x => x.1) (List.filter (fun r => r.2.1 && (mrar || !r.2.2)) rules))))) >>=
      fun o => Res.val (Val.ofOptLabel o)) := by
  simp only [bind_assoc, bind_val']
  refine bind_congr fun b10 => bind_congr fun b17 => bind_congr fun b20 => bind_congr fun b30 => bind_congr fun b40 =>
    bind_congr fun b50 => bind_congr fun b60 => bind_congr fun b44 => bind_congr fun b45 => ?_
  simp only [bind_val', rules_sel, labels9_lit, labels7_lit, pyTruth_bool, pyList_ofStrs]
  simp only [List.map_cons, List.map_nil]
  rw [Res.ite_val, bind_val']
  -- with the masks evaluated, the model's selection from the nine rules is the source's selection from its list
  cases mrar
  · have key := join_sorted_mask labels7 [b10, b17, b20, b30, b40, b50, b60] rfl labels7_sorted labels7_ne
    simp only [List.map_cons, List.map_nil, Res.pure_eq] at key
    simp only [Bool.false_eq_true, if_false, Bool.false_or, Bool.not_false, Bool.not_true, Bool.and_true, Bool.and_false]
    exact key
  · have key := join_sorted_mask labels9 [b10, b17, b20, b30, b40, b44, b45, b50, b60] rfl labels9_sorted labels9_ne
    simp only [List.map_cons, List.map_nil, Res.pure_eq] at key
    simp only [if_true, Bool.true_or, Bool.and_true]
    exact key

/-- `a <= tc <= b` (a chained comparison of the source) -/
private theorem chained (a b tc : Nat) :
    (pyLe (.num (a : Rat)) (.num (tc : Rat)) >>= fun c =>
      if pyTruth c = true then pyLe (.num (tc : Rat)) (.num (b : Rat)) else Res.val c) =
      .val (.bool (decide (a ≤ tc ∧ tc ≤ b))) :=
  chain_le a tc b

/-- the type-code ladder of a DF17 frame, once its tests are evaluated, is `inferAdsb`; `k` is the Comm-B part -/
private theorem adsb_ladder (tc : Nat) (k : Res Val) (k' : Res (Option String))
    (hk : k = (k' >>= fun o => .val (Val.ofOptLabel o))) :
    (if 1 ≤ tc ∧ tc ≤ 4 then Res.val (Val.str ['B', 'D', 'S', '0', '8'])
      else if 5 ≤ tc ∧ tc ≤ 8 then Res.val (Val.str ['B', 'D', 'S', '0', '6'])
      else if 9 ≤ tc ∧ tc ≤ 18 then Res.val (Val.str ['B', 'D', 'S', '0', '5'])
      else if tc = 19 then Res.val (Val.str ['B', 'D', 'S', '0', '9'])
      else if 20 ≤ tc ∧ tc ≤ 22 then Res.val (Val.str ['B', 'D', 'S', '0', '5'])
      else if tc = 28 then Res.val (Val.str ['B', 'D', 'S', '6', '1'])
      else if tc = 29 then Res.val (Val.str ['B', 'D', 'S', '6', '2'])
      else if tc = 31 then Res.val (Val.str ['B', 'D', 'S', '6', '5'])
      else k) =
    ((match inferAdsb tc with
      | some l => pure (some l)
      | none => k') >>= fun o => .val (Val.ofOptLabel o)) := by
  subst hk
  unfold inferAdsb
  -- push the `match` and the encoding into the branches: the two sides become the same ladder
  simp only [apply_ite fun o : Option String =>
    (match o with
      | some l => pure (some l)
      | none => k') >>= fun o => Res.val (Val.ofOptLabel o)]
  rfl

theorem infer_tie (m : Msg) (h : IsHex m) (hl : m.length = 28) (mrar : Bool) :
    Gen.bds.infer (.str m) (.bool mrar) =
      (PyModeS.infer extIas (hex2binM m) mrar >>= fun o => .val (Val.ofOptLabel o)) := by
  unfold Gen.bds.infer PyModeS.infer PyModeS.commbRules
  simp only [df_str m h (by omega), allzeros_str m h hl, allzerosB_hex m hl, typecode_str m h (by omega),
    is10_tie m h hl, is17_tie m h hl, is20_tie m h hl, is30_tie m h hl, is40_tie m h hl, is50_tie m h hl,
    is60_tie m h hl, is44_tie m h hl, is45_tie m h hl]
  simp only [Res.pure_eq, bind_val', pyTruth_bool]
  rw [← df_eq, ← typecode_eq]
  have htc : PyModeS.df m = 17 → ∃ tc, PyModeS.typecode m = some tc := by
    intro e
    simp [PyModeS.typecode, e]
  have hdf := pyEq_ofNat (PyModeS.df m) 17
  simp only [Nat.cast_ofNat] at hdf
  generalize PyModeS.typecode m = tco at htc ⊢
  generalize PyModeS.df m = dfv at htc hdf ⊢
  by_cases hz : PyModeS.bin2int (slice 32 88 (hex2binM m)) = 0
  · simp only [hz, decide_true, if_true, bind_val', Val.ofOptLabel]
    rfl
  simp only [hz, decide_false, Bool.false_eq_true, if_false, hdf, bind_val', pyTruth_bool, decide_eq_true_eq]
  by_cases hd : dfv = 17
  swap
  · simp only [hd, if_false]
    exact infer_rules_tie mrar _ _ _ _ _ _ _ _ _
  obtain ⟨tc, rfl⟩ := htc hd
  have c1 := chained 1 4 tc
  have c2 := chained 5 8 tc
  have c3 := chained 9 18 tc
  have c4 := chained 20 22 tc
  have e19 := pyEq_ofNat tc 19
  have e28 := pyEq_ofNat tc 28
  have e29 := pyEq_ofNat tc 29
  have e31 := pyEq_ofNat tc 31
  simp only [Nat.cast_ofNat, Nat.cast_one, Val.ofNat] at c1 c2 c3 c4 e19 e28 e29 e31
  simp only [hd, if_true, Val.ofOptNat, pyIs_none_num, bind_val', pyTruth_bool, Bool.false_eq_true, if_false,
    c1, c2, c3, c4, e19, e28, e29, e31, decide_eq_true_eq]
  exact adsb_ladder tc _ _ (infer_rules_tie mrar _ _ _ _ _ _ _ _ _)

end PyModeS.Tie
