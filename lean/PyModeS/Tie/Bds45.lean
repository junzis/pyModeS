/-
  Tie: generated `bds45.py` = hand model (`Model/Commb.lean`) on every 28-digit hex frame.
-/
import PyModeS.Tie.Commb
import PyModeS.Generated.Src.bds45

namespace PyModeS.Tie
open PyModeS PyModeS.Py PyModeS.CRC

theorem turb45_tie (m : Msg) (h : IsHex m) (hl : m.length = 28) :
    Gen.bds45.turb45 (.str m) = (PyModeS.turb45 (hex2binM m) >>= fun o => .val (Val.ofOptRat o)) := by
  unfold Gen.bds45.turb45 PyModeS.turb45
  exact field_open m h hl _ _ _ fun d _ => ufield_int_step d 0 1 3

theorem ws45_tie (m : Msg) (h : IsHex m) (hl : m.length = 28) :
    Gen.bds45.ws45 (.str m) = (PyModeS.ws45 (hex2binM m) >>= fun o => .val (Val.ofOptRat o)) := by
  unfold Gen.bds45.ws45 PyModeS.ws45
  exact field_open m h hl _ _ _ fun d _ => ufield_int_step d 3 4 6

theorem mb45_tie (m : Msg) (h : IsHex m) (hl : m.length = 28) :
    Gen.bds45.mb45 (.str m) = (PyModeS.mb45 (hex2binM m) >>= fun o => .val (Val.ofOptRat o)) := by
  unfold Gen.bds45.mb45 PyModeS.mb45
  exact field_open m h hl _ _ _ fun d _ => ufield_int_step d 6 7 9

theorem ic45_tie (m : Msg) (h : IsHex m) (hl : m.length = 28) :
    Gen.bds45.ic45 (.str m) = (PyModeS.ic45 (hex2binM m) >>= fun o => .val (Val.ofOptRat o)) := by
  unfold Gen.bds45.ic45 PyModeS.ic45
  exact field_open m h hl _ _ _ fun d _ => ufield_int_step d 9 10 12

theorem wv45_tie (m : Msg) (h : IsHex m) (hl : m.length = 28) :
    Gen.bds45.wv45 (.str m) = (PyModeS.wv45 (hex2binM m) >>= fun o => .val (Val.ofOptRat o)) := by
  unfold Gen.bds45.wv45 PyModeS.wv45
  exact field_open m h hl _ _ _ fun d _ => ufield_int_step d 12 13 15

theorem p45_tie (m : Msg) (h : IsHex m) (hl : m.length = 28) :
    Gen.bds45.p45 (.str m) = (PyModeS.p45 (hex2binM m) >>= fun o => .val (Val.ofOptRat o)) := by
  unfold Gen.bds45.p45 PyModeS.p45
  exact field_open m h hl _ _ _ fun d _ => ufield_int_step d 26 27 38

theorem rh45_tie (m : Msg) (h : IsHex m) (hl : m.length = 28) :
    Gen.bds45.rh45 (.str m) = (PyModeS.rh45 (hex2binM m) >>= fun o => .val (Val.ofOptRat o)) := by
  unfold Gen.bds45.rh45 PyModeS.rh45
  refine field_open m h hl _ _ _ fun d _ => ufield_step d 38 39 51 16 0 _ fun v => ?_
  simp only [Val.ofNat, pyMul_num, add_zero]

/-- `temp45` always returns a number (no status gate in the source) -/
theorem temp45_tie (m : Msg) (h : IsHex m) (hl : m.length = 28) :
    Gen.bds45.temp45 (.str m) = (PyModeS.temp45 (hex2binM m) >>= fun t => .val (.num t)) := by
  unfold Gen.bds45.temp45 PyModeS.temp45
  refine field_open m h hl _ _ _ fun d _ => (signed_step d 16 17 26 512 _).trans ?_
  simp only [bind_assoc, Res.pure_eq, Res.bind_val, pyMul_num, Nat.cast_ofNat, mul_one_div]

theorem is45_tie (m : Msg) (h : IsHex m) (hl : m.length = 28) :
    Gen.bds45.is45 (.str m) = (PyModeS.is45 (hex2binM m) >>= fun b => .val (.bool b)) := by
  unfold Gen.bds45.is45 PyModeS.is45
  refine pred_open m h hl _ _ fun d _ => ?_
  refine status_step d [(1, 2, 3), (4, 5, 6), (7, 8, 9), (10, 11, 12), (13, 14, 15), (16, 17, 26), (27, 28, 38),
    (39, 40, 51)] (by decide) _ _ ?_
  refine guardInt_step d 51 56 pyNe_ofNat_zero _ _ ?_
  rw [temp45_tie m h hl]
  -- `if temp: if temp > 60 or temp < -80: return False`
  rcases PyModeS.temp45 (hex2binM m) with (t | _ | _)
  · simp only [Res.bind_val, pyTruth_num, pyGt_num, pyLt_num, pyTruth_bool, Res.pure_eq, bne_iff_ne, decide_eq_true_eq,
      gt_iff_lt]
    by_cases h0 : t = 0
    · simp [h0]
    by_cases h1 : 60 < t
    · simp [h0, h1]
    by_cases h2 : t < -80 <;> simp [h0, h1, h2]
  · rfl
  · rfl

end PyModeS.Tie
