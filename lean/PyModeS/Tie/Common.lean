/-
  Tie: the remaining functions of generated `py_common.py` = hand model (`Model/Common.lean`):
  gray2int, gray2alt, hex2int, altitude, altcode, squawk, idcode, icao (given the tie of `crc`); with them, further
  primitives on naturals and strings (bit operations, membership in a tuple of literals, `%`, `//`, `str`, slices
  ending at `-6`).
-/
import PyModeS.Tie.Basic
import PyModeS.Proofs.Hex
import PyModeS.Proofs.CRC.Icao

namespace PyModeS.Tie
open PyModeS PyModeS.Py PyModeS.CRC

/-! ### helper lemmas on the primitives -/

theorem num_lit_ofNat (n : Nat) [n.AtLeastTwo] : Val.num (OfNat.ofNat n) = Val.ofNat n := rfl

theorem num_one_ofNat : Val.num 1 = Val.ofNat 1 := num_lit 1
theorem num_zero_ofNat : Val.num 0 = Val.ofNat 0 := num_lit 0

theorem bitop_ofNat (f : Nat → Nat → Nat) (a b : Nat) :
    bitop f (Val.ofNat a) (Val.ofNat b) = .val (Val.ofNat (f a b)) := by
  simp only [bitop, int?_ofNat]

theorem pyBitXor_ofNat (a b : Nat) : pyBitXor (Val.ofNat a) (Val.ofNat b) = .val (Val.ofNat (a ^^^ b)) :=
  bitop_ofNat _ a b
theorem pyShr_ofNat (a b : Nat) : pyShr (Val.ofNat a) (Val.ofNat b) = .val (Val.ofNat (a >>> b)) :=
  bitop_ofNat _ a b
theorem pyBitAnd_ofNat (a b : Nat) : pyBitAnd (Val.ofNat a) (Val.ofNat b) = .val (Val.ofNat (a &&& b)) :=
  bitop_ofNat _ a b
theorem pyBitOr_ofNat (a b : Nat) : pyBitOr (Val.ofNat a) (Val.ofNat b) = .val (Val.ofNat (a ||| b)) :=
  bitop_ofNat _ a b
theorem pyShl_ofNat (a b : Nat) : pyShl (Val.ofNat a) (Val.ofNat b) = .val (Val.ofNat (a <<< b)) :=
  bitop_ofNat _ a b

/-! ### gray2int -/

/-- `common.gray2int(binstr)` on a non-empty bit string -/
theorem gray2int_tie (b : Bits) (hb : 0 < b.length) :
    Gen.py_common.gray2int (Val.ofBits b) = .val (Val.ofNat (PyModeS.gray2int b)) := by
  unfold Gen.py_common.gray2int PyModeS.gray2int
  have e8 : Val.num 8 = Val.ofNat 8 := by simp [Val.ofNat]
  have e4 : Val.num 4 = Val.ofNat 4 := by simp [Val.ofNat]
  have e2 : Val.num 2 = Val.ofNat 2 := by simp [Val.ofNat]
  simp only [bin2int_ofBits, bin2intR_of_length hb, Res.bind_val, e8, e4, e2, num_one_ofNat, pyShr_ofNat,
    pyBitXor_ofNat]

/-- on the empty string `int('', 2)` raises `ValueError` (the hand model is total and gives 0) -/
theorem gray2int_nil : Gen.py_common.gray2int (Val.ofBits []) = .exc := by
  unfold Gen.py_common.gray2int
  simp [bin2int_ofBits, bin2intR]

/-! ### hex2int -/

theorem hex2int_tie (m : Msg) (h : IsHex m) (hne : m ≠ []) :
    Gen.py_common.hex2int (.str m) = .val (Val.ofNat (hexToNatM m)) := by
  unfold Gen.py_common.hex2int
  simp only [pyInt2_hex m h hne]

/-! ### gray2alt -/

theorem ofNat_beq (n k : Nat) : (Val.ofNat n).beq (Val.num (k : Rat)) = decide (n = k) := by
  simp only [Val.ofNat, Val.beq]
  by_cases h : n = k
  · simp [h]
  · have : ¬ ((n : Rat) = (k : Rat)) := by exact_mod_cast h
    simp [h, this]

theorem pyEq_ofNat (n k : Nat) : pyEq (Val.ofNat n) (Val.num (k : Rat)) = .val (.bool (decide (n = k))) :=
  pyEq_ofNat2 n k

theorem pyMod_ofNat_two (n : Nat) : pyMod (Val.ofNat n) (Val.num 2) = .val (Val.ofNat (n % 2)) := by
  have hf : Rat.floor ((n : Rat) / 2) = ((n / 2 : Nat) : Int) := by
    have : Rat.floor ((n : Rat) / 2) = ⌊((n : Rat) / ((2 : Nat) : Rat))⌋ := by norm_num; rfl
    rw [this, Rat.floor_natCast_div_natCast]; rfl
  simp only [pyMod, num?_num, Val.ofNat, hf]
  rw [if_neg (by norm_num)]
  have := Nat.div_add_mod n 2
  have h2 : ((2 * (n / 2) + n % 2 : Nat) : Rat) = (n : Rat) := by rw [this]
  rw [Nat.cast_add, Nat.cast_mul] at h2
  congr 2
  rw [Int.cast_natCast]
  linarith

theorem pyFloorDiv_ofNat (n d : Nat) (hd : d ≠ 0) :
    pyFloorDiv (Val.ofNat n) (Val.ofNat d) = .val (Val.ofNat (n / d)) := by
  have hd' : ¬ ((d : Rat) = 0) := by exact_mod_cast hd
  have hf : Rat.floor ((n : Rat) / (d : Rat)) = ((n / d : Nat) : Int) := by
    have : Rat.floor ((n : Rat) / (d : Rat)) = ⌊((n : Rat) / (d : Rat))⌋ := rfl
    rw [this, Rat.floor_natCast_div_natCast]; rfl
  simp only [pyFloorDiv, hd', if_false, hf, Val.ofNat, Int.cast_natCast, num?_num]

theorem pyTruth_ofNat (n : Nat) : pyTruth (Val.ofNat n) = decide (n ≠ 0) := by
  by_cases h : n = 0
  · simp [h, pyTruth, Val.truth, Val.ofNat]
  · have : ¬ ((n : Rat) = 0) := by exact_mod_cast h
    simp [pyTruth, Val.truth, Val.ofNat, h, this]

/-- `common.gray2alt(binstr)`; Python raises `ValueError` unless both Gray fields are non-empty -/
theorem gray2alt_tie (b : Bits) (hb : 8 < b.length) :
    Gen.py_common.gray2alt (Val.ofBits b) = .val (Val.ofOptInt (PyModeS.gray2alt b)) := by
  unfold Gen.py_common.gray2alt PyModeS.gray2alt
  have h1 : 0 < (b.take 8).length := by simp; omega
  have h2 : 0 < (b.drop 8).length := by simp; omega
  have hs : slice 0 8 b = b.take 8 := by simp [slice]
  simp only [pySliceTo_ofBits, pySliceFrom_ofBits, Res.bind_val, gray2int_tie _ h1, gray2int_tie _ h2, hs]
  generalize PyModeS.gray2int (b.take 8) = n500
  generalize PyModeS.gray2int (b.drop 8) = n100
  have e0 := ofNat_beq n100 0
  have e5 := ofNat_beq n100 5
  have e6 := ofNat_beq n100 6
  have e7 := pyEq_ofNat n100 7
  simp only [Nat.cast_ofNat, Nat.cast_zero] at e0 e5 e6 e7
  simp only [pyIn, List.any_cons, List.any_nil, e0, e5, e6, e7, Res.bind_val, pyTruth_bool, Bool.or_false,
    pyMod_ofNat_two, pyTruth_ofNat]
  by_cases c0 : n100 = 0
  · simp [c0, Val.ofOptInt]
  by_cases c5 : n100 = 5
  · simp [c5, Val.ofOptInt]
  by_cases c6 : n100 = 6
  · simp [c6, Val.ofOptInt]
  have hm : n500 % 2 = 0 ∨ n500 % 2 = 1 := by omega
  by_cases c7 : n100 = 7 <;> rcases hm with hm | hm <;>
    simp [c0, c5, c6, c7, hm, Val.ofOptInt, Val.ofNat] <;> (try ring)

/-! ### altitude -/

theorem pyCharsSubset_ofBits (b : Bits) : pyCharsSubset (Val.ofBits b) (.str ['0', '1']) = .val (.bool true) := by
  simp only [pyCharsSubset, Val.ofBits]
  congr 2
  rw [List.all_eq_true]
  intro c hc
  rw [List.mem_map] at hc
  obtain ⟨x, _, rfl⟩ := hc
  cases x <;> decide

/-- `binstr[k]` as a one-bit string -/
theorem pyIdxN_ofBits1 (d : Bits) (k : Nat) :
    pyIdxN (Val.ofBits d) k = (idxR d k >>= fun b => .val (Val.ofBits [b])) := pyIdxN_ofBits d k

theorem pyAdd_ofBits (x y : Bits) : pyAdd (Val.ofBits x) (Val.ofBits y) = .val (Val.ofBits (x ++ y)) := by
  simp [pyAdd, Val.ofBits]

theorem pyEq_bit_zero (x : Bool) : pyEq (Val.ofBits [x]) (.str ['0']) = .val (.bool (!x)) := pyEq_digit_zero x
theorem pyEq_bit_one (x : Bool) : pyEq (Val.ofBits [x]) (.str ['1']) = .val (.bool x) := pyEq_digit_one x

theorem pyLen_ne_13 (b : Bits) : pyNe (Val.ofNat b.length) (Val.num 13) = .val (.bool (decide (b.length ≠ 13))) := by
  have := ofNat_beq b.length 13
  simp only [Nat.cast_ofNat] at this
  simp [pyNe, this]

/-- the argument check shared by `altitude` and `squawk` -/
theorem guard13 (b : Bits) :
    (do let b__1 ← (do pyNe (← pyLen (Val.ofBits b)) (Val.num 13)); if pyTruth b__1 then pure b__1 else (do pyNot (← pyCharsSubset (Val.ofBits b) (Val.str ['0', '1'])))) =
      .val (.bool (decide (b.length ≠ 13))) := by
  simp only [ofBits_length, Res.bind_val, pyLen_ne_13, pyTruth_bool, pyCharsSubset_ofBits, pyNot_bool, Res.pure_eq]
  by_cases hb : b.length = 13 <;> simp [hb]

/-- `int(N * 3.28084)` -/
theorem pyInt1_m2ft (n : Nat) :
    pyInt1 (.num ((n : Rat) * ((82021 : Rat) / 25000))) = .val (.num ((m2ft n : Int) : Rat)) := by
  have hq : (n : Rat) * ((82021 : Rat) / 25000) = ((n * 328084 : Nat) : Rat) / ((100000 : Nat) : Rat) := by
    push_cast; ring
  have h0 : ¬ ((n : Rat) * ((82021 : Rat) / 25000) < 0) := by
    have : (0 : Rat) ≤ (n : Rat) := by exact_mod_cast Nat.zero_le n
    have : (0 : Rat) ≤ (n : Rat) * ((82021 : Rat) / 25000) := mul_nonneg this (by norm_num)
    exact not_lt.mpr this
  have hf : Rat.floor ((n : Rat) * ((82021 : Rat) / 25000)) = ((n * 328084 / 100000 : Nat) : Int) := by
    rw [hq]
    have : ∀ q : Rat, Rat.floor q = ⌊q⌋ := fun _ => rfl
    rw [this, Rat.floor_natCast_div_natCast, ← Int.natCast_div]
  simp only [pyInt1, h0, if_false, hf, m2ft]

/-- `common.altitude(binstr)` on any bit string (`RuntimeError` unless it has 13 bits) -/
theorem altitude_tie (b : Bits) :
    Gen.py_common.altitude (Val.ofBits b) = (altitude13 b >>= fun o => .val (Val.ofOptInt o)) := by
  unfold Gen.py_common.altitude
  rw [guard13]
  by_cases hb : b.length = 13
  swap
  · have hd : decide (b.length ≠ 13) = true := by simp [hb]
    rw [altitude13_of_length_ne hb, hd]
    simp only [pyTruth_bool, if_true, bind_val', bind_rte']
  have hd : decide (b.length ≠ 13) = false := by simp [hb]
  rw [hd]
  simp only [pyTruth_bool, Bool.false_eq_true, if_false, Res.pure_eq, bind_val']
  obtain ⟨C1, A1, C2, A2, C4, A4, M, B1, Q, B2, D2, B4, D4, rfl⟩ := bits13 hb
  have hidx : ∀ k (hk : k < 13), idxR [C1, A1, C2, A2, C4, A4, M, B1, Q, B2, D2, B4, D4] k =
      .val ([C1, A1, C2, A2, C4, A4, M, B1, Q, B2, D2, B4, D4][k]'(by simpa using hk)) :=
    fun k hk => idxR_of_lt _ k (by simpa using hk)
  simp only [pyIdxN_ofBits1, hidx, Nat.reduceLT, List.getElem_cons_succ, List.getElem_cons_zero, bind_val',
    pyEq_bit_zero, pyEq_bit_one, pyTruth_bool, pySliceTo_ofBits, pySliceFrom_ofBits, pyAdd_ofBits, bin2int_ofBits,
    List.take_succ_cons, List.take_zero, List.drop_succ_cons, List.drop_zero, List.cons_append, List.nil_append]
  have hcons : ∀ (x : Bool) (l : Bits), bin2intR (x :: l) = .val (PyModeS.bin2int (x :: l)) := fun _ _ => rfl
  have hmul : ∀ (n : Nat) (q : Rat), pyMul (Val.ofNat n) (.num q) = .val (.num ((n : Rat) * q)) := fun _ _ => rfl
  have hz := pyEq_ofNat (PyModeS.bin2int [C1, A1, C2, A2, C4, A4, M, B1, Q, B2, D2, B4, D4]) 0
  simp only [Nat.cast_zero] at hz
  have hg := gray2alt_tie [D2, D4, A1, A2, A4, B1, B2, B4, C1, C2, C4] (by simp)
  simp only [hcons, bind_val', hz, hmul, pyInt1_m2ft, pySub_num, pyTruth_bool, hg]
  unfold altitude13
  simp only []
  by_cases h0 : PyModeS.bin2int [C1, A1, C2, A2, C4, A4, M, B1, Q, B2, D2, B4, D4] = 0
  · have hM : M = false := by
      cases M
      · rfl
      · exfalso
        simp only [PyModeS.bin2int, List.foldl_cons, List.foldl_nil, Bool.toNat_true] at h0
        omega
    subst hM
    simp [h0, Val.ofOptInt]
  · cases M <;> cases Q <;> simp [h0, Val.ofOptInt]

/-! ### altcode -/

/-- `d in (k1, k2, …)` for a natural number against a tuple of literals -/
theorem pyIn_ofNat (d : Nat) (ks : List Nat) :
    pyIn (Val.ofNat d) (.tuple (ks.map fun (k : Nat) => Val.num (k : Rat))) = .val (.bool (decide (d ∈ ks))) := by
  simp only [pyIn]
  congr 2
  induction ks with
  | nil => simp
  | cons k ks ih =>
    rw [List.map_cons, List.any_cons, ih, ofNat_beq]
    simp only [List.mem_cons, Bool.decide_or]

theorem pyIn_ofNat2 (d a b : Nat) :
    pyIn (Val.ofNat d) (.tuple [.num (a : Rat), .num (b : Rat)]) = .val (.bool (decide (d = a ∨ d = b))) := by
  simp only [pyIn, List.any_cons, List.any_nil, ofNat_beq, Bool.or_false, Bool.decide_or]

theorem pyIn_ofNat3 (d a b c : Nat) :
    pyIn (Val.ofNat d) (.tuple [.num (a : Rat), .num (b : Rat), .num (c : Rat)]) =
      .val (.bool (decide (d = a ∨ d = b ∨ d = c))) := by
  simp only [pyIn, List.any_cons, List.any_nil, ofNat_beq, Bool.or_false, Bool.decide_or]

theorem pyNotIn_ofNat (d : Nat) (ks : List Nat) :
    pyNotIn (Val.ofNat d) (.tuple (ks.map fun (k : Nat) => Val.num (k : Rat))) = .val (.bool (!decide (d ∈ ks))) := by
  simp only [pyNotIn, pyIn_ofNat, Res.bind_val, pyNot_bool]

/-- `if d not in (k1, k2, …): a` in front of the rest `k` of a function -/
theorem notin_ite {β} (d : Nat) (ks : List Nat) (a k : Res β) :
    (do let g ← pyNotIn (Val.ofNat d) (.tuple (ks.map fun (k : Nat) => Val.num (k : Rat)))
        if pyTruth g = true then a else k) = if d ∈ ks then k else a := by
  rw [pyNotIn_ofNat, bind_val', pyTruth_bool]
  by_cases hd : d ∈ ks <;> simp only [hd, decide_true, decide_false, Bool.not_true, Bool.not_false, if_true, if_false,
    Bool.false_eq_true]

/-- `common.altcode(msg)` on any hex string of at least two digits -/
theorem altcode_tie (m : Msg) (h : IsHex m) (hl : 2 ≤ m.length) :
    Gen.py_common.altcode (.str m) = (PyModeS.altcode m >>= fun o => .val (Val.ofOptInt o)) := by
  unfold Gen.py_common.altcode PyModeS.altcode
  have hne : m ≠ [] := by intro e; simp [e] at hl
  have hin := pyNotIn_ofNat (PyModeS.df m) [0, 4, 16, 20]
  simp only [List.map_cons, List.map_nil, Nat.cast_ofNat, Nat.cast_zero] at hin
  simp only [df_str m h hl, Res.bind_val, hin, pyTruth_bool, hex2bin_str m h hne, pySliceNN_ofBits, altitude_tie]
  by_cases hd : PyModeS.df m ∈ [0, 4, 16, 20]
  · have hd' := hd
    simp only [List.mem_cons, List.not_mem_nil, or_false] at hd'
    have : ¬ (PyModeS.df m ≠ 0 ∧ PyModeS.df m ≠ 4 ∧ PyModeS.df m ≠ 16 ∧ PyModeS.df m ≠ 20) := by omega
    simp only [hd, decide_true, Bool.not_true, Bool.false_eq_true, if_false, this]
  · have hd' := hd
    simp only [List.mem_cons, List.not_mem_nil, or_false] at hd'
    have : (PyModeS.df m ≠ 0 ∧ PyModeS.df m ≠ 4 ∧ PyModeS.df m ≠ 16 ∧ PyModeS.df m ≠ 20) := by omega
    simp only [hd, decide_false, Bool.not_false, if_true]
    rw [if_pos this]
    rfl

/-! ### squawk, idcode -/

/-- Encoding of the hand model's digit list as the Python result: the concatenation of `str(d)` for the
    digits (`str(byte1) + str(byte2) + str(byte3) + str(byte4)`); every digit of a squawk is below 8, so this
    is a 4-character string. -/
def Val.ofDigits (l : List Nat) : Val := .str (l.flatMap fun d => (toString d).toList)

theorem pyStr_ofNat (n : Nat) : pyStr (Val.ofNat n) = .val (.str (toString n).toList) := by
  simp only [pyStr, Val.ofNat]
  have : (Val.num (n : Rat)).int? = some (n : Int) := int?_ofNat n
  rw [this]
  rfl

theorem pyAdd_str (x y : List Char) : pyAdd (.str x) (.str y) = .val (.str (x ++ y)) := by
  simp only [pyAdd]

/-- `common.squawk(binstr)` on any bit string (`RuntimeError` unless it has 13 bits) -/
theorem squawk_tie (b : Bits) :
    Gen.py_common.squawk (Val.ofBits b) = (PyModeS.squawk b >>= fun l => .val (Val.ofDigits l)) := by
  unfold Gen.py_common.squawk
  rw [guard13]
  by_cases hb : b.length = 13
  swap
  · have hd : decide (b.length ≠ 13) = true := by simp [hb]
    rw [squawk_of_length_ne hb, hd]
    simp only [pyTruth_bool, if_true, bind_val', bind_rte']
  have hd : decide (b.length ≠ 13) = false := by simp [hb]
  rw [hd]
  simp only [pyTruth_bool, Bool.false_eq_true, if_false, bind_val']
  obtain ⟨C1, A1, C2, A2, C4, A4, M, B1, Q, B2, D2, B4, D4, rfl⟩ := bits13 hb
  have hidx : ∀ k (hk : k < 13), idxR [C1, A1, C2, A2, C4, A4, M, B1, Q, B2, D2, B4, D4] k =
      .val ([C1, A1, C2, A2, C4, A4, M, B1, Q, B2, D2, B4, D4][k]'(by simpa using hk)) :=
    fun k hk => idxR_of_lt _ k (by simpa using hk)
  simp only [pyIdxN_ofBits1, hidx, Nat.reduceLT, List.getElem_cons_succ, List.getElem_cons_zero, bind_val']
  have hcons : ∀ (x : Bool) (l : Bits), bin2intR (x :: l) = .val (PyModeS.bin2int (x :: l)) := fun _ _ => rfl
  simp only [bind_val', pyAdd_ofBits, pyInt2_ofBits, List.cons_append, List.nil_append, hcons, pyStr_ofNat]
  have hsq : PyModeS.squawk [C1, A1, C2, A2, C4, A4, M, B1, Q, B2, D2, B4, D4] =
      .val [PyModeS.bin2int [A4, A2, A1], PyModeS.bin2int [B4, B2, B1], PyModeS.bin2int [C4, C2, C1],
        PyModeS.bin2int [D4, D2, Q]] := rfl
  rw [hsq]
  simp only [bind_val', Val.ofDigits, List.flatMap_cons, List.flatMap_nil, List.append_nil]
  generalize (toString (PyModeS.bin2int [A4, A2, A1])).toList = s1
  generalize (toString (PyModeS.bin2int [B4, B2, B1])).toList = s2
  generalize (toString (PyModeS.bin2int [C4, C2, C1])).toList = s3
  generalize (toString (PyModeS.bin2int [D4, D2, Q])).toList = s4
  simp only [pyAdd_str, bind_val', List.append_assoc]

theorem toString_digit (d : Nat) (h : d < 8) : (toString d).toList = [Nat.digitChar d] := by
  interval_cases d <;> rfl

/-- the string that encodes a squawk has exactly one character per octal digit -/
theorem ofDigits_squawk (b : Bits) (l : List Nat) (h : PyModeS.squawk b = .val l) :
    l.length = 4 ∧ (∀ d ∈ l, d < 8) ∧ Val.ofDigits l = .str (l.map Nat.digitChar) := by
  by_cases hb : b.length = 13
  swap
  · rw [squawk_of_length_ne hb] at h; cases h
  obtain ⟨C1, A1, C2, A2, C4, A4, M, B1, Q, B2, D2, B4, D4, rfl⟩ := bits13 hb
  have hsq : PyModeS.squawk [C1, A1, C2, A2, C4, A4, M, B1, Q, B2, D2, B4, D4] =
      .val [PyModeS.bin2int [A4, A2, A1], PyModeS.bin2int [B4, B2, B1], PyModeS.bin2int [C4, C2, C1],
        PyModeS.bin2int [D4, D2, Q]] := rfl
  rw [hsq] at h
  injection h with h
  subst h
  have h3 : ∀ x y z : Bool, PyModeS.bin2int [x, y, z] < 8 := fun x y z => bin2int_lt [x, y, z]
  refine ⟨rfl, ?_, ?_⟩
  · intro d hd
    simp only [List.mem_cons, List.not_mem_nil, or_false] at hd
    rcases hd with rfl | rfl | rfl | rfl <;> exact h3 _ _ _
  · simp only [Val.ofDigits, List.flatMap_cons, List.flatMap_nil, toString_digit _ (h3 _ _ _), List.map_cons,
      List.map_nil, List.cons_append, List.nil_append]

/-- `common.idcode(msg)` on any hex string of at least two digits -/
theorem idcode_tie (m : Msg) (h : IsHex m) (hl : 2 ≤ m.length) :
    Gen.py_common.idcode (.str m) = (PyModeS.idcode m >>= fun l => .val (Val.ofDigits l)) := by
  unfold Gen.py_common.idcode PyModeS.idcode
  have hne : m ≠ [] := by intro e; simp [e] at hl
  have hin := pyNotIn_ofNat (PyModeS.df m) [5, 21]
  simp only [List.map_cons, List.map_nil, Nat.cast_ofNat] at hin
  simp only [df_str m h hl, Res.bind_val, hin, pyTruth_bool, hex2bin_str m h hne, pySliceNN_ofBits, squawk_tie]
  by_cases hd : PyModeS.df m ∈ [5, 21]
  · have hd' := hd
    simp only [List.mem_cons, List.not_mem_nil, or_false] at hd'
    have : ¬ (PyModeS.df m ≠ 5 ∧ PyModeS.df m ≠ 21) := by omega
    simp only [hd, decide_true, Bool.not_true, Bool.false_eq_true, if_false, this]
  · have hd' := hd
    simp only [List.mem_cons, List.not_mem_nil, or_false] at hd'
    have : (PyModeS.df m ≠ 5 ∧ PyModeS.df m ≠ 21) := by omega
    simp only [hd, decide_false, Bool.not_false, if_true]
    rw [if_pos this]
    rfl

/-! ### icao -/

/-- `None` or a string -/
def Val.ofOptStr : Option Msg → Val
  | none => .none
  | some s => .str s

theorem pyFmtHexU6_ofNat (x : Nat) : pyFmtHexU 6 (Val.ofNat x) = .val (.str (hex6 x)) := by
  simp only [pyFmtHexU, int?_ofNat]
  rfl

/-- `msg[-6:]` -/
theorem pySlice_last6 (m : Msg) : pySlice (.str m) (some (Val.num (-6))) none = .val (.str (takeLast 6 m)) := by
  have h6 : (Val.num (-6)).int? = some (-((6 : Nat) : Int)) := by simp [Val.int?]
  simp only [pySlice, optInt, h6, bind_val', sliceList, normBound_neg _ 6 (by decide), takeLast, slice]
  congr 2
  apply List.take_of_length_le
  simp only [List.length_drop]
  omega

/-- `msg[:-6]` -/
theorem pySlice_dropLast6 (m : Msg) :
    pySlice (.str m) none (some (Val.num (-6))) = .val (.str (dropLast 6 m)) := by
  have h6 : (Val.num (-6)).int? = some (-((6 : Nat) : Int)) := by simp [Val.int?]
  simp only [pySlice, optInt, h6, bind_val', sliceList, normBound_neg _ 6 (by decide), dropLast, slice,
    List.drop_zero, Nat.sub_zero]

theorem isHex_takeLast {m : Msg} (h : IsHex m) (k : Nat) : IsHex (takeLast k m) :=
  fun c hc => h c (List.mem_of_mem_drop hc)

/-- `common.icao(msg)` on a hex string of at least six digits: `None` or the 6-character address, given the tie of
    `crc` (proved in Tie/Crc.lean, which imports this file; `icao_tie` itself is in Tie/Icao.lean) -/
theorem icao_tie_of_crc (m : Msg) (h : IsHex m) (hl : 6 ≤ m.length)
    (hcrc : Gen.py_common.crc (.str m) (.bool true) = .val (Val.ofNat (PyModeS.crc m true))) :
    Gen.py_common.icao (.str m) = .val (Val.ofOptStr (PyModeS.icao m)) := by
  unfold Gen.py_common.icao PyModeS.icao
  have hin1 := pyIn_ofNat (PyModeS.df m) [11, 17, 18]
  have hin2 := pyIn_ofNat (PyModeS.df m) [0, 4, 5, 16, 20, 21]
  simp only [List.map_cons, List.map_nil, Nat.cast_ofNat, Nat.cast_zero] at hin1 hin2
  have hne : takeLast 6 m ≠ [] := by
    intro e; have := congrArg List.length e; simp [takeLast] at this; omega
  have hsl : pySliceNN (Val.str m) 2 8 = .val (.str (slice 2 8 m)) := rfl
  have hup : ∀ s : Msg, pyUpper (.str s) = .val (.str (s.map Char.toUpper)) := fun _ => rfl
  simp only [df_str m h (by omega), bind_val', hin1, hin2, pyTruth_bool, decide_eq_true_eq, hsl, hup,
    hcrc, pySlice_last6, pyInt2_hex _ (isHex_takeLast h 6) hne, pyBitXor_ofNat, pyFmtHexU6_ofNat,
    Res.pure_eq, List.mem_cons, List.not_mem_nil, or_false]
  split_ifs <;> rfl

end PyModeS.Tie
