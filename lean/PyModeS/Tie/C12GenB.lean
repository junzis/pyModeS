/-
  C12 transported to the source-generated definitions, second part: `Gen.bds.infer` (`decoder/bds/__init__.py`) and the
  register predicates `Gen.bdsXX.isXX` — totality on every 28-digit frame, EMPTY, DF17 by type code, the Comm-B answer
  as the labels of the satisfied rules, soundness of the status / reserved-bit rules, completeness (`*_complete_tie`,
  `infer_reports_*_tie`) and the integer characterisation of the `is60` core.  Each statement composes a tie theorem
  (`Tie/Infer.lean`, `Tie/Is60.lean`, `Tie/Bds10.lean` … `Tie/Bds53.lean`) with a theorem of `Properties/C12.lean`.
  The float-conversion parameter of the hand model is instantiated by `Tie.extIas`, the function the generated code
  computes.  (`is40/44/45/50/53_iff_tie` are in `Tie/C12Gen.lean`.)
-/
import PyModeS.Properties.C12
import PyModeS.Tie.Infer
import PyModeS.Tie.Bds53
import PyModeS.Proofs.CRC.Icao

namespace PyModeS.C12GenB
open PyModeS PyModeS.Py PyModeS.CRC PyModeS.C12 PyModeS.Infer

/-- a 112-bit frame as the hex string the generated functions take -/
theorem hex_of_frame (frame : Bits) (hlen : frame.length = 112) :
    IsHex (hexOfBits frame) ∧ (hexOfBits frame).length = 28 ∧ hex2binM (hexOfBits frame) = frame :=
  ⟨hexOfBits_isHex _, by rw [hexOfBits_length, hlen], hex2binM_hexOfBits _ (by rw [hlen])⟩

/-- a 112-bit frame that the model predicate accepts is, written as a hex string, accepted by the generated predicate -/
theorem accepts_of_model {gen : Val → Res Val} {model : Bits → Res Bool}
    (tie : ∀ m : Msg, IsHex m → m.length = 28 → gen (.str m) = (model (hex2binM m) >>= fun b => .val (.bool b)))
    (frame : Bits) (hlen : frame.length = 112) (hm : model frame = .val true) :
    gen (.str (hexOfBits frame)) = .val (.bool true) := by
  obtain ⟨x1, x2, x3⟩ := hex_of_frame frame hlen
  rw [tie _ x1 x2, x3, hm]
  rfl

/-! ### totality: every rule and `infer` return a value on every 28-digit hex frame -/

theorem is10_frame_tie (m : Msg) (h : IsHex m) (hl : m.length = 28) :
    Gen.bds10.is10 (.str m) = .val (.bool (is10P (mbOf (hex2binM m)))) := by
  rw [Tie.is10_tie m h hl, is10_frame _ (Tie.frame_bits m hl)]; rfl
theorem is17_frame_tie (m : Msg) (h : IsHex m) (hl : m.length = 28) :
    Gen.bds17.is17 (.str m) = .val (.bool (is17P (mbOf (hex2binM m)))) := by
  rw [Tie.is17_tie m h hl, is17_frame _ (Tie.frame_bits m hl)]; rfl
theorem is20_frame_tie (m : Msg) (h : IsHex m) (hl : m.length = 28) :
    Gen.bds20.is20 (.str m) = .val (.bool (is20P (mbOf (hex2binM m)))) := by
  rw [Tie.is20_tie m h hl, is20_frame _ (Tie.frame_bits m hl)]; rfl
theorem is30_frame_tie (m : Msg) (h : IsHex m) (hl : m.length = 28) :
    Gen.bds30.is30 (.str m) = .val (.bool (is30P (mbOf (hex2binM m)))) := by
  rw [Tie.is30_tie m h hl, is30_frame _ (Tie.frame_bits m hl)]; rfl
theorem is40_frame_tie (m : Msg) (h : IsHex m) (hl : m.length = 28) :
    Gen.bds40.is40 (.str m) = .val (.bool (is40P (mbOf (hex2binM m)))) := by
  rw [Tie.is40_tie m h hl, is40_frame _ (Tie.frame_bits m hl)]; rfl
theorem is44_frame_tie (m : Msg) (h : IsHex m) (hl : m.length = 28) :
    Gen.bds44.is44 (.str m) = .val (.bool (is44P (mbOf (hex2binM m)))) := by
  rw [Tie.is44_tie m h hl, is44_frame _ (Tie.frame_bits m hl)]; rfl
theorem is45_frame_tie (m : Msg) (h : IsHex m) (hl : m.length = 28) :
    Gen.bds45.is45 (.str m) = .val (.bool (is45P (mbOf (hex2binM m)))) := by
  rw [Tie.is45_tie m h hl, is45_frame _ (Tie.frame_bits m hl)]; rfl
theorem is50_frame_tie (m : Msg) (h : IsHex m) (hl : m.length = 28) :
    Gen.bds50.is50 (.str m) = .val (.bool (is50P (mbOf (hex2binM m)))) := by
  rw [Tie.is50_tie m h hl, is50_frame _ (Tie.frame_bits m hl)]; rfl
theorem is53_frame_tie (m : Msg) (h : IsHex m) (hl : m.length = 28) :
    Gen.bds53.is53 (.str m) = .val (.bool (is53P (mbOf (hex2binM m)))) := by
  rw [Tie.is53_tie m h hl, is53_frame _ (Tie.frame_bits m hl)]; rfl
theorem is60_frame_tie (m : Msg) (h : IsHex m) (hl : m.length = 28) :
    Gen.bds60.is60 (.str m) = .val (.bool (is60P Tie.extIas (hex2binM m))) := by
  rw [Tie.is60_tie m h hl, is60_frame _ _ (Tie.frame_bits m hl)]; rfl

/-- every generated rule is total on 28-digit hex frames: a Boolean, never an exception -/
theorem rules_total_tie (m : Msg) (h : IsHex m) (hl : m.length = 28) :
    (∃ b, Gen.bds10.is10 (.str m) = .val (.bool b)) ∧ (∃ b, Gen.bds17.is17 (.str m) = .val (.bool b)) ∧
    (∃ b, Gen.bds20.is20 (.str m) = .val (.bool b)) ∧ (∃ b, Gen.bds30.is30 (.str m) = .val (.bool b)) ∧
    (∃ b, Gen.bds40.is40 (.str m) = .val (.bool b)) ∧ (∃ b, Gen.bds44.is44 (.str m) = .val (.bool b)) ∧
    (∃ b, Gen.bds45.is45 (.str m) = .val (.bool b)) ∧ (∃ b, Gen.bds50.is50 (.str m) = .val (.bool b)) ∧
    (∃ b, Gen.bds53.is53 (.str m) = .val (.bool b)) ∧ (∃ b, Gen.bds60.is60 (.str m) = .val (.bool b)) :=
  ⟨⟨_, is10_frame_tie m h hl⟩, ⟨_, is17_frame_tie m h hl⟩, ⟨_, is20_frame_tie m h hl⟩, ⟨_, is30_frame_tie m h hl⟩,
   ⟨_, is40_frame_tie m h hl⟩, ⟨_, is44_frame_tie m h hl⟩, ⟨_, is45_frame_tie m h hl⟩, ⟨_, is50_frame_tie m h hl⟩,
   ⟨_, is53_frame_tie m h hl⟩, ⟨_, is60_frame_tie m h hl⟩⟩

/-- the generated `infer` as an explicit total function of the frame -/
theorem infer_frame_tie (m : Msg) (h : IsHex m) (hl : m.length = 28) (mrar : Bool) :
    Gen.bds.infer (.str m) (.bool mrar) = .val (Tie.Val.ofOptLabel (inferP Tie.extIas (hex2binM m) mrar)) := by
  rw [Tie.infer_tie m h hl, infer_frame _ _ _ (Tie.frame_bits m hl)]; rfl

/-- for every 28-digit hex frame the generated `infer` terminates without an exception, with `None` or a string,
    whatever `mrar` -/
theorem infer_total_tie (m : Msg) (h : IsHex m) (hl : m.length = 28) (mrar : Bool) :
    Gen.bds.infer (.str m) (.bool mrar) = .val .none ∨
      ∃ s : String, Gen.bds.infer (.str m) (.bool mrar) = .val (.str s.toList) := by
  rw [infer_frame_tie m h hl]
  cases inferP Tie.extIas (hex2binM m) mrar with
  | none => left; rfl
  | some s => right; exact ⟨s, rfl⟩

/-- the generated all-zero test is total and says what it should -/
theorem allzeros_frame_tie (m : Msg) (h : IsHex m) (hl : m.length = 28) :
    Gen.py_common.allzeros (.str m) = .val (.bool (decide (PyModeS.bin2int (mbOf (hex2binM m)) = 0))) :=
  Tie.allzeros_str m h hl

/-! ### EMPTY and the DF17 path -/

/-- an all-zero MB field is reported as "EMPTY" whatever the header says -/
theorem infer_empty_tie (m : Msg) (h : IsHex m) (hl : m.length = 28) (mrar : Bool)
    (hz : PyModeS.bin2int (mbOf (hex2binM m)) = 0) :
    Gen.bds.infer (.str m) (.bool mrar) = .val (.str "EMPTY".toList) := by
  rw [Tie.infer_tie m h hl, (infer_other_paths _ _ _ (Tie.frame_bits m hl)).1 hz]; rfl

/-- DF17 with a type code that names a register: that register (the Comm-B rules are not consulted) -/
theorem infer_df17_tc_tie (m : Msg) (h : IsHex m) (hl : m.length = 28) (mrar : Bool) (tc : Nat) (l : String)
    (hz : PyModeS.bin2int (mbOf (hex2binM m)) ≠ 0) (hdf : dfB (hex2binM m) = 17) (htc : tcB (hex2binM m) = some tc)
    (hlab : inferAdsb tc = some l) :
    Gen.bds.infer (.str m) (.bool mrar) = .val (.str l.toList) := by
  have ha : adsbOf (hex2binM m) = some l := by unfold adsbOf; rw [if_pos hdf, htc]; exact hlab
  rw [Tie.infer_tie m h hl, (infer_other_paths _ _ _ (Tie.frame_bits m hl)).2 hz l ha]; rfl

theorem adsbOf_none_of_df (bits : Bits) (hdf : dfB bits ≠ 17) : adsbOf bits = none := by
  unfold adsbOf; rw [if_neg hdf]

/-! ### the Comm-B answer -/

/-- Comm-B path (MB not all zero, not a DF17 frame whose type code names a register): the answer of the generated `infer`
    is the comma-joined list of the labels of the generated rules that hold, in the order BDS10, BDS17, BDS20, BDS30,
    BDS40, [BDS44, BDS45 only with `mrar`], BDS50, BDS60; `None` if there is none -/
theorem infer_commb_eq_rules_tie (m : Msg) (h : IsHex m) (hl : m.length = 28) (mrar : Bool)
    (hz : PyModeS.bin2int (mbOf (hex2binM m)) ≠ 0) (ha : adsbOf (hex2binM m) = none)
    (b10 b17 b20 b30 b40 b44 b45 b50 b60 : Bool)
    (h10 : Gen.bds10.is10 (.str m) = .val (.bool b10)) (h17 : Gen.bds17.is17 (.str m) = .val (.bool b17))
    (h20 : Gen.bds20.is20 (.str m) = .val (.bool b20)) (h30 : Gen.bds30.is30 (.str m) = .val (.bool b30))
    (h40 : Gen.bds40.is40 (.str m) = .val (.bool b40)) (h44 : Gen.bds44.is44 (.str m) = .val (.bool b44))
    (h45 : Gen.bds45.is45 (.str m) = .val (.bool b45)) (h50 : Gen.bds50.is50 (.str m) = .val (.bool b50))
    (h60 : Gen.bds60.is60 (.str m) = .val (.bool b60)) :
    Gen.bds.infer (.str m) (.bool mrar) = .val (Tie.Val.ofOptLabel (joinLabels
      (Infer.sel b10 "BDS10" ++ Infer.sel b17 "BDS17" ++ Infer.sel b20 "BDS20" ++ Infer.sel b30 "BDS30" ++
       Infer.sel b40 "BDS40" ++ Infer.sel (b44 && mrar) "BDS44" ++ Infer.sel (b45 && mrar) "BDS45" ++
       Infer.sel b50 "BDS50" ++ Infer.sel b60 "BDS60"))) := by
  rw [Tie.is10_tie m h hl, Tie.bool_enc_iff] at h10
  rw [Tie.is17_tie m h hl, Tie.bool_enc_iff] at h17
  rw [Tie.is20_tie m h hl, Tie.bool_enc_iff] at h20
  rw [Tie.is30_tie m h hl, Tie.bool_enc_iff] at h30
  rw [Tie.is40_tie m h hl, Tie.bool_enc_iff] at h40
  rw [Tie.is44_tie m h hl, Tie.bool_enc_iff] at h44
  rw [Tie.is45_tie m h hl, Tie.bool_enc_iff] at h45
  rw [Tie.is50_tie m h hl, Tie.bool_enc_iff] at h50
  rw [Tie.is60_tie m h hl, Tie.bool_enc_iff] at h60
  have hb := Tie.frame_bits m hl
  have hz' : allzerosB (hex2binM m) = .val false := by
    rw [allzerosB_frame _ hb]
    congr 1
    exact decide_eq_false hz
  have hadsb : dfB (hex2binM m) = 17 → ∀ tc, tcB (hex2binM m) = some tc → inferAdsb tc = none := by
    intro hdf tc htc
    unfold adsbOf at ha
    rw [if_pos hdf, htc] at ha
    exact ha
  rw [Tie.infer_tie m h hl,
    infer_commb_eq_rules Tie.extIas _ mrar hb hz' hadsb b10 b17 b20 b30 b40 b44 b45 b50 b60 h10 h17 h20 h30 h40 h44 h45
      h50 h60]
  rfl

/-- the same with the list characterised by membership: the answer is the join of a sub-list `L` of the nine labels (in
    their fixed, sorted order) that contains a label exactly when the generated rule of that register holds
    (and `mrar` is set, for BDS44 / BDS45) -/
theorem infer_commb_labels_tie (m : Msg) (h : IsHex m) (hl : m.length = 28) (mrar : Bool)
    (hz : PyModeS.bin2int (mbOf (hex2binM m)) ≠ 0) (ha : adsbOf (hex2binM m) = none) :
    ∃ L : List String, Gen.bds.infer (.str m) (.bool mrar) = .val (Tie.Val.ofOptLabel (joinLabels L)) ∧
      L.Sublist allLabels ∧
      ("BDS10" ∈ L ↔ Gen.bds10.is10 (.str m) = .val (.bool true)) ∧
      ("BDS17" ∈ L ↔ Gen.bds17.is17 (.str m) = .val (.bool true)) ∧
      ("BDS20" ∈ L ↔ Gen.bds20.is20 (.str m) = .val (.bool true)) ∧
      ("BDS30" ∈ L ↔ Gen.bds30.is30 (.str m) = .val (.bool true)) ∧
      ("BDS40" ∈ L ↔ Gen.bds40.is40 (.str m) = .val (.bool true)) ∧
      ("BDS44" ∈ L ↔ (Gen.bds44.is44 (.str m) = .val (.bool true) ∧ mrar = true)) ∧
      ("BDS45" ∈ L ↔ (Gen.bds45.is45 (.str m) = .val (.bool true) ∧ mrar = true)) ∧
      ("BDS50" ∈ L ↔ Gen.bds50.is50 (.str m) = .val (.bool true)) ∧
      ("BDS60" ∈ L ↔ Gen.bds60.is60 (.str m) = .val (.bool true)) := by
  have hb := Tie.frame_bits m hl
  refine ⟨labelsP Tie.extIas (hex2binM m) mrar, ?_, labelsP_sublist _ _ _, ?_⟩
  · rw [Tie.infer_tie m h hl, infer_commb_frame _ _ _ hb hz ha]; rfl
  obtain ⟨m10, m17, m20, m30, m40, m44, m45, m50, m60⟩ := label_mem_iff Tie.extIas (hex2binM m) mrar
  have e : ∀ b : Bool, ((.val (.bool b) : Res Val) = .val (.bool true)) ↔ b = true := by
    intro b; cases b <;> simp
  rw [is10_frame_tie m h hl, is17_frame_tie m h hl, is20_frame_tie m h hl, is30_frame_tie m h hl,
    is40_frame_tie m h hl, is44_frame_tie m h hl, is45_frame_tie m h hl, is50_frame_tie m h hl, is60_frame_tie m h hl]
  simp only [e]
  exact ⟨m10, m17, m20, m30, m40, m44, m45, m50, m60⟩

/-- a register whose generated rule fails is never reported on the Comm-B path -/
theorem infer_excludes_tie (m : Msg) (h : IsHex m) (hl : m.length = 28) (mrar : Bool)
    (hz : PyModeS.bin2int (mbOf (hex2binM m)) ≠ 0) (ha : adsbOf (hex2binM m) = none) :
    ∃ L : List String, Gen.bds.infer (.str m) (.bool mrar) = .val (Tie.Val.ofOptLabel (joinLabels L)) ∧
      L.Sublist allLabels ∧
      (Gen.bds10.is10 (.str m) = .val (.bool false) → "BDS10" ∉ L) ∧
      (Gen.bds17.is17 (.str m) = .val (.bool false) → "BDS17" ∉ L) ∧
      (Gen.bds20.is20 (.str m) = .val (.bool false) → "BDS20" ∉ L) ∧
      (Gen.bds30.is30 (.str m) = .val (.bool false) → "BDS30" ∉ L) ∧
      (Gen.bds40.is40 (.str m) = .val (.bool false) → "BDS40" ∉ L) ∧
      (Gen.bds44.is44 (.str m) = .val (.bool false) → "BDS44" ∉ L) ∧
      (Gen.bds45.is45 (.str m) = .val (.bool false) → "BDS45" ∉ L) ∧
      (Gen.bds50.is50 (.str m) = .val (.bool false) → "BDS50" ∉ L) ∧
      (Gen.bds60.is60 (.str m) = .val (.bool false) → "BDS60" ∉ L) := by
  obtain ⟨L, hL, hsub, m10, m17, m20, m30, m40, m44, m45, m50, m60⟩ := infer_commb_labels_tie m h hl mrar hz ha
  have ne : ∀ {x : Res Val}, x = .val (.bool false) → x = .val (.bool true) → False := by
    intro x h1 h2; rw [h1] at h2; cases h2
  exact ⟨L, hL, hsub, fun hf hm => ne hf (m10.mp hm), fun hf hm => ne hf (m17.mp hm), fun hf hm => ne hf (m20.mp hm),
    fun hf hm => ne hf (m30.mp hm), fun hf hm => ne hf (m40.mp hm), fun hf hm => ne hf (m44.mp hm).1,
    fun hf hm => ne hf (m45.mp hm).1, fun hf hm => ne hf (m50.mp hm), fun hf hm => ne hf (m60.mp hm)⟩

/-- `None` exactly when no generated rule holds -/
theorem infer_none_of_no_rule_tie (m : Msg) (h : IsHex m) (hl : m.length = 28) (mrar : Bool)
    (hz : PyModeS.bin2int (mbOf (hex2binM m)) ≠ 0) (ha : adsbOf (hex2binM m) = none)
    (h10 : Gen.bds10.is10 (.str m) = .val (.bool false)) (h17 : Gen.bds17.is17 (.str m) = .val (.bool false))
    (h20 : Gen.bds20.is20 (.str m) = .val (.bool false)) (h30 : Gen.bds30.is30 (.str m) = .val (.bool false))
    (h40 : Gen.bds40.is40 (.str m) = .val (.bool false)) (h44 : Gen.bds44.is44 (.str m) = .val (.bool false))
    (h45 : Gen.bds45.is45 (.str m) = .val (.bool false)) (h50 : Gen.bds50.is50 (.str m) = .val (.bool false))
    (h60 : Gen.bds60.is60 (.str m) = .val (.bool false)) :
    Gen.bds.infer (.str m) (.bool mrar) = .val .none := by
  rw [infer_commb_eq_rules_tie m h hl mrar hz ha false false false false false false false false false
    h10 h17 h20 h30 h40 h44 h45 h50 h60]
  rfl

/-- without `mrar` BDS44 and BDS45 are never in the Comm-B answer -/
theorem infer_omits_44_45_tie (m : Msg) (h : IsHex m) (hl : m.length = 28)
    (hz : PyModeS.bin2int (mbOf (hex2binM m)) ≠ 0) (ha : adsbOf (hex2binM m) = none) :
    ∃ L : List String, Gen.bds.infer (.str m) (.bool false) = .val (Tie.Val.ofOptLabel (joinLabels L)) ∧
      L.Sublist allLabels ∧ "BDS44" ∉ L ∧ "BDS45" ∉ L := by
  obtain ⟨L, hL, hsub, -, -, -, -, -, m44, m45, -, -⟩ := infer_commb_labels_tie m h hl false hz ha
  exact ⟨L, hL, hsub, fun hm => absurd (m44.mp hm).2 (by decide), fun hm => absurd (m45.mp hm).2 (by decide)⟩

/-! ### soundness of the status and reserved-bit rules -/

/-- the generated `common.wrongstatus` on in-range arguments: status bit 0 although the field is not all zero -/
theorem wrongstatus_spec_tie (d : Bits) (sb msb lsb : Nat) (h0 : 1 ≤ sb) (h1 : sb ≤ d.length) (h2 : 1 ≤ msb)
    (h3 : msb ≤ lsb) (h4 : msb ≤ d.length) :
    Gen.py_common.wrongstatus (Val.ofBits d) (Val.ofNat sb) (Val.ofNat msb) (Val.ofNat lsb) =
      .val (.bool (decide (d.getD (sb - 1) false = false ∧ PyModeS.bin2int (slice (msb - 1) lsb d) ≠ 0))) := by
  rw [Tie.wrongstatus_ofBits d sb msb lsb h0 h2, wrongstatus_spec d sb msb lsb h0 h1 h2 h3 h4]; rfl

/-- a listed status bit `t.1` (1-based) is 0 although some bit of MB bits `t.2.1 .. t.2.2` is 1 ⇒ the generated rule
    rejects the frame -/
theorem is40_status_sound_tie (m : Msg) (h : IsHex m) (hl : m.length = 28) (t : Nat × Nat × Nat) (ht : t ∈ rules40)
    (h0 : bitAt (mbOf (hex2binM m)) (t.1 - 1) = false) (h1 : true ∈ slice (t.2.1 - 1) t.2.2 (mbOf (hex2binM m))) :
    Gen.bds40.is40 (.str m) = .val (.bool false) := by
  rw [Tie.is40_tie m h hl, is40_status_sound _ (Tie.frame_bits m hl) t ht h0 h1]; rfl

theorem is44_status_sound_tie (m : Msg) (h : IsHex m) (hl : m.length = 28) (t : Nat × Nat × Nat) (ht : t ∈ rules44)
    (h0 : bitAt (mbOf (hex2binM m)) (t.1 - 1) = false) (h1 : true ∈ slice (t.2.1 - 1) t.2.2 (mbOf (hex2binM m))) :
    Gen.bds44.is44 (.str m) = .val (.bool false) := by
  rw [Tie.is44_tie m h hl, is44_status_sound _ (Tie.frame_bits m hl) t ht h0 h1]; rfl

theorem is45_status_sound_tie (m : Msg) (h : IsHex m) (hl : m.length = 28) (t : Nat × Nat × Nat) (ht : t ∈ rules45)
    (h0 : bitAt (mbOf (hex2binM m)) (t.1 - 1) = false) (h1 : true ∈ slice (t.2.1 - 1) t.2.2 (mbOf (hex2binM m))) :
    Gen.bds45.is45 (.str m) = .val (.bool false) := by
  rw [Tie.is45_tie m h hl, is45_status_sound _ (Tie.frame_bits m hl) t ht h0 h1]; rfl

theorem is50_status_sound_tie (m : Msg) (h : IsHex m) (hl : m.length = 28) (t : Nat × Nat × Nat) (ht : t ∈ rules50)
    (h0 : bitAt (mbOf (hex2binM m)) (t.1 - 1) = false) (h1 : true ∈ slice (t.2.1 - 1) t.2.2 (mbOf (hex2binM m))) :
    Gen.bds50.is50 (.str m) = .val (.bool false) := by
  rw [Tie.is50_tie m h hl, is50_status_sound _ (Tie.frame_bits m hl) t ht h0 h1]; rfl

theorem is60_status_sound_tie (m : Msg) (h : IsHex m) (hl : m.length = 28) (t : Nat × Nat × Nat) (ht : t ∈ rules60)
    (h0 : bitAt (mbOf (hex2binM m)) (t.1 - 1) = false) (h1 : true ∈ slice (t.2.1 - 1) t.2.2 (mbOf (hex2binM m))) :
    Gen.bds60.is60 (.str m) = .val (.bool false) := by
  rw [Tie.is60_tie m h hl, is60_status_sound _ _ (Tie.frame_bits m hl) t ht h0 h1]; rfl

/-- BDS 1,0 reserved bits: first byte must be 0x10 and MB bits 10-14 zero -/
theorem is10_reserved_sound_tie (m : Msg) (h : IsHex m) (hl : m.length = 28)
    (hv : slice 0 8 (mbOf (hex2binM m)) ≠ natToBits 8 0x10 ∨ true ∈ slice 9 14 (mbOf (hex2binM m))) :
    Gen.bds10.is10 (.str m) = .val (.bool false) := by
  rw [Tie.is10_tie m h hl, is10_reserved_sound _ (Tie.frame_bits m hl) hv]; rfl

/-- BDS 1,7 exactly: not all zero, MB bits 25-56 zero, and the BDS 2,0 capability bit (MB bit 7) set -/
theorem is17_iff_tie (m : Msg) (h : IsHex m) (hl : m.length = 28) :
    Gen.bds17.is17 (.str m) = .val (.bool true) ↔
      (PyModeS.bin2int (mbOf (hex2binM m)) ≠ 0 ∧ PyModeS.bin2int (slice 24 56 (mbOf (hex2binM m))) = 0 ∧
       bitAt (mbOf (hex2binM m)) 6 = true) := by
  rw [Tie.is17_tie m h hl, Tie.bool_enc_iff]
  exact is17_iff _ (Tie.frame_bits m hl)

theorem is17_reserved_sound_tie (m : Msg) (h : IsHex m) (hl : m.length = 28)
    (hv : true ∈ slice 24 56 (mbOf (hex2binM m)) ∨ bitAt (mbOf (hex2binM m)) 6 = false) :
    Gen.bds17.is17 (.str m) = .val (.bool false) := by
  rw [Tie.is17_tie m h hl, is17_reserved_sound _ (Tie.frame_bits m hl) hv]; rfl

/-- BDS 2,0: first byte 0x20 and (unless the callsign field is all zero) every character legal -/
theorem is20_reserved_sound_tie (m : Msg) (h : IsHex m) (hl : m.length = 28)
    (hv : slice 0 8 (mbOf (hex2binM m)) ≠ natToBits 8 0x20 ∨
      (true ∈ slice 8 56 (mbOf (hex2binM m)) ∧
        ∃ i, i < 8 ∧ Tables.cs20Chars.getD
          (PyModeS.bin2int (slice (6 * i) (6 * i + 6) (slice 8 56 (mbOf (hex2binM m))))) '#' = '#')) :
    Gen.bds20.is20 (.str m) = .val (.bool false) := by
  rw [Tie.is20_tie m h hl, is20_reserved_sound _ (Tie.frame_bits m hl) hv]; rfl

/-- BDS 3,0 exactly: not all zero, first byte 0x30, threat type (MB bits 29-30) ≠ 3, MB bits 16-22 < 48 -/
theorem is30_iff_tie (m : Msg) (h : IsHex m) (hl : m.length = 28) :
    Gen.bds30.is30 (.str m) = .val (.bool true) ↔
      (PyModeS.bin2int (mbOf (hex2binM m)) ≠ 0 ∧ slice 0 8 (mbOf (hex2binM m)) = natToBits 8 0x30 ∧
       slice 28 30 (mbOf (hex2binM m)) ≠ [true, true] ∧ PyModeS.bin2int (slice 15 22 (mbOf (hex2binM m))) < 48) := by
  rw [Tie.is30_tie m h hl, Tie.bool_enc_iff]
  exact is30_iff _ (Tie.frame_bits m hl)

theorem is30_reserved_sound_tie (m : Msg) (h : IsHex m) (hl : m.length = 28)
    (hv : slice 0 8 (mbOf (hex2binM m)) ≠ natToBits 8 0x30 ∨ slice 28 30 (mbOf (hex2binM m)) = [true, true] ∨
      48 ≤ PyModeS.bin2int (slice 15 22 (mbOf (hex2binM m)))) :
    Gen.bds30.is30 (.str m) = .val (.bool false) := by
  rw [Tie.is30_tie m h hl, is30_reserved_sound _ (Tie.frame_bits m hl) hv]; rfl

theorem is40_reserved_sound_tie (m : Msg) (h : IsHex m) (hl : m.length = 28)
    (hv : true ∈ slice 39 47 (mbOf (hex2binM m)) ∨ true ∈ slice 51 53 (mbOf (hex2binM m))) :
    Gen.bds40.is40 (.str m) = .val (.bool false) := by
  rw [Tie.is40_tie m h hl, is40_reserved_sound _ (Tie.frame_bits m hl) hv]; rfl

/-! ### BDS 6,0 -/

/-- outside DF20 (and whenever Mach or IAS is absent) the altitude cross-check of the generated `is60` is vacuous and the
    rule is exactly, in integers: not all zero, the five status rules, IAS ≤ 500 kt, Mach ≤ 1 (field ≤ 250),
    |vertical rates| ≤ 6000 ft/min (signed fields in −187..187) -/
theorem is60_core_iff_tie (m : Msg) (h : IsHex m) (hl : m.length = 28)
    (hc : dfB (hex2binM m) ≠ 20 ∨ bitAt (mbOf (hex2binM m)) 12 = false ∨ bitAt (mbOf (hex2binM m)) 23 = false) :
    Gen.bds60.is60 (.str m) = .val (.bool true) ↔
      (PyModeS.bin2int (mbOf (hex2binM m)) ≠ 0 ∧ statusP (mbOf (hex2binM m)) rules60 = true ∧
        (bitAt (mbOf (hex2binM m)) 12 = true → fld (mbOf (hex2binM m)) 13 23 ≤ 500) ∧
        (bitAt (mbOf (hex2binM m)) 23 = true → fld (mbOf (hex2binM m)) 24 34 ≤ 250) ∧
        (bitAt (mbOf (hex2binM m)) 34 = true →
          -187 ≤ sval (mbOf (hex2binM m)) 35 36 45 ∧ sval (mbOf (hex2binM m)) 35 36 45 ≤ 187) ∧
        (bitAt (mbOf (hex2binM m)) 45 = true →
          -187 ≤ sval (mbOf (hex2binM m)) 46 47 56 ∧ sval (mbOf (hex2binM m)) 46 47 56 ≤ 187)) := by
  have hb := Tie.frame_bits m hl
  rw [Tie.is60_tie m h hl, Tie.bool_enc_iff, is60_eq_core _ _ hb hc]
  exact is60Core_iff _ hb

/-- in every case the core conditions are necessary for the generated `is60` -/
theorem is60_core_necessary_tie (m : Msg) (h : IsHex m) (hl : m.length = 28)
    (h60 : Gen.bds60.is60 (.str m) = .val (.bool true)) :
    (PyModeS.bin2int (mbOf (hex2binM m)) ≠ 0 ∧ statusP (mbOf (hex2binM m)) rules60 = true ∧
        (bitAt (mbOf (hex2binM m)) 12 = true → fld (mbOf (hex2binM m)) 13 23 ≤ 500) ∧
        (bitAt (mbOf (hex2binM m)) 23 = true → fld (mbOf (hex2binM m)) 24 34 ≤ 250) ∧
        (bitAt (mbOf (hex2binM m)) 34 = true →
          -187 ≤ sval (mbOf (hex2binM m)) 35 36 45 ∧ sval (mbOf (hex2binM m)) 35 36 45 ≤ 187) ∧
        (bitAt (mbOf (hex2binM m)) 45 = true →
          -187 ≤ sval (mbOf (hex2binM m)) 46 47 56 ∧ sval (mbOf (hex2binM m)) 46 47 56 ≤ 187)) := by
  have hb := Tie.frame_bits m hl
  rw [is60_frame_tie m h hl] at h60
  have hp : is60P Tie.extIas (hex2binM m) = true := by
    cases hq : is60P Tie.extIas (hex2binM m) with
    | true => rfl
    | false => rw [hq] at h60; cases h60
  have hcore := is60P_core _ _ hp
  exact (is60Core_iff _ hb).mp (by rw [is60Core_frame _ hb, hcore])

/-! ### completeness: plausible payloads are accepted by the generated rules and reported by `infer` -/

/-- BDS 5,0: every plausible choice of the five (status, value) pairs, laid out between an arbitrary 32-bit header and
    24-bit parity and written as a hex string, is accepted by the generated `is50` (hypotheses as in `C12.is50_complete`) -/
theorem is50_complete_tie (hdr par : Bits) (hh : hdr.length = 32) (hp : par.length = 24)
    (s1 g1 : Bool) (m1 : Nat) (s2 g2 : Bool) (m2 : Nat) (s3 : Bool) (gs : Nat)
    (s4 g4 : Bool) (m4 : Nat) (s5 : Bool) (tas : Nat)
    (hm1 : m1 < 512) (hm2 : m2 < 1024) (hgs : gs < 1024) (hm4 : m4 < 512) (htas : tas < 1024)
    (z1 : s1 = false → g1 = false ∧ m1 = 0) (z2 : s2 = false → g2 = false ∧ m2 = 0)
    (z3 : s3 = false → gs = 0) (z4 : s4 = false → g4 = false ∧ m4 = 0) (z5 : s5 = false → tas = 0)
    (hroll : s1 = true → -284 ≤ sroll g1 m1 ∧ sroll g1 m1 ≤ 284)
    (hgs300 : s3 = true → gs ≤ 300) (htas300 : s5 = true → tas ≤ 300)
    (hdiff : s3 = true → s5 = true → tas ≤ gs + 100 ∧ gs ≤ tas + 100)
    (hne : s1 = true ∨ s2 = true ∨ s3 = true ∨ s4 = true ∨ s5 = true) :
    Gen.bds50.is50 (.str (hexOfBits (hdr ++ build [(1, s1.toNat), (1, g1.toNat), (9, m1), (1, s2.toNat), (1, g2.toNat),
      (10, m2), (1, s3.toNat), (10, gs), (1, s4.toNat), (1, g4.toNat), (9, m4), (1, s5.toNat), (10, tas)] ++ par))) =
      .val (.bool true) := by
  exact accepts_of_model Tie.is50_tie (hdr ++ mb50 s1 g1 m1 s2 g2 m2 s3 gs s4 g4 m4 s5 tas ++ par)
    (by simp only [List.length_append, hh, hp, mb50_length])
    (is50_complete hdr par hh hp s1 g1 m1 s2 g2 m2 s3 gs s4 g4 m4 s5 tas hm1 hm2 hgs hm4 htas z1 z2 z3 z4 z5
      hroll hgs300 htas300 hdiff hne)

/-- BDS 4,0 (hypotheses as in `C12.is40_complete`) -/
theorem is40_complete_tie (hdr par : Bits) (hh : hdr.length = 32) (hp : par.length = 24)
    (s1 : Bool) (mcp : Nat) (s2 : Bool) (fms : Nat) (s3 : Bool) (baro : Nat) (s4 : Bool) (modes : Nat)
    (s5 : Bool) (src : Nat)
    (h1 : mcp < 4096) (h2 : fms < 4096) (h3 : baro < 4096) (h4 : modes < 8) (h5 : src < 4)
    (z1 : s1 = false → mcp = 0) (z2 : s2 = false → fms = 0) (z3 : s3 = false → baro = 0)
    (z4 : s4 = false → modes = 0) (z5 : s5 = false → src = 0)
    (hne : s1 = true ∨ s2 = true ∨ s3 = true ∨ s4 = true ∨ s5 = true) :
    Gen.bds40.is40 (.str (hexOfBits (hdr ++ build [(1, s1.toNat), (12, mcp), (1, s2.toNat), (12, fms), (1, s3.toNat),
      (12, baro), (8, 0), (1, s4.toNat), (3, modes), (2, 0), (1, s5.toNat), (2, src)] ++ par))) = .val (.bool true) := by
  exact accepts_of_model Tie.is40_tie (hdr ++ mb40 s1 mcp s2 fms s3 baro s4 modes s5 src ++ par)
    (by simp only [List.length_append, hh, hp, mb40_length])
    (is40_complete hdr par hh hp s1 mcp s2 fms s3 baro s4 modes s5 src h1 h2 h3 h4 h5 z1 z2 z3 z4 z5 hne)

/-- BDS 4,4 with the exact temperature range of the rule (hypotheses as in `C12.is44_complete_exact`; the range
    −320..240 of `C12.is44_complete` lies inside) -/
theorem is44_complete_tie (hdr par : Bits) (hh : hdr.length = 32) (hp : par.length = 24)
    (src : Nat) (sw : Bool) (wspd wdir : Nat) (gt : Bool) (mt : Nat) (sp : Bool) (p : Nat)
    (st : Bool) (turb : Nat) (sh : Bool) (hum : Nat)
    (hsrc : src ≤ 4) (hws : wspd < 512) (hwd : wdir < 512) (hmt : mt < 1024) (hpr : p < 2048)
    (htb : turb < 4) (hhm : hum < 64)
    (z1 : sw = false → wspd = 0 ∧ wdir = 0) (z2 : sp = false → p = 0) (z3 : st = false → turb = 0)
    (z4 : sh = false → hum = 0)
    (hw : sw = true → wspd ≤ 250) (ht : -640 ≤ s10 gt mt ∧ s10 gt mt ≤ 480)
    (hne : src ≠ 0 ∨ sw = true ∨ gt = true ∨ mt ≠ 0 ∨ sp = true ∨ st = true ∨ sh = true) :
    Gen.bds44.is44 (.str (hexOfBits (hdr ++ build [(4, src), (1, sw.toNat), (9, wspd), (9, wdir), (1, gt.toNat),
      (10, mt), (1, sp.toNat), (11, p), (1, st.toNat), (2, turb), (1, sh.toNat), (6, hum)] ++ par))) =
      .val (.bool true) := by
  exact accepts_of_model Tie.is44_tie (hdr ++ mb44 src sw wspd wdir gt mt sp p st turb sh hum ++ par)
    (by simp only [List.length_append, hh, hp, mb44_length])
    (is44_complete_exact hdr par hh hp src sw wspd wdir gt mt sp p st turb sh hum hsrc hws hwd hmt hpr htb hhm
      z1 z2 z3 z4 hw ht hne)

/-- BDS 4,5 (hypotheses as in `C12.is45_complete`) -/
theorem is45_complete_tie (hdr par : Bits) (hh : hdr.length = 32) (hp : par.length = 24)
    (s1 : Bool) (turb : Nat) (s2 : Bool) (ws : Nat) (s3 : Bool) (mb : Nat) (s4 : Bool) (ic : Nat)
    (s5 : Bool) (wv : Nat) (s6 gt : Bool) (mt : Nat) (s7 : Bool) (p : Nat) (s8 : Bool) (rh : Nat)
    (h1 : turb < 4) (h2 : ws < 4) (h3 : mb < 4) (h4 : ic < 4) (h5 : wv < 4) (h6 : mt < 512)
    (h7 : p < 2048) (h8 : rh < 4096)
    (z1 : s1 = false → turb = 0) (z2 : s2 = false → ws = 0) (z3 : s3 = false → mb = 0)
    (z4 : s4 = false → ic = 0) (z5 : s5 = false → wv = 0) (z6 : s6 = false → gt = false ∧ mt = 0)
    (z7 : s7 = false → p = 0) (z8 : s8 = false → rh = 0)
    (ht : s6 = true → -320 ≤ s9 gt mt ∧ s9 gt mt ≤ 240)
    (hne : s1 = true ∨ s2 = true ∨ s3 = true ∨ s4 = true ∨ s5 = true ∨ s6 = true ∨ s7 = true ∨ s8 = true) :
    Gen.bds45.is45 (.str (hexOfBits (hdr ++ build [(1, s1.toNat), (2, turb), (1, s2.toNat), (2, ws), (1, s3.toNat),
      (2, mb), (1, s4.toNat), (2, ic), (1, s5.toNat), (2, wv), (1, s6.toNat), (1, gt.toNat), (9, mt), (1, s7.toNat),
      (11, p), (1, s8.toNat), (12, rh), (5, 0)] ++ par))) = .val (.bool true) := by
  exact accepts_of_model Tie.is45_tie (hdr ++ Infer.mb45 s1 turb s2 ws s3 mb s4 ic s5 wv s6 gt mt s7 p s8 rh ++ par)
    (by simp only [List.length_append, hh, hp, mb45_length])
    (is45_complete hdr par hh hp s1 turb s2 ws s3 mb s4 ic s5 wv s6 gt mt s7 p s8 rh h1 h2 h3 h4 h5 h6 h7 h8
      z1 z2 z3 z4 z5 z6 z7 z8 ht hne)

/-- BDS 6,0 in a reply that is not DF20 (no altitude to cross-check against): hypotheses as in `C12.is60Core_complete` -/
theorem is60_complete_tie (hdr par : Bits) (hh : hdr.length = 32) (hp : par.length = 24) (hdf : dfB hdr ≠ 20)
    (s1 g1 : Bool) (hdg : Nat) (s2 : Bool) (ias : Nat) (s3 : Bool) (mach : Nat)
    (s4 g4 : Bool) (vb : Nat) (s5 g5 : Bool) (vi : Nat)
    (hhd : hdg < 1024) (hi : ias < 1024) (hm : mach < 1024) (hvb : vb < 512) (hvi : vi < 512)
    (z1 : s1 = false → g1 = false ∧ hdg = 0) (z2 : s2 = false → ias = 0) (z3 : s3 = false → mach = 0)
    (z4 : s4 = false → g4 = false ∧ vb = 0) (z5 : s5 = false → g5 = false ∧ vi = 0)
    (hias : s2 = true → ias ≤ 500) (hmach : s3 = true → mach ≤ 250)
    (hb : s4 = true → -187 ≤ s9 g4 vb ∧ s9 g4 vb ≤ 187) (hn : s5 = true → -187 ≤ s9 g5 vi ∧ s9 g5 vi ≤ 187)
    (hne : s1 = true ∨ s2 = true ∨ s3 = true ∨ s4 = true ∨ s5 = true) :
    Gen.bds60.is60 (.str (hexOfBits (hdr ++ build [(1, s1.toNat), (1, g1.toNat), (10, hdg), (1, s2.toNat), (10, ias),
      (1, s3.toNat), (10, mach), (1, s4.toNat), (1, g4.toNat), (9, vb), (1, s5.toNat), (1, g5.toNat), (9, vi)] ++ par))) =
      .val (.bool true) := by
  have hlen : (hdr ++ mb60 s1 g1 hdg s2 ias s3 mach s4 g4 vb s5 g5 vi ++ par).length = 112 := by
    simp only [List.length_append, hh, hp, mb60_length]
  refine accepts_of_model Tie.is60_tie (hdr ++ mb60 s1 g1 hdg s2 ias s3 mach s4 g4 vb s5 g5 vi ++ par) hlen ?_
  rw [is60_eq_core _ _ hlen (Or.inl (by rw [List.append_assoc, CRC.dfB_append hdr _ (by omega)]; exact hdf))]
  exact is60Core_complete hdr par hh hp s1 g1 hdg s2 ias s3 mach s4 g4 vb s5 g5 vi hhd hi hm hvb hvi z1 z2 z3 z4 z5
    hias hmach hb hn hne

/-- a non-empty label list is reported as its comma-joined string -/
theorem joined_of_mem {L : List String} {x : String} (hx : x ∈ L) :
    Tie.Val.ofOptLabel (joinLabels L) = .str (",".intercalate L).toList := by
  cases L with
  | nil => cases hx
  | cons a l => rfl

/-- a Comm-B reply accepted by the generated `is50` has "BDS50" in the answer of the generated `infer` -/
theorem infer_reports_50_tie (m : Msg) (h : IsHex m) (hl : m.length = 28) (mrar : Bool)
    (ha : adsbOf (hex2binM m) = none) (h50 : Gen.bds50.is50 (.str m) = .val (.bool true)) :
    ∃ L : List String, Gen.bds.infer (.str m) (.bool mrar) = .val (.str (",".intercalate L).toList) ∧
      L.Sublist allLabels ∧ "BDS50" ∈ L := by
  have hz : PyModeS.bin2int (mbOf (hex2binM m)) ≠ 0 := by
    have h50' := h50
    rw [Tie.is50_tie m h hl, Tie.bool_enc_iff] at h50'
    exact ((is50_iff _ (Tie.frame_bits m hl)).mp h50').1
  obtain ⟨L, hL, hsub, -, -, -, -, -, -, -, m50, -⟩ := infer_commb_labels_tie m h hl mrar hz ha
  have hmem := m50.mpr h50
  refine ⟨L, ?_, hsub, hmem⟩
  rw [hL, joined_of_mem hmem]

/-- … "BDS44" when `mrar` is requested -/
theorem infer_reports_44_tie (m : Msg) (h : IsHex m) (hl : m.length = 28)
    (ha : adsbOf (hex2binM m) = none) (h44 : Gen.bds44.is44 (.str m) = .val (.bool true)) :
    ∃ L : List String, Gen.bds.infer (.str m) (.bool true) = .val (.str (",".intercalate L).toList) ∧
      L.Sublist allLabels ∧ "BDS44" ∈ L := by
  have hz : PyModeS.bin2int (mbOf (hex2binM m)) ≠ 0 := by
    rw [Tie.is44_tie m h hl, Tie.bool_enc_iff] at h44
    exact ((is44_iff _ (Tie.frame_bits m hl)).mp h44).1
  obtain ⟨L, hL, hsub, -, -, -, -, -, m44, -, -, -⟩ := infer_commb_labels_tie m h hl true hz ha
  have hmem := m44.mpr ⟨h44, rfl⟩
  refine ⟨L, ?_, hsub, hmem⟩
  rw [hL, joined_of_mem hmem]

/-- … and "BDS45" when `mrar` is requested -/
theorem infer_reports_45_tie (m : Msg) (h : IsHex m) (hl : m.length = 28)
    (ha : adsbOf (hex2binM m) = none) (h45 : Gen.bds45.is45 (.str m) = .val (.bool true)) :
    ∃ L : List String, Gen.bds.infer (.str m) (.bool true) = .val (.str (",".intercalate L).toList) ∧
      L.Sublist allLabels ∧ "BDS45" ∈ L := by
  have hz : PyModeS.bin2int (mbOf (hex2binM m)) ≠ 0 := by
    rw [Tie.is45_tie m h hl, Tie.bool_enc_iff] at h45
    exact ((is45_iff _ (Tie.frame_bits m hl)).mp h45).1
  obtain ⟨L, hL, hsub, -, -, -, -, -, -, m45, -, -⟩ := infer_commb_labels_tie m h hl true hz ha
  have hmem := m45.mpr ⟨h45, rfl⟩
  refine ⟨L, ?_, hsub, hmem⟩
  rw [hL, joined_of_mem hmem]

/-- … "BDS40" and "BDS60" likewise, whatever `mrar` -/
theorem infer_reports_40_60_tie (m : Msg) (h : IsHex m) (hl : m.length = 28) (mrar : Bool)
    (hz : PyModeS.bin2int (mbOf (hex2binM m)) ≠ 0) (ha : adsbOf (hex2binM m) = none) :
    ∃ L : List String, Gen.bds.infer (.str m) (.bool mrar) = .val (Tie.Val.ofOptLabel (joinLabels L)) ∧
      L.Sublist allLabels ∧
      (Gen.bds40.is40 (.str m) = .val (.bool true) → "BDS40" ∈ L) ∧
      (Gen.bds60.is60 (.str m) = .val (.bool true) → "BDS60" ∈ L) := by
  obtain ⟨L, hL, hsub, -, -, -, -, m40, -, -, -, m60⟩ := infer_commb_labels_tie m h hl mrar hz ha
  exact ⟨L, hL, hsub, m40.mpr, m60.mpr⟩

end PyModeS.C12GenB
