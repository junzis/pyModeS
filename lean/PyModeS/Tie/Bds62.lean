/-
  Tie: generated `bds62.py` (ADS-B TC 29, target state and status) = hand model (`Model/Adsb.lean`)
  on every 28-digit hex frame.  The decoders read the whole frame (`hex2bin(msg)`, `mb = msgbin[32:]`); the lemmas about
  that way of reading are in `Tie/Bds61.lean`.
-/
import PyModeS.Tie.Bds61
import PyModeS.Generated.Src.bds62
namespace PyModeS.Tie
open PyModeS PyModeS.Py PyModeS.CRC

/-- Python `None` / `True` / `False` -/
def ofOptBool : Option Bool → Val
  | none => .none
  | some b => .bool b

set_option hygiene false in
/-- common opening of an ADS-B decoder that reads the whole frame: the type code test becomes a test on
    `tcB bits`, and both sides read the 112-bit frame `bits` -/
macro "adsb62_open" m:ident h:ident hl:ident k:term : tactic => `(tactic|
  (have hne : $m ≠ [] := by intro e; rw [e] at $hl:ident; simp at $hl:ident
   have hk := pyNe_ofOptNat (tcB (hex2binM $m)) $k
   simp only [Nat.cast_ofNat] at hk
   simp only [typecode_hex $m $h (by omega), Res.bind_val, hk, pyTruth_bool, hex2bin_str $m $h hne,
     pySliceFrom_ofBits]
   have hb := frame_length $m $hl
   generalize hex2binM $m = bits at hb ⊢))

set_option hygiene false in
/-- after the opening: the type-code test is the same on both sides (`tc_guard`); name the ME field `d = bits[32:]`
    (80 bits: ME and parity) and evaluate the field reads and comparisons of both sides on it -/
macro "adsb62_mb" : tactic => `(tactic|
  (conv_rhs => rw [bind_assoc]
   apply tc_guard
   have hd : (List.drop 32 bits).length = 80 := by rw [List.length_drop, hb]
   generalize List.drop 32 bits = d at hd ⊢
   simp only [pySliceNN_ofBits, pyIdxN_ofBits, bin2int_ofBits, bin2intR_slice_of_lt, idxR_of_lt, hd, Nat.reduceLT,
     Res.bind_val, Res.bind_rte, Res.pure_eq, pyEq_ofNat_zero, pyEq_ofNat_one, pyEq_ofNat_lit, pyInt1_bit, b2n_eq_zero,
     b2n_eq_one, pyTruth_b2n, pyTruth_bool, decide_eq_true_eq, Res.ite_val, Res.ite_bind, val_bool_ite,
     Bool.decide_eq_true]))

theorem emergency_status_tie (m : Msg) (h : IsHex m) (hl : m.length = 28) :
    Gen.bds62.emergency_status (.str m) = (PyModeS.emergencyStatus (hex2binM m) >>= fun n => .val (Val.ofNat n)) := by
  unfold Gen.bds62.emergency_status PyModeS.emergencyStatus PyModeS.tc29
  adsb62_open m h hl 29
  adsb62_mb

theorem tcas_ra_tie (m : Msg) (h : IsHex m) (hl : m.length = 28) :
    Gen.bds62.tcas_ra (.str m) = (PyModeS.tcasRa (hex2binM m) >>= fun r => .val (.bool r)) := by
  unfold Gen.bds62.tcas_ra PyModeS.tcasRa PyModeS.tc29
  adsb62_open m h hl 29
  adsb62_mb

theorem tcas_operational_tie (m : Msg) (h : IsHex m) (hl : m.length = 28) :
    Gen.bds62.tcas_operational (.str m) = (PyModeS.tcasOperational (hex2binM m) >>= fun r => .val (.bool r)) := by
  unfold Gen.bds62.tcas_operational PyModeS.tcasOperational PyModeS.tc29
  adsb62_open m h hl 29
  adsb62_mb

theorem vertical_mode_tie (m : Msg) (h : IsHex m) (hl : m.length = 28) :
    Gen.bds62.vertical_mode (.str m) = (PyModeS.verticalMode (hex2binM m) >>= fun r => .val (Val.ofOptNat r)) := by
  unfold Gen.bds62.vertical_mode PyModeS.verticalMode PyModeS.tc29
  adsb62_open m h hl 29
  adsb62_mb
  simp only [apply_ite Val.ofOptNat, Val.ofOptNat.eq_1, Val.ofOptNat.eq_2, Val.ofNat]

theorem horizontal_mode_tie (m : Msg) (h : IsHex m) (hl : m.length = 28) :
    Gen.bds62.horizontal_mode (.str m) = (PyModeS.horizontalMode (hex2binM m) >>= fun r => .val (Val.ofOptNat r)) := by
  unfold Gen.bds62.horizontal_mode PyModeS.horizontalMode PyModeS.tc29
  adsb62_open m h hl 29
  adsb62_mb
  simp only [apply_ite Val.ofOptNat, Val.ofOptNat.eq_1, Val.ofOptNat.eq_2, Val.ofNat]

/-- the text that `autopilot`, `vnav_mode`, `altitude_hold_mode`, `approach_mode` and `lnav_mode` of bds62.py share;
    they differ only in the index `k` of the flag bit -/
def modeFlagBody (k : Nat) (msg : Val) : Res Val := do
  if pyTruth (← pyNe (← Gen.py_common.typecode msg) (Val.num 29)) then
    (Res.rte : Res PUnit)
  let mb ← pySliceN_ (← Gen.py_common.hex2bin msg) 32
  let subtype ← Gen.py_common.bin2int (← pySliceNN mb 5 7)
  if pyTruth (← pyEq subtype (Val.num 0)) then
    (Res.rte : Res PUnit)
  if pyTruth (← pyEq (← pyInt1 (← pyIdxN mb 46)) (Val.num 0)) then
    return Val.none
  let flag ← (do if pyTruth (← pyEq (← pyInt1 (← pyIdxN mb k)) (Val.num 1)) then pure (Val.bool true) else pure (Val.bool false))
  return flag

/-- the five mode flags at once: any flag index `k` (an index outside the field fails on both sides alike) -/
theorem modeFlagBody_eq (k : Nat) (m : Msg) (h : IsHex m) (hl : m.length = 28) :
    modeFlagBody k (.str m) = (PyModeS.modeFlag k (hex2binM m) >>= fun r => .val (ofOptBool r)) := by
  unfold modeFlagBody PyModeS.modeFlag PyModeS.tc29
  adsb62_open m h hl 29
  adsb62_mb
  rcases idxR d k with (b | _ | _)
  · simp only [Res.bind_val, pyInt1_bit, pyEq_ofNat_one, b2n_eq_one, pyTruth_bool, Bool.decide_eq_true, ofOptBool]
  · rfl
  · rfl

theorem autopilot_tie (m : Msg) (h : IsHex m) (hl : m.length = 28) :
    Gen.bds62.autopilot (.str m) = (PyModeS.autopilot (hex2binM m) >>= fun r => .val (ofOptBool r)) :=
  modeFlagBody_eq 47 m h hl

theorem vnav_mode_tie (m : Msg) (h : IsHex m) (hl : m.length = 28) :
    Gen.bds62.vnav_mode (.str m) = (PyModeS.vnavMode (hex2binM m) >>= fun r => .val (ofOptBool r)) :=
  modeFlagBody_eq 48 m h hl

theorem altitude_hold_mode_tie (m : Msg) (h : IsHex m) (hl : m.length = 28) :
    Gen.bds62.altitude_hold_mode (.str m) = (PyModeS.altitudeHoldMode (hex2binM m) >>= fun r => .val (ofOptBool r)) :=
  modeFlagBody_eq 49 m h hl

theorem approach_mode_tie (m : Msg) (h : IsHex m) (hl : m.length = 28) :
    Gen.bds62.approach_mode (.str m) = (PyModeS.approachMode (hex2binM m) >>= fun r => .val (ofOptBool r)) :=
  modeFlagBody_eq 51 m h hl

theorem lnav_mode_tie (m : Msg) (h : IsHex m) (hl : m.length = 28) :
    Gen.bds62.lnav_mode (.str m) = (PyModeS.lnavMode (hex2binM m) >>= fun r => .val (ofOptBool r)) :=
  modeFlagBody_eq 53 m h hl

theorem baro_pressure_setting_tie (m : Msg) (h : IsHex m) (hl : m.length = 28) :
    Gen.bds62.baro_pressure_setting (.str m) = (PyModeS.baroPressureSetting (hex2binM m) >>= fun r => .val (Val.ofOptRat r)) := by
  unfold Gen.bds62.baro_pressure_setting PyModeS.baroPressureSetting PyModeS.tc29
  adsb62_open m h hl 29
  adsb62_mb
  by_cases hst : bin2int (slice 5 7 d) = 0
  · rw [if_pos hst, if_pos hst]
  rw [if_neg hst, if_neg hst]
  by_cases h0 : bin2int (slice 20 29 d) = 0
  · simp only [if_pos h0]
    rfl
  simp only [if_neg h0, Val.ofNat, pySub_num, pyMul_num, pyAdd_num, Res.bind_val, Val.ofOptRat, Int.cast_sub,
    Int.cast_natCast, Int.cast_one, mul_div_assoc]

theorem selected_heading_tie (m : Msg) (h : IsHex m) (hl : m.length = 28) :
    Gen.bds62.selected_heading (.str m) = (PyModeS.selectedHeading (hex2binM m) >>= fun r => .val (Val.ofOptRat r)) := by
  unfold Gen.bds62.selected_heading PyModeS.selectedHeading PyModeS.tc29
  adsb62_open m h hl 29
  adsb62_mb
  by_cases hst : bin2int (slice 5 7 d) = 0
  · rw [if_pos hst, if_pos hst]
  rw [if_neg hst, if_neg hst]
  split
  · rfl
  · simp only [Val.ofNat, pyMul_num, pyDiv_num _ _ (by norm_num : (256 : Rat) ≠ 0), pyAdd_num, Res.bind_val,
      Val.ofOptRat]

/-- Python returns `(alt | None, source text)` -/
theorem selected_altitude_tie (m : Msg) (h : IsHex m) (hl : m.length = 28) :
    Gen.bds62.selected_altitude (.str m) =
      (PyModeS.selectedAltitude (hex2binM m) >>= fun r => .val (.tuple [Val.ofOptNat r.1, .str r.2.toList])) := by
  unfold Gen.bds62.selected_altitude PyModeS.selectedAltitude PyModeS.tc29
  adsb62_open m h hl 29
  adsb62_mb
  by_cases hst : bin2int (slice 5 7 d) = 0
  · rw [if_pos hst, if_pos hst]
  rw [if_neg hst, if_neg hst]
  by_cases h0 : bin2int (slice 9 20 d) = 0
  · simp only [if_pos h0]
    rfl
  simp only [if_neg h0, Val.ofNat, pySub_num, pyMul_num, Res.bind_val, Val.ofOptNat, Nat.cast_mul,
    Nat.cast_sub (Nat.pos_of_ne_zero h0), Nat.cast_one, Nat.cast_ofNat, apply_ite (fun s : String => Val.str s.toList)]
  -- the source texts: `toList` of a literal evaluates to the list of characters of the generated code
  rfl

/-- Python returns `(alt | None, source text, reference text)` -/
theorem target_altitude_tie (m : Msg) (h : IsHex m) (hl : m.length = 28) :
    Gen.bds62.target_altitude (.str m) =
      (PyModeS.targetAltitude (hex2binM m) >>= fun r =>
        .val (.tuple [Val.ofOptInt r.1, .str r.2.1.toList, .str r.2.2.toList])) := by
  unfold Gen.bds62.target_altitude PyModeS.targetAltitude PyModeS.tc29
  adsb62_open m h hl 29
  adsb62_mb
  simp only [Val.ofNat, pyMul_num, pyAdd_num, Res.bind_val]
  by_cases hst : bin2int (slice 5 7 d) = 1
  · rw [if_pos hst, if_pos hst]
  rw [if_neg hst, if_neg hst]
  by_cases h0 : bin2int (slice 7 9 d) = 0
  · simp only [if_pos h0]
    rfl
  simp only [if_neg h0, Val.ofOptInt, Int.cast_add, Int.cast_mul, Int.cast_neg, Int.cast_natCast, Int.cast_ofNat,
    apply_ite (fun s : String => Val.str s.toList)]
  -- the three source texts; in each case `rfl` evaluates `toList` of the literals
  by_cases h1 : bin2int (slice 7 9 d) = 1
  · simp only [if_pos h1]
    rfl
  by_cases h2 : bin2int (slice 7 9 d) = 2
  · simp only [if_neg h1, if_pos h2]
    rfl
  simp only [if_neg h1, if_neg h2]
  rfl

/-- Python returns `(angle | None, angle type text, source text)` -/
theorem target_angle_tie (m : Msg) (h : IsHex m) (hl : m.length = 28) :
    Gen.bds62.target_angle (.str m) =
      (PyModeS.targetAngle (hex2binM m) >>= fun r =>
        .val (.tuple [Val.ofOptNat r.1, .str r.2.1.toList, .str r.2.2.toList])) := by
  unfold Gen.bds62.target_angle PyModeS.targetAngle PyModeS.tc29
  adsb62_open m h hl 29
  adsb62_mb
  by_cases hst : bin2int (slice 5 7 d) = 1
  · rw [if_pos hst, if_pos hst]
  rw [if_neg hst, if_neg hst]
  by_cases h0 : bin2int (slice 25 27 d) = 0
  · simp only [if_pos h0]
    rfl
  simp only [if_neg h0, Val.ofOptNat, Val.ofNat, apply_ite (fun s : String => Val.str s.toList)]
  -- the three source texts; in each case `rfl` evaluates `toList` of the literals
  by_cases h1 : bin2int (slice 25 27 d) = 1
  · simp only [if_pos h1]
    rfl
  by_cases h2 : bin2int (slice 25 27 d) = 2
  · simp only [if_neg h1, if_pos h2]
    rfl
  simp only [if_neg h1, if_neg h2]
  rfl

end PyModeS.Tie
