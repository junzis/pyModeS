/-
  C07 transported to the source-generated definitions: the frame-level altitude theorems of `Properties/C07.lean`
  stated about `Gen.py_common.altcode`, `Gen.surv.altitude`, `Gen.bds05.altitude`, `Gen.adsb.altitude` and the encoder
  round trips about `Gen.py_common.altitude` (the Lean text py2lean.py produced from the current Python source), by
  composing the tie theorems (`Tie/Common.lean`, `Tie/Surv.lean`, `Tie/Bds05b.lean`, `Tie/Adsb.lean`) with C07.
  (The 13-bit specification and the length guard of `altitude` are in `Tie/C0278Gen.lean`.)
-/
import PyModeS.Properties.C07
import PyModeS.Tie.Common
import PyModeS.Tie.Surv
import PyModeS.Tie.Bds05b
import PyModeS.Tie.Adsb

namespace PyModeS.C07Gen
open PyModeS PyModeS.Py PyModeS.CRC PyModeS.Spec

/-! ### round trips through the Annex 10 encoders, for the generated `common.altitude` -/

/-- Q = 0: the generated `altitude` decodes the Gillham code of every legal altitude -1200 … 126700 ft to it -/
theorem altitude_gillham_roundtrip_tie (k : Nat) (h : k < 1280) :
    Gen.py_common.altitude (Val.ofBits (ac13OfAlt k)) = .val (.num (((k : Int) * 100 - 1200 : Int) : Rat)) := by
  rw [Tie.altitude_tie, C07.gillham_roundtrip k h]; rfl

/-- Q = 1: `N*25 - 1000` ft for every `N < 2048` -/
theorem altitude_q25_roundtrip_tie (n : Nat) (h : n < 2048) :
    Gen.py_common.altitude (Val.ofBits (ac13OfN25 n)) = .val (.num (((n : Int) * 25 - 1000 : Int) : Rat)) := by
  rw [Tie.altitude_tie, C07.q25_roundtrip n h]; rfl

/-- M = 1: metres converted to feet, `floor(N * 3.28084)`, for every `0 < N < 4096` -/
theorem altitude_metric_roundtrip_tie (n : Nat) (h0 : 0 < n) (h : n < 4096) :
    Gen.py_common.altitude (Val.ofBits (ac13OfMetric n)) =
      .val (.num ((((n * 328084 / 100000 : Nat) : Int)) : Rat)) := by
  rw [Tie.altitude_tie, C07.metric_roundtrip n h0 h]; rfl

/-- the all-zero code is `None` -/
theorem altitude_zero_code_none_tie : Gen.py_common.altitude (Val.ofBits (natToBits 13 0)) = .val .none := by
  rw [Tie.altitude_tie, C07.zero_code_none]; rfl

/-- illegal Gillham patterns (C1 C2 C4 in {000, 101, 111}) give `None` for every 500-ft field -/
theorem altitude_illegal_gillham_none_tie (g : Nat) (h : g < 256) :
    Gen.py_common.altitude (Val.ofBits (ac13OfGillham g 0)) = .val .none ∧
    Gen.py_common.altitude (Val.ofBits (ac13OfGillham g 5)) = .val .none ∧
    Gen.py_common.altitude (Val.ofBits (ac13OfGillham g 7)) = .val .none := by
  obtain ⟨h0, h5, h7⟩ := C07.illegal_gillham_none g h
  refine ⟨?_, ?_, ?_⟩
  · rw [Tie.altitude_tie, C07.altitude13_spec _ rfl, h0]; rfl
  · rw [Tie.altitude_tie, C07.altitude13_spec _ rfl, h5]; rfl
  · rw [Tie.altitude_tie, C07.altitude13_spec _ rfl, h7]; rfl

/-! ### frame level -/

/-- `common.altcode` (generated) on every hex string of at least 8 digits: for DF 0/4/16/20 the Annex 10 altitude of
    bits 20–32 (a function of the DF and the AC field only); every other DF is rejected with RuntimeError -/
theorem altcode_frame_tie (m : Msg) (h : IsHex m) (hl : 8 ≤ m.length) :
    Gen.py_common.altcode (.str m) =
      if dfB (hex2binM m) = 0 ∨ dfB (hex2binM m) = 4 ∨ dfB (hex2binM m) = 16 ∨ dfB (hex2binM m) = 20
      then .val (Val.ofOptInt (alt13 (PyModeS.bin2int (slice 19 32 (hex2binM m))))) else .rte := by
  rw [Tie.altcode_tie m h (by omega), C07.altcode_msg, C07.altcode_frame _ (Fields.bits_ge m hl)]
  split_ifs <;> rfl

/-- `surv.altitude` (generated, with its DF decorator): DF 4 only -/
theorem surv_altitude_frame_tie (m : Msg) (h : IsHex m) (hl : 8 ≤ m.length) :
    Gen.surv.altitude (.str m) =
      if dfB (hex2binM m) = 4
      then .val (Val.ofOptInt (alt13 (PyModeS.bin2int (slice 19 32 (hex2binM m))))) else .rte := by
  rw [Tie.surv_altitude_tie m h (by omega), C07.surv_altitude_frame _ (Fields.bits_ge m hl)]
  split_ifs <;> rfl

/-- the generated `surv.altitude` and `common.altcode` agree on every DF 4 frame -/
theorem surv_altitude_eq_altcode_tie (m : Msg) (h : IsHex m) (hl : 8 ≤ m.length) (hd : dfB (hex2binM m) = 4) :
    Gen.surv.altitude (.str m) = Gen.py_common.altcode (.str m) := by
  rw [surv_altitude_frame_tie m h hl, altcode_frame_tie m h hl]
  simp [hd]

/-- the right-hand side of the ADS-B altitude specification (C07.adsb_altitude_frame), as a Python value -/
def adsbAltSpec (bits : Bits) : Res Val :=
  match tcB bits with
  | none => .rte
  | some tc =>
    if 5 ≤ tc ∧ tc ≤ 8 then .val (.num 0)
    else if 9 ≤ tc ∧ tc ≤ 18 then .val (Val.ofOptInt (alt13 (PyModeS.bin2int (C07.ac13OfAdsb bits))))
    else if 20 ≤ tc ∧ tc ≤ 22 then .val (.num ((PyModeS.bin2int (slice 40 52 bits) : Rat) * 328084 / 100000))
    else .rte

theorem ofOptRat_optIntToRat (o : Option Int) : Val.ofOptRat (optIntToRat o) = Val.ofOptInt o := by
  cases o <;> rfl

theorem adsbAltitude_enc (bits : Bits) (h : bits.length = 112) :
    (adsbAltitude bits >>= fun o => (.val (Val.ofOptRat o) : Res Val)) = adsbAltSpec bits := by
  rw [C07.adsb_altitude_frame bits h]
  unfold adsbAltSpec
  cases tcB bits with
  | none => rfl
  | some tc =>
    simp only [apply_ite (· >>= fun o => (.val (Val.ofOptRat o) : Res Val)), Res.bind_val, Res.bind_rte,
      ofOptRat_optIntToRat]
    rfl

/-- `adsb.altitude` (generated dispatcher + generated `bds05.altitude`) on every 28-digit frame: TC 9–18 barometric
    code (12-bit field, M = 0), TC 20–22 GNSS height in metres × 3.28084, TC 5–8 zero, RuntimeError otherwise —
    a function of DF, TC and ME bits 9–20 only -/
theorem adsb_altitude_frame_tie (m : Msg) (h : IsHex m) (hl : m.length = 28) :
    Gen.adsb.altitude (.str m) = adsbAltSpec (hex2binM m) := by
  have hb := Tie.frame_bits m hl
  rw [Tie.adsb_altitude_tie_of_callee m h (by omega) (Tie.bds05_altitude_tie m h (by omega)), adsbAltitude_enc _ hb]

/-- `bds05.altitude` (generated) on every 28-digit frame: as `adsb.altitude` but TC 5–8 is rejected as well -/
theorem bds05_altitude_frame_tie (m : Msg) (h : IsHex m) (hl : m.length = 28) :
    Gen.bds05.altitude (.str m) =
      match tcB (hex2binM m) with
      | none => .rte
      | some tc => if 9 ≤ tc ∧ tc ≤ 18 ∨ 20 ≤ tc ∧ tc ≤ 22 then adsbAltSpec (hex2binM m) else .rte := by
  have hb := Tie.frame_bits m hl
  have ha := adsb_altitude_frame_tie m h hl
  rw [Tie.adsb_altitude_tie m h (by omega)] at ha
  cases htc : tcB (hex2binM m) with
  | none =>
    rw [Tie.bds05_altitude_tie m h (by omega)]
    unfold altitude05; rw [htc]; rfl
  | some tc =>
    rw [htc] at ha
    simp only [] at ha ⊢
    by_cases c : 9 ≤ tc ∧ tc ≤ 18 ∨ 20 ≤ tc ∧ tc ≤ 22
    · have c1 : ¬ (tc < 5 ∨ tc = 19 ∨ tc > 22) := by omega
      have c2 : ¬ (tc ≥ 5 ∧ tc ≤ 8) := by omega
      rw [if_neg c1, if_neg c2] at ha
      rw [if_pos c, ha]
    · rw [if_neg c, Tie.bds05_altitude_tie m h (by omega)]
      unfold altitude05; rw [htc]
      have c1 : tc < 9 ∨ tc = 19 ∨ tc > 22 := by omega
      simp [c1]

end PyModeS.C07Gen
