/-
  Tie for `TcpClient.read_beast_buffer` (extra/tcpclient.py, property C16): the generated method (a `while` loop with
  fuel that splits `self.buffer` into un-escaped frames, then a `for` loop that extracts the messages) against
  `readBeast` / `beastScan` / `beastExtract` of Model/Stream.lean.

  The first sections (byte buffers as values, small numbers, the hex join) are what the other readers,
  `Tie/Source.lean` and `Tie/C16Gen.lean` use as well; receivers as attribute dictionaries and the `for` rule
  `forIn_fold` are in `Tie/Attr.lean`.
-/
import PyModeS.Tie.Common
import PyModeS.Tie.Attr
import PyModeS.Generated.Src.tcpclient
import PyModeS.Model.Stream

open PyModeS PyModeS.Py PyModeS.CRC PyModeS.Tie
namespace PyModeS.Tie.Beast

/-! ### bytes -/

def encBytes (l : List Byte) : Val := .tuple (l.map Val.ofNat)

/-- the receiver `l` with `self.buffer = buf` -/
def selfB (l : List (Val × Val)) (buf : List Byte) : Val :=
  .dict (setPair (attrKey "buffer") (encBytes buf) l)

theorem get_buf (l : List (Val × Val)) (buf : List Byte) :
    pyGetAttr (selfB l buf) "buffer" = .val (encBytes buf) := by
  simp only [pyGetAttr, selfB, attrKey, dictFind_setPair_same]

theorem set_buf (l : List (Val × Val)) (buf buf' : List Byte) :
    pySetAttr (selfB l buf) "buffer" (encBytes buf') = .val (selfB l buf') := by
  simp only [pySetAttr, selfB, attrKey, setPair_setPair]

theorem len_bytes (buf : List Byte) : pyLen (encBytes buf) = .val (Val.ofNat buf.length) := by
  simp [pyLen, encBytes]

theorem pyIdx_bytes (buf : List Byte) (k : Nat) (h : k < buf.length) :
    Py.pyIdx (encBytes buf) (Val.ofNat k) = .val (Val.ofNat (buf.getD k 0)) := by
  have hk : ¬ ((k : Int) < 0) := by omega
  have e : Val.ofNat k = .num (k : Rat) := rfl
  have hi : (Val.num (k : Rat)).int? = some (k : Int) := int?_ofNat k
  rw [e]
  simp only [Py.pyIdx, encBytes, hi, idxList, hk, if_false, Int.toNat_natCast]
  simp [h]

theorem pyIdxN_bytes (buf : List Byte) (k : Nat) (h : k < buf.length) :
    pyIdxN (encBytes buf) k = .val (Val.ofNat (buf.getD k 0)) := by
  simp [pyIdxN, encBytes, h]

theorem pySlice_bytes (buf : List Byte) (a b : Nat) :
    pySlice (encBytes buf) (some (Val.ofNat a)) (some (Val.ofNat b)) = .val (encBytes (slice a b buf)) := by
  simp only [pySlice, optInt_ofNat, bind_val', encBytes, sliceList, normBound_nonneg, List.length_map]
  simp only [slice, List.map_take, List.map_drop]
  congr 2
  rcases Nat.lt_or_ge buf.length a with hlt | hge
  · rw [Nat.min_eq_right (Nat.le_of_lt hlt), List.drop_eq_nil_of_le (by simp), List.drop_eq_nil_of_le (by simp; omega)]
    simp
  · rw [Nat.min_eq_left hge]
    rcases Nat.lt_or_ge buf.length b with hlt2 | hge2
    · rw [Nat.min_eq_right (Nat.le_of_lt hlt2)]
      rw [List.take_of_length_le (by simp only [List.length_drop, List.length_map]; omega),
        List.take_of_length_le (by simp only [List.length_drop, List.length_map]; omega)]
    · rw [Nat.min_eq_left hge2]

theorem pySlice_bytes_from (buf : List Byte) (k : Nat) :
    pySlice (encBytes buf) (some (Val.ofNat k)) none = .val (encBytes (buf.drop k)) := by
  have i1 : optInt none = .val none := rfl
  simp only [pySlice, optInt_ofNat, i1, bind_val', encBytes, sliceList, normBound_nonneg, List.length_map, slice]
  congr 2
  rw [← List.map_drop]
  rcases Nat.lt_or_ge buf.length k with hlt | hge
  · rw [Nat.min_eq_right (Nat.le_of_lt hlt), List.drop_eq_nil_of_le (Nat.le_of_lt hlt)]
    simp
  · rw [Nat.min_eq_left hge, List.take_of_length_le (by simp)]

theorem pySliceN_bytes (buf : List Byte) (k : Nat) : pySliceN_ (encBytes buf) k = .val (encBytes (buf.drop k)) := by
  simp [pySliceN_, encBytes, List.map_drop]

/-! ### numbers -/

theorem bitop_lit (f : Nat → Nat → Nat) (a k : Nat) :
    bitop f (Val.ofNat a) (.num (k : Rat)) = .val (Val.ofNat (f a k)) := bitop_ofNat f a k

theorem add1 (a : Nat) : pyAdd (Val.ofNat a) (.num 1) = .val (Val.ofNat (a + 1)) := pyAdd_ofNat a 1
theorem add3 (a : Nat) : pyAdd (Val.ofNat a) (.num 3) = .val (Val.ofNat (a + 3)) := pyAdd_ofNat a 3
theorem add6 (a : Nat) : pyAdd (Val.ofNat a) (.num 6) = .val (Val.ofNat (a + 6)) := pyAdd_ofNat a 6
theorem add7 (a : Nat) : pyAdd (Val.ofNat a) (.num 7) = .val (Val.ofNat (a + 7)) := pyAdd_ofNat a 7
theorem add14 (a : Nat) : pyAdd (Val.ofNat a) (.num 14) = .val (Val.ofNat (a + 14)) := pyAdd_ofNat a 14
theorem add24 (a : Nat) : pyAdd (Val.ofNat a) (.num 24) = .val (Val.ofNat (a + 24)) := pyAdd_ofNat a 24
theorem shr7 (a : Nat) : pyShr (Val.ofNat a) (.num 7) = .val (Val.ofNat (a >>> 7)) := bitop_lit _ a 7
theorem shr6 (a : Nat) : pyShr (Val.ofNat a) (.num 6) = .val (Val.ofNat (a >>> 6)) := bitop_lit _ a 6
theorem shl10 (a : Nat) : pyShl (Val.ofNat a) (.num 10) = .val (Val.ofNat (a <<< 10)) := bitop_lit _ a 10
theorem shl2 (a : Nat) : pyShl (Val.ofNat a) (.num 2) = .val (Val.ofNat (a <<< 2)) := bitop_lit _ a 2
theorem shl24 (a : Nat) : pyShl (Val.ofNat a) (.num 24) = .val (Val.ofNat (a <<< 24)) := bitop_lit _ a 24
theorem shl16 (a : Nat) : pyShl (Val.ofNat a) (.num 16) = .val (Val.ofNat (a <<< 16)) := bitop_lit _ a 16
theorem shl8 (a : Nat) : pyShl (Val.ofNat a) (.num 8) = .val (Val.ofNat (a <<< 8)) := bitop_lit _ a 8
theorem and127 (a : Nat) : pyBitAnd (Val.ofNat a) (.num 127) = .val (Val.ofNat (a &&& 127)) := bitop_lit _ a 127
theorem and63 (a : Nat) : pyBitAnd (Val.ofNat a) (.num 63) = .val (Val.ofNat (a &&& 63)) := bitop_lit _ a 63
theorem bitor (a b : Nat) : pyBitOr (Val.ofNat a) (Val.ofNat b) = .val (Val.ofNat (a ||| b)) := bitop_ofNat _ a b
theorem eq36 (n : Nat) : pyEq (Val.ofNat n) (.num 36) = .val (.bool (decide (n = 36))) := pyEq_ofNat n 36
theorem gt24 (n : Nat) : pyGt (Val.ofNat n) (.num 24) = .val (.bool (decide (24 < n))) := pyGt_ofNat_lit n 24
theorem le24 (n : Nat) : pyLe (Val.ofNat n) (.num 24) = .val (.bool (decide (n ≤ 24))) := pyLe_ofNat_lit n 24
theorem pyMul_ofNat_num (n : Nat) (q : Rat) : pyMul (Val.ofNat n) (.num q) = .val (.num ((n : Rat) * q)) := rfl
theorem pyAdd_ofNat_num (n : Nat) (q : Rat) : pyAdd (Val.ofNat n) (.num q) = .val (.num ((n : Rat) + q)) := rfl


/-! ### `"".join("%02X" % j for j in payload)` -/

theorem fmt2 (b : Nat) (h : b < 256) : pyFmtHexU 2 (Val.ofNat b) = .val (.str (hex2 b)) := by
  have := pad_toDigits_eq_hexN 1 b (by simpa using h)
  simp only [pyFmtHexU, int?_ofNat]
  show Res.val (Val.str _) = _
  rw [this]
  rfl

theorem compList_hex (f : Val → Res (Option Val)) (p : List Byte)
    (hf : ∀ b ∈ p, f (Val.ofNat b) = .val (some (.str (hex2 b)))) :
    compList f (p.map Val.ofNat) = .val (p.map fun b => .str (hex2 b)) := by
  induction p with
  | nil => rfl
  | cons b p ih =>
    simp only [List.map_cons, compList, hf b (by simp), ih (fun c hc => hf c (List.mem_cons_of_mem _ hc))]

theorem pyComp_hex (f : Val → Res (Option Val)) (p : List Byte)
    (hf : ∀ b ∈ p, f (Val.ofNat b) = .val (some (.str (hex2 b)))) :
    pyComp (encBytes p) f = .val (.tuple (p.map fun b => .str (hex2 b))) := by
  have hit : pyIter (encBytes p) = .val (p.map Val.ofNat) := rfl
  simp only [pyComp, hit, bind_val', compList_hex f p hf, Res.pure_eq]

/-- the generator `"%02X" % j for j in p` on byte values -/
theorem pyComp_fmt2 (p : List Byte) (hp : ∀ b ∈ p, b < 256) :
    pyComp (encBytes p) (fun x => pyFmtHexU 2 x >>= fun y => Res.val (some y)) =
      .val (.tuple (p.map fun b => .str (hex2 b))) :=
  pyComp_hex _ p fun b hb => by rw [fmt2 b (hp b hb), bind_val']

theorem mapM_str (g : Val → Option (List Char)) (hg : ∀ t, g (.str t) = some t) (ss : List (List Char)) :
    (ss.map Val.str).mapM g = some ss := by
  induction ss with
  | nil => rfl
  | cons a ss ih => simp [List.mapM_cons, hg, ih]

theorem flatten_intersperse_nil : ∀ ss : List (List Char), (List.intersperse [] ss).flatten = ss.flatten
  | [] => rfl
  | [a] => rfl
  | a :: b :: rest => by
    have ih := flatten_intersperse_nil (b :: rest)
    simp only [List.intersperse, List.flatten_cons, List.nil_append] at ih ⊢
    rw [ih]

theorem pyJoin_hex (p : List Byte) :
    pyJoin (.str []) (.tuple (p.map fun b => .str (hex2 b))) = .val (.str (hexOfBytes p)) := by
  have e : (p.map fun b => Val.str (hex2 b)) = (p.map hex2).map Val.str := by rw [List.map_map]; rfl
  rw [e]
  simp only [pyJoin]
  rw [mapM_str _ (fun t => rfl)]
  simp only [List.intercalate, flatten_intersperse_nil, hexOfBytes, List.flatMap]


/-! ### the `while` loop of `read_beast_buffer` on indices, as in the source -/

/-- `messages_mlat` (newest first), `msg`, `i`, `start` -/
structure BS where
  out : List (List Byte)
  msg : List Byte
  i : Nat
  start : Nat

/-- one iteration; `none`: the loop ends (condition false, or `break`) -/
def bStep (buf : List Byte) (s : BS) : Option BS :=
  if ¬ s.i < buf.length then none
  else if slice s.i (s.i + 2) buf = [26, 26] then some ⟨s.out, s.msg ++ [26], s.i + 2, s.start⟩
  else if s.i = buf.length - 1 ∧ buf.getD s.i 0 = 26 then none
  else if buf.getD s.i 0 = 26 then some ⟨if 0 < s.msg.length then s.msg :: s.out else s.out, [], s.i + 1, s.i⟩
  else some ⟨s.out, s.msg ++ [buf.getD s.i 0], s.i + 1, s.start⟩

def bIter (buf : List Byte) : Nat → BS → BS
  | 0, s => s
  | n + 1, s => match bStep buf s with
    | none => s
    | some s' => bIter buf n s'

theorem drop_eq_cons_getD (buf : List Byte) (i : Nat) (h : i < buf.length) :
    buf.drop i = buf.getD i 0 :: buf.drop (i + 1) := by
  rw [List.drop_eq_getElem_cons h]
  simp [h]

theorem bStep_done (buf : List Byte) (s : BS) (h : ¬ s.i < buf.length) : bStep buf s = none := by
  unfold bStep; rw [if_pos h]
theorem bStep_esc (buf : List Byte) (s : BS) (h : s.i < buf.length) (hsl : slice s.i (s.i + 2) buf = [26, 26]) :
    bStep buf s = some ⟨s.out, s.msg ++ [26], s.i + 2, s.start⟩ := by
  unfold bStep; rw [if_neg (not_not_intro h), if_pos hsl]
theorem bStep_last (buf : List Byte) (s : BS) (h : s.i < buf.length) (hsl : ¬ slice s.i (s.i + 2) buf = [26, 26])
    (hl : s.i = buf.length - 1 ∧ buf.getD s.i 0 = 26) : bStep buf s = none := by
  unfold bStep; rw [if_neg (not_not_intro h), if_neg hsl, if_pos hl]
theorem bStep_div (buf : List Byte) (s : BS) (h : s.i < buf.length) (hsl : ¬ slice s.i (s.i + 2) buf = [26, 26])
    (hl : ¬ (s.i = buf.length - 1 ∧ buf.getD s.i 0 = 26)) (hd : buf.getD s.i 0 = 26) :
    bStep buf s = some ⟨if 0 < s.msg.length then s.msg :: s.out else s.out, [], s.i + 1, s.i⟩ := by
  unfold bStep; rw [if_neg (not_not_intro h), if_neg hsl, if_neg hl, if_pos hd]
theorem bStep_byte (buf : List Byte) (s : BS) (h : s.i < buf.length) (hsl : ¬ slice s.i (s.i + 2) buf = [26, 26])
    (hl : ¬ (s.i = buf.length - 1 ∧ buf.getD s.i 0 = 26)) (hd : ¬ buf.getD s.i 0 = 26) :
    bStep buf s = some ⟨s.out, s.msg ++ [buf.getD s.i 0], s.i + 1, s.start⟩ := by
  unfold bStep; rw [if_neg (not_not_intro h), if_neg hsl, if_neg hl, if_neg hd]

theorem bIter_none (buf : List Byte) (n : Nat) (s : BS) (h : bStep buf s = none) : bIter buf (n + 1) s = s := by
  rw [bIter, h]
theorem bIter_some (buf : List Byte) (n : Nat) (s s' : BS) (h : bStep buf s = some s') :
    bIter buf (n + 1) s = bIter buf n s' := by
  rw [bIter, h]

/-- `beastScan` of the hand model (on suffixes of the buffer) is the iteration of `bStep` (on indices) -/
theorem beastScan_eq_bIter (buf : List Byte) :
    ∀ (n : Nat) (s : BS), buf.length ≤ s.i + n → s.i ≤ buf.length →
      beastScan (buf.drop s.i) s.msg s.out (buf.drop s.start) =
        ((bIter buf n s).out.reverse, buf.drop (bIter buf n s).start) ∧
      bStep buf (bIter buf n s) = none := by
  intro n
  induction n using Nat.strong_induction_on with
  | _ n ih =>
    intro s hn hi
    rcases Nat.lt_or_ge s.i buf.length with hlt | hge
    swap
    · -- the buffer is used up
      have hnil : buf.drop s.i = [] := List.drop_eq_nil_of_le hge
      have hst := bStep_done buf s (Nat.not_lt.2 hge)
      have hbi : bIter buf n s = s := by
        cases n with
        | zero => rfl
        | succ n => exact bIter_none buf n s hst
      rw [hnil, beastScan, hbi]
      exact ⟨rfl, hst⟩
    · have hd := drop_eq_cons_getD buf s.i hlt
      obtain ⟨n', rfl⟩ : ∃ n', n = n' + 1 := ⟨n - 1, by omega⟩
      rcases Nat.lt_or_ge (s.i + 1) buf.length with hlt2 | hge2
      · -- at least two bytes left
        have hd2 := drop_eq_cons_getD buf (s.i + 1) hlt2
        have hsl : slice s.i (s.i + 2) buf = [buf.getD s.i 0, buf.getD (s.i + 1) 0] := by
          simp only [slice, hd, hd2, Nat.add_sub_cancel_left, List.take_succ_cons, List.take_zero]
        have hnl : ¬ (s.i = buf.length - 1 ∧ buf.getD s.i 0 = 26) := by omega
        rw [hd, hd2, beastScan]
        by_cases hesc : buf.getD s.i 0 = 0x1A ∧ buf.getD (s.i + 1) 0 = 0x1A
        · have hst := bStep_esc buf s hlt (by rw [hsl, hesc.1, hesc.2])
          rw [if_pos hesc, bIter_some buf _ s _ hst]
          exact ih n' (by omega) ⟨s.out, s.msg ++ [26], s.i + 2, s.start⟩ (by simp only; omega) (by simp only; omega)
        · rw [if_neg hesc]
          have hsl' : ¬ slice s.i (s.i + 2) buf = [26, 26] := by
            rw [hsl]; intro e; injection e with e1 e2; injection e2 with e2 _; exact hesc ⟨e1, e2⟩
          by_cases hdiv : buf.getD s.i 0 = 0x1A
          · have hst := bStep_div buf s hlt hsl' hnl hdiv
            rw [if_pos hdiv, bIter_some buf _ s _ hst]
            have := ih n' (by omega) ⟨if 0 < s.msg.length then s.msg :: s.out else s.out, [], s.i + 1, s.i⟩
              (by simp only; omega) (by simp only; omega)
            simp only at this
            rw [hd2, hd, hd2] at this
            have hemp : (if s.msg.isEmpty then s.out else s.msg :: s.out) =
                (if 0 < s.msg.length then s.msg :: s.out else s.out) := by
              cases s.msg <;> simp
            rw [hemp]
            exact this
          · have hst := bStep_byte buf s hlt hsl' hnl hdiv
            rw [if_neg hdiv, bIter_some buf _ s _ hst]
            have := ih n' (by omega) ⟨s.out, s.msg ++ [buf.getD s.i 0], s.i + 1, s.start⟩
              (by simp only; omega) (by simp only; omega)
            simp only at this
            rw [hd2] at this
            exact this
      · -- exactly one byte left
        have hnil : buf.drop (s.i + 1) = [] := List.drop_eq_nil_of_le hge2
        have hsl' : ¬ slice s.i (s.i + 2) buf = [26, 26] := by
          intro e
          have := congrArg List.length e
          simp [slice] at this
          omega
        rw [hd, hnil, beastScan]
        by_cases hdiv : buf.getD s.i 0 = 0x1A
        · have hst := bStep_last buf s hlt hsl' ⟨by omega, hdiv⟩
          rw [if_pos hdiv, bIter_none buf _ s hst]
          exact ⟨rfl, hst⟩
        · have hnl : ¬ (s.i = buf.length - 1 ∧ buf.getD s.i 0 = 26) := fun h => hdiv h.2
          have hst := bStep_byte buf s hlt hsl' hnl hdiv
          rw [if_neg hdiv, bIter_some buf _ s _ hst]
          have := ih n' (by omega) ⟨s.out, s.msg ++ [buf.getD s.i 0], s.i + 1, s.start⟩
            (by simp only; omega) (by simp only; omega)
          simp only at this
          rw [hnil] at this
          exact this

/-! ### first loop: the generated `while` against `bIter` -/

def encMlat (l : List (List Byte)) : Val := .tuple (l.map encBytes)

abbrev S1 := Val × Val × Val × Val × Bool

def encS (s : BS) (fl : Bool) : S1 := (encMlat s.out.reverse, encBytes s.msg, Val.ofNat s.i, Val.ofNat s.start, fl)

theorem loop1 (buf : List Byte) (f : Nat → S1 → Res (ForInStep S1))
    (hstep : ∀ x s, f x (encS s true) = .val (match bStep buf s with
      | none => .done (encS s false)
      | some s' => .yield (encS s' true))) :
    ∀ (n : Nat) (s : BS) (a r : Nat), n < r → bStep buf (bIter buf n s) = none →
      forIn (List.range' a r 1) (encS s true) f = Res.val (encS (bIter buf n s) false) := by
  intro n
  induction n with
  | zero =>
    intro s a r hr hnone
    obtain ⟨r', rfl⟩ : ∃ r', r = r' + 1 := ⟨r - 1, by omega⟩
    rw [bIter] at hnone ⊢
    rw [List.range'_succ, List.forIn_cons, hstep, hnone, bind_val']
    rfl
  | succ n ih =>
    intro s a r hr hnone
    obtain ⟨r', rfl⟩ : ∃ r', r = r' + 1 := ⟨r - 1, by omega⟩
    rw [List.range'_succ, List.forIn_cons, hstep, bind_val']
    cases hst : bStep buf s with
    | none =>
      rw [bIter_none buf n s hst]
      rfl
    | some s' =>
      rw [bIter_some buf n s s' hst] at hnone ⊢
      simp only []
      exact ih s' (a + 1) r' (by omega) hnone

theorem beqList_bytes (x y : List Byte) : Val.beqList (x.map Val.ofNat) (y.map Val.ofNat) = decide (x = y) := by
  induction x generalizing y with
  | nil => cases y <;> simp [Val.beqList]
  | cons a x ih =>
    cases y with
    | nil => simp [Val.beqList]
    | cons b y =>
      have hab : (Val.ofNat a).beq (Val.ofNat b) = decide (a = b) := ofNat_beq a b
      simp only [List.map_cons, Val.beqList, hab, ih, List.cons.injEq, Bool.decide_and]

theorem pyEq_bytes (x y : List Byte) : pyEq (encBytes x) (encBytes y) = .val (.bool (decide (x = y))) := by
  simp only [pyEq, encBytes, Val.beq, beqList_bytes]

theorem pySub_one (a : Nat) (h : 1 ≤ a) : pySub (Val.ofNat a) (.num 1) = .val (Val.ofNat (a - 1)) :=
  pySub_ofNat a 1 h
theorem add2 (a : Nat) : pyAdd (Val.ofNat a) (.num 2) = .val (Val.ofNat (a + 2)) := pyAdd_ofNat a 2
theorem gt0 (n : Nat) : pyGt (Val.ofNat n) (.num 0) = .val (.bool (decide (0 < n))) := pyGt_ofNat n 0
theorem app26 (m : List Byte) : pyAppend (encBytes m) (.num 26) = .val (encBytes (m ++ [26])) := by
  simp [pyAppend, encBytes]; rfl
theorem appByte (m : List Byte) (b : Nat) : pyAppend (encBytes m) (Val.ofNat b) = .val (encBytes (m ++ [b])) := by
  simp [pyAppend, encBytes]
theorem appMlat (o : List (List Byte)) (m : List Byte) :
    pyAppend (encMlat o) (encBytes m) = .val (encMlat (o ++ [m])) := by
  simp [pyAppend, encMlat]

def encStamped (l : List Msg) : Val := .tuple (l.map fun m => .tuple [.str m, .num 0])


/-! ### frames collected by the first loop are non-empty lists of bytes -/

def Good (s : BS) : Prop := (∀ fr ∈ s.out, fr ≠ [] ∧ ∀ b ∈ fr, b < 256) ∧ ∀ b ∈ s.msg, b < 256

theorem getD_lt (buf : List Byte) (hb : ∀ b ∈ buf, b < 256) (i : Nat) : buf.getD i 0 < 256 := by
  rcases Nat.lt_or_ge i buf.length with h | h
  · have : buf.getD i 0 = buf[i] := by simp [h]
    rw [this]; exact hb _ (List.getElem_mem h)
  · simp [List.getElem?_eq_none h]

theorem slice_lt {buf : List Byte} (hb : ∀ b ∈ buf, b < 256) (a c : Nat) : ∀ b ∈ slice a c buf, b < 256 :=
  fun b h => hb b (List.mem_of_mem_drop (List.mem_of_mem_take h))

theorem bStep_good (buf : List Byte) (hb : ∀ b ∈ buf, b < 256) (s s' : BS) (hg : Good s)
    (h : bStep buf s = some s') : Good s' := by
  obtain ⟨ho, hm⟩ := hg
  by_cases h1 : s.i < buf.length
  swap
  · rw [bStep_done buf s h1] at h; cases h
  by_cases h2 : slice s.i (s.i + 2) buf = [26, 26]
  · rw [bStep_esc buf s h1 h2] at h
    cases h
    refine ⟨ho, ?_⟩
    intro b hbm
    simp only [List.mem_append, List.mem_singleton] at hbm
    rcases hbm with h | h
    · exact hm b h
    · subst h; decide
  by_cases h3 : s.i = buf.length - 1 ∧ buf.getD s.i 0 = 26
  · rw [bStep_last buf s h1 h2 h3] at h; cases h
  by_cases h4 : buf.getD s.i 0 = 26
  · rw [bStep_div buf s h1 h2 h3 h4] at h
    cases h
    refine ⟨?_, fun b hbm => by simp at hbm⟩
    simp only
    by_cases hl : 0 < s.msg.length
    · rw [if_pos hl]
      intro fr hfr
      rcases List.mem_cons.1 hfr with h | h
      · subst h
        exact ⟨fun e => by simp [e] at hl, hm⟩
      · exact ho fr h
    · rw [if_neg hl]; exact ho
  · rw [bStep_byte buf s h1 h2 h3 h4] at h
    cases h
    refine ⟨ho, ?_⟩
    intro b hbm
    simp only [List.mem_append, List.mem_singleton] at hbm
    rcases hbm with h | h
    · exact hm b h
    · subst h; exact getD_lt buf hb _

theorem bIter_good (buf : List Byte) (hb : ∀ b ∈ buf, b < 256) (n : Nat) (s : BS) (hg : Good s) :
    Good (bIter buf n s) := by
  induction n generalizing s with
  | zero => exact hg
  | succ n ih =>
    cases h : bStep buf s with
    | none => rw [bIter_none buf n s h]; exact hg
    | some s' => rw [bIter_some buf n s s' h]; exact ih s' (bStep_good buf hb s s' hg h)

abbrev S2 := Val × Val × Val × Val × Val × Val

/-! ### primitives of the second loop -/

theorem pySliceNN_bytes (fr : List Byte) (a b : Nat) :
    pySliceNN (encBytes fr) a b = .val (encBytes (slice a b fr)) := by
  simp [pySliceNN, encBytes, slice, List.map_take, List.map_drop]

theorem isHex_hexOfBytes (p : List Byte) : IsHex (hexOfBytes p) := by
  intro c hc
  simp only [hexOfBytes, List.mem_flatMap, hex2, List.mem_cons, List.not_mem_nil, or_false] at hc
  obtain ⟨b, _, hcb⟩ := hc
  rcases hcb with h | h <;> subst h
  · exact (hexDigitU_facts _ (Nat.mod_lt _ (by decide))).2.1
  · exact (hexDigitU_facts _ (Nat.mod_lt _ (by decide))).2.1

theorem hexOfBytes_length (p : List Byte) : (hexOfBytes p).length = 2 * p.length := by
  induction p with
  | nil => rfl
  | cons b p ih => simp only [hexOfBytes, List.flatMap_cons, List.length_append, List.length_cons] at ih ⊢; simp [hex2]; omega

theorem notin1428 (n : Nat) :
    pyNotIn (Val.ofNat n) (.tuple [.num 14, .num 28]) = .val (.bool (decide (n ≠ 14 ∧ n ≠ 28))) := by
  have := pyNotIn_ofNat n [14, 28]
  simp only [List.map_cons, List.map_nil, Nat.cast_ofNat] at this
  rw [this]
  congr 2
  simp
theorem inShort (n : Nat) :
    pyIn (Val.ofNat n) (.tuple [.num 0, .num 4, .num 5, .num 11]) = .val (.bool (decide (n ∈ [0, 4, 5, 11]))) := by
  have := pyIn_ofNat n [0, 4, 5, 11]
  simpa only [List.map_cons, List.map_nil, Nat.cast_ofNat, Nat.cast_zero] using this
theorem inLong (n : Nat) :
    pyIn (Val.ofNat n) (.tuple [.num 16, .num 17, .num 18, .num 19, .num 20, .num 21, .num 24]) =
      .val (.bool (decide (n ∈ [16, 17, 18, 19, 20, 21, 24]))) := by
  have := pyIn_ofNat n [16, 17, 18, 19, 20, 21, 24]
  simpa only [List.map_cons, List.map_nil, Nat.cast_ofNat] using this
theorem ne14 (n : Nat) : pyNe (Val.ofNat n) (.num 14) = .val (.bool (!decide (n = 14))) := by
  have := ofNat_beq n 14
  simp only [pyNe]; rw [← this]; rfl
theorem ne28 (n : Nat) : pyNe (Val.ofNat n) (.num 28) = .val (.bool (!decide (n = 28))) := by
  have := ofNat_beq n 28
  simp only [pyNe]; rw [← this]; rfl
theorem appStamped (msgs : List Msg) (m : Msg) :
    pyAppend (encStamped msgs) (.tuple [.str m, .num 0]) = .val (encStamped (msgs ++ [m])) := by
  simp [pyAppend, encStamped]

/-- the checks of `beastExtract` on a candidate message -/
def chk (m : Msg) : Option Msg :=
  if m.length ≠ 14 ∧ m.length ≠ 28 then none else
  if (PyModeS.df m = 0 ∨ PyModeS.df m = 4 ∨ PyModeS.df m = 5 ∨ PyModeS.df m = 11) ∧ m.length ≠ 14 then none
  else if (PyModeS.df m = 16 ∨ PyModeS.df m = 17 ∨ PyModeS.df m = 18 ∨ PyModeS.df m = 19 ∨ PyModeS.df m = 20 ∨
    PyModeS.df m = 21 ∨ PyModeS.df m = 24) ∧ m.length ≠ 28 then none
  else some m

theorem beastExtract_cons (t : Byte) (rest : List Byte) :
    beastExtract (t :: rest) =
      if t = 50 then chk (hexOfBytes (slice 8 15 (t :: rest)))
      else if t = 51 then chk (hexOfBytes (slice 8 22 (t :: rest))) else none := by
  unfold beastExtract chk
  by_cases h50 : t = 50
  · simp [h50]
  · by_cases h51 : t = 51
    · simp [h51]
    · simp [h50, h51]

/-- The extraction loops treat the two frame types alike: what the code does with the text (`T`) and what the model
    does with it (`R`) is done with the 7 bytes after type `0x32` and with the 14 after `0x33`, so a relation `Q`
    between the two need only be shown for a text `m` with the property `H` both have; other frames are skipped. -/
theorem by_text {α β} (t : Byte) (R : Msg → α) (r0 : α) (T : Msg → β) (Y : β) (Q : α → β → Prop) (H : Msg → Prop)
    (m15 m22 : Msg) (h15 : H m15) (h22 : H m22) (tail : ∀ m, H m → Q (R m) (T m)) (skip : Q r0 Y) :
    Q (if t = 50 then R m15 else if t = 51 then R m22 else r0) (if t = 50 then T m15 else if t = 51 then T m22 else Y) := by
  by_cases h50 : t = 50
  · rw [if_pos h50, if_pos h50]; exact tail m15 h15
  rw [if_neg h50, if_neg h50]
  by_cases h51 : t = 51
  · rw [if_pos h51, if_pos h51]; exact tail m22 h22
  rw [if_neg h51, if_neg h51]; exact skip

/-! ### the `while` loop of the generated method -/

/-- The body of the `while` loop of `read_beast_buffer` (its RSSI twin repeats it word for word): the term `F` with
    `read_beast_buffer self = forIn [0:whileFuel] init F >>= K`, found by unification instead of copied from the
    generated file. -/
def whileBody (self : Val) : { F : Nat → S1 → Res (ForInStep S1) //
    ∃ K, Gen.tcpclient.TcpClient_read_beast_buffer self =
      (forIn [0:whileFuel] ((Val.tuple [], Val.tuple [], Val.num 0, Val.num 0, true) : S1) F >>= K) } :=
  ⟨_, _, rfl⟩

theorem whileBody_step (l : List (Val × Val)) (buf : List Byte)
    (hg : pyGetAttr (.dict l) "buffer" = .val (encBytes buf)) (x : Nat) (s : BS) :
    (whileBody (.dict l)).1 x (encS s true) = .val (match bStep buf s with
      | none => .done (encS s false)
      | some s' => .yield (encS s' true)) := by
  dsimp only [whileBody]
  have e2626 : Val.tuple [Val.num 26, Val.num 26] = encBytes [26, 26] := rfl
  simp only [encS, hg, bind_val', len_bytes, pyLt_ofNat, pyTruth_bool, add2, add1, pySlice_bytes, e2626, pyEq_bytes,
    app26, Res.pure_eq, gt0, appMlat]
  by_cases hlt : s.i < buf.length
  swap
  · rw [bStep_done buf s hlt]
    simp only [hlt, decide_false, Bool.not_false, if_true]
  have h1 : 1 ≤ buf.length := by omega
  simp only [hlt, decide_true, Bool.not_true, Bool.false_eq_true, if_false, pySub_one _ h1, bind_val', pyEq_ofNat2,
    pyIdx_bytes buf s.i hlt, pyEq_ofNat_lit, pyTruth_bool, appByte]
  by_cases hsl : slice s.i (s.i + 2) buf = [26, 26]
  · rw [bStep_esc buf s hlt hsl]
    simp only [hsl, decide_true, if_true]
  simp only [hsl, decide_false, Bool.false_eq_true, if_false]
  by_cases hl : s.i = buf.length - 1 ∧ buf.getD s.i 0 = 26
  · rw [bStep_last buf s hlt hsl hl]
    simp only [hl.1, decide_true, if_true, bind_val', pyTruth_bool]
    simp only [← hl.1, hl.2, decide_true, if_true]
  by_cases hdiv : buf.getD s.i 0 = 26
  · have hi : ¬ s.i = buf.length - 1 := fun h => hl ⟨h, hdiv⟩
    rw [bStep_div buf s hlt hsl hl hdiv]
    simp only [hi, hdiv, decide_true, decide_false, if_true, Bool.false_eq_true, if_false, bind_val', pyTruth_bool]
    by_cases hm : 0 < s.msg.length
    · simp only [hm, decide_true, if_true, List.reverse_cons]
      rfl
    · have : s.msg = [] := by
        cases hmm : s.msg with
        | nil => rfl
        | cons a m => rw [hmm] at hm; simp at hm
      rw [this]
      simp
  · rw [bStep_byte buf s hlt hsl hl hdiv]
    by_cases hi : s.i = buf.length - 1
    · simp only [hi, decide_true, if_true, bind_val', pyTruth_bool]
      simp only [← hi, hdiv, decide_false, Bool.false_eq_true, if_false]
    · simp only [hi, hdiv, decide_false, Bool.false_eq_true, if_false, bind_val', pyTruth_bool]

/-- the `while` loop of both Beast readers, run to the end: the scan state `B` it stops in holds the frames and
    the retained suffix of `beastScan`, and the frames are non-empty lists of bytes -/
theorem while_run (l : List (Val × Val)) (buf : List Byte)
    (hg : pyGetAttr (.dict l) "buffer" = .val (encBytes buf)) (hb : ∀ b ∈ buf, b < 256) (hlen : buf.length < whileFuel) :
    ∃ B : BS, (∀ K : S1 → Res Val,
        (forIn (List.range' 0 whileFuel 1) ((Val.tuple [], Val.tuple [], Val.num 0, Val.num 0, true) : S1)
          (whileBody (.dict l)).1 >>= K) = K (encS B false)) ∧
      beastScan buf [] [] buf = (B.out.reverse, buf.drop B.start) ∧
      ∀ fr ∈ B.out.reverse, fr ≠ [] ∧ ∀ b ∈ fr, b < 256 := by
  have hinit : ((Val.tuple [], Val.tuple [], Val.num 0, Val.num 0, true) : S1) = encS ⟨[], [], 0, 0⟩ true := by
    simp only [encS, num_zero_ofNat]; rfl
  obtain ⟨hscan, hnone⟩ := beastScan_eq_bIter buf buf.length ⟨[], [], 0, 0⟩ (by simp) (by simp)
  have h := loop1 buf _ (whileBody_step l buf hg) buf.length ⟨[], [], 0, 0⟩ 0 whileFuel hlen hnone
  rw [← hinit] at h
  refine ⟨_, fun K => by rw [h, bind_val'], hscan, fun fr hfr => ?_⟩
  exact (bIter_good buf hb _ _ ⟨fun _ h => by simp at h, fun _ h => by simp at h⟩).1 fr (List.mem_reverse.1 hfr)

theorem foldl_extract (frames : List (List Byte)) : ∀ acc : List Msg,
    frames.foldl (fun msgs fr => msgs ++ (beastExtract fr).toList) acc = acc ++ frames.filterMap beastExtract := by
  induction frames with
  | nil => intro acc; simp
  | cons fr frames ih => intro acc; rw [List.foldl_cons, ih, List.filterMap_cons]; cases beastExtract fr <;> simp

end PyModeS.Tie.Beast
namespace PyModeS.Tie
open PyModeS.Tie.Beast

/-- `read_beast_buffer()` on any receiver `l` whose `buffer` attribute holds the bytes `buf` (all below 256, as the
    items of a `bytes` chunk are; fewer than `whileFuel` = 2^20 of them, the iterations the generated `while` loop is
    granted): the returned `[msg, ts]` list is `(readBeast buf).1` (every `ts` is the `0` of `Ext.time_time`) and
    `self.buffer` becomes `(readBeast buf).2`; no other attribute changes. -/
theorem TcpClient_read_beast_buffer_tie (l : List (Val × Val)) (buf : List Byte)
    (hbuf : dictFind l (attrKey "buffer") = some (encBytes buf))
    (hb : ∀ b ∈ buf, b < 256) (hlen : buf.length < whileFuel) :
    Gen.tcpclient.TcpClient_read_beast_buffer (.dict l) =
      .val (.tuple [.dict (setPair (attrKey "buffer") (encBytes (readBeast buf).2) l),
        encStamped (readBeast buf).1]) := by
  have hg : pyGetAttr (.dict l) "buffer" = .val (encBytes buf) := by simp only [pyGetAttr, hbuf]
  obtain ⟨B, hrun, hscan, hgood⟩ := while_run l buf hg hb hlen
  unfold Gen.tcpclient.TcpClient_read_beast_buffer
  simp only [Std.Legacy.Range.forIn_eq_forIn_range', Std.Legacy.Range.size, Nat.sub_zero, Nat.add_sub_cancel,
    Nat.div_one]
  refine (hrun _).trans ?_
  rw [readBeast, hscan]
  have hit : pyIter (encMlat B.out.reverse) = .val (B.out.reverse.map encBytes) := rfl
  have hset : ∀ v, pySetAttr (Val.dict l) "buffer" v = .val (.dict (setPair (attrKey "buffer") v l)) := fun _ => rfl
  simp only [encS, Bool.false_eq_true, if_false, hg, bind_val', pySlice_bytes_from, hset, hit]
  refine forIn_fold encBytes (fun (msgs : List Msg) (st : S2) => st.2.2.2.2.2 = encStamped msgs)
    (fun msgs fr => msgs ++ (beastExtract fr).toList) _ _ _ _ ?step [] _ rfl ?fin
  case fin =>
    intro st' h
    simp only [foldl_extract, List.nil_append] at h
    simp only [h, Res.pure_eq]
  case step =>
    intro frame hfr msgs st hst
    obtain ⟨hne, hlt⟩ := hgood frame hfr
    obtain ⟨mm0, ts0, mt0, df0, msg0, messages0⟩ := st
    simp only at hst
    subst hst
    obtain ⟨t, rest, rfl⟩ := List.exists_cons_of_ne_nil hne
    have htime : Gen.Ext.time_time = .val (.num 0) := rfl
    rw [beastExtract_cons]
    simp only [htime, bind_val', pyIdxN_bytes (t :: rest) 0 (by simp), List.getD_cons_zero, pyEq_ofNat_lit, pyTruth_bool,
      pySliceNN_bytes, decide_eq_true_eq]
    simp only [Res.pure_eq, pyComp_fmt2 _ (slice_lt hlt 8 15), pyComp_fmt2 _ (slice_lt hlt 8 22), bind_val', pyJoin_hex]
    have h15 := isHex_hexOfBytes (slice 8 15 (t :: rest))
    have h22 := isHex_hexOfBytes (slice 8 22 (t :: rest))
    generalize hexOfBytes (slice 8 15 (t :: rest)) = m15 at h15 ⊢
    generalize hexOfBytes (slice 8 22 (t :: rest)) = m22 at h22 ⊢
    apply by_text t chk none _ _ (fun o (x : Res (ForInStep S2)) => ∃ s', x = .val (.yield s') ∧
      s'.2.2.2.2.2 = encStamped (msgs ++ o.toList)) IsHex m15 m22 h15 h22
    case skip => exact ⟨_, rfl, by simp⟩
    intro m hx
    simp only [pyLen_chars, notin1428, bind_val', pyTruth_bool, decide_eq_true_eq, chk]
    by_cases hnl : m.length ≠ 14 ∧ m.length ≠ 28
    · rw [if_pos hnl, if_pos hnl]; exact ⟨_, rfl, by simp⟩
    rw [if_neg hnl, if_neg hnl]
    simp only [df_str m hx (by omega), bind_val', inShort,
      inLong, ne14, ne28, pyTruth_bool, decide_eq_true_eq, Res.pure_eq, and_sc, Bool.and_eq_true,
      Bool.not_eq_true', decide_eq_false_iff_not, appStamped, List.mem_cons, List.not_mem_nil, or_false, ne_eq]
    by_cases hs : (PyModeS.df m = 0 ∨ PyModeS.df m = 4 ∨ PyModeS.df m = 5 ∨ PyModeS.df m = 11) ∧ ¬ m.length = 14
    · rw [if_pos hs, if_pos hs]; exact ⟨_, rfl, by simp⟩
    rw [if_neg hs, if_neg hs]
    by_cases hL : (PyModeS.df m = 16 ∨ PyModeS.df m = 17 ∨ PyModeS.df m = 18 ∨ PyModeS.df m = 19 ∨ PyModeS.df m = 20 ∨
        PyModeS.df m = 21 ∨ PyModeS.df m = 24) ∧ ¬ m.length = 28
    · rw [if_pos hL, if_pos hL]; exact ⟨_, rfl, by simp⟩
    rw [if_neg hL, if_neg hL]; exact ⟨_, rfl, rfl⟩

end PyModeS.Tie
