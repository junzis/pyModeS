/-
  Tie: generated `bds53.py` = hand model (`Model/Commb.lean`) on every 28-digit hex frame.
-/
import PyModeS.Tie.Commb
import PyModeS.Generated.Src.bds53

namespace PyModeS.Tie
open PyModeS PyModeS.Py PyModeS.CRC

theorem hdg53_tie (m : Msg) (h : IsHex m) (hl : m.length = 28) :
    Gen.bds53.hdg53 (.str m) = (PyModeS.hdg53 (hex2binM m) >>= fun o => .val (Val.ofOptRat o)) := by
  unfold Gen.bds53.hdg53 PyModeS.hdg53
  exact field_open m h hl _ _ _ fun d _ => heading_step d 0 1 2 12 rfl

theorem ias53_tie (m : Msg) (h : IsHex m) (hl : m.length = 28) :
    Gen.bds53.ias53 (.str m) = (PyModeS.ias53 (hex2binM m) >>= fun o => .val (Val.ofOptRat o)) := by
  unfold Gen.bds53.ias53 PyModeS.ias53
  exact field_open m h hl _ _ _ fun d _ => ufield_int_step d 12 13 23

theorem mach53_tie (m : Msg) (h : IsHex m) (hl : m.length = 28) :
    Gen.bds53.mach53 (.str m) = (PyModeS.mach53 (hex2binM m) >>= fun o => .val (Val.ofOptRat o)) := by
  unfold Gen.bds53.mach53 PyModeS.mach53
  refine field_open m h hl _ _ _ fun d _ => ufield_step d 23 24 33 (8 / 1000) 0 _ fun v => ?_
  simp only [Val.ofNat, pyMul_num, add_zero]
  norm_num

theorem tas53_tie (m : Msg) (h : IsHex m) (hl : m.length = 28) :
    Gen.bds53.tas53 (.str m) = (PyModeS.tas53 (hex2binM m) >>= fun o => .val (Val.ofOptRat o)) := by
  unfold Gen.bds53.tas53 PyModeS.tas53
  refine field_open m h hl _ _ _ fun d _ => ufield_step d 33 34 46 (1 / 2) 0 _ fun v => ?_
  simp only [Val.ofNat, pyMul_num, add_zero]

theorem vr53_tie (m : Msg) (h : IsHex m) (hl : m.length = 28) :
    Gen.bds53.vr53 (.str m) = (PyModeS.vr53 (hex2binM m) >>= fun o => .val (Val.ofOptRat o)) := by
  unfold Gen.bds53.vr53 PyModeS.vr53
  refine field_open m h hl _ _ _ fun d _ => ?_
  -- `vr53` writes the sign adjustment as a conditional expression, the other signed fields as a conditional statement
  simp only [Res.ite_bind, pure_bind]
  exact sfield_step d 46 47 48 56 256 rfl 64 _ fun x => pyMul_num _ _

theorem is53_tie (m : Msg) (h : IsHex m) (hl : m.length = 28) :
    Gen.bds53.is53 (.str m) = (PyModeS.is53 (hex2binM m) >>= fun b => .val (.bool b)) := by
  unfold Gen.bds53.is53 PyModeS.is53
  refine pred_open m h hl _ _ fun d _ => ?_
  refine status_step d [(1, 3, 12), (13, 14, 23), (24, 25, 33), (34, 35, 46), (47, 49, 56)] (by decide) _ _ ?_
  refine guard_step (ias53_tie m h hl) (gateGt · 500) _ _ fun _ _ => ?_
  refine guard_step (mach53_tie m h hl) (gateGt · 1) _ _ fun _ _ => ?_
  refine guard_step (tas53_tie m h hl) (gateGt · 500) _ _ fun _ _ => ?_
  exact guard_step (vr53_tie m h hl) (gateAbsGt · 8000) _ _ fun _ _ => rfl

end PyModeS.Tie
