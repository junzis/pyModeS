/-
  C12 transported to the source-generated definitions: the exact integer characterisations of the register predicates
  (`Properties/C12.lean`) hold of the functions py2lean.py produces from bds40/44/45/50/53.py.
-/
import PyModeS.Properties.C12
import PyModeS.Tie.Bds40
import PyModeS.Tie.Bds44
import PyModeS.Tie.Bds45
import PyModeS.Tie.Bds50
import PyModeS.Tie.Bds53
namespace PyModeS.C12Gen
open PyModeS PyModeS.Py PyModeS.CRC PyModeS.C12 PyModeS.Infer

theorem is40_iff_tie (m : Msg) (h : IsHex m) (hl : m.length = 28) :
    Gen.bds40.is40 (.str m) = .val (.bool true) ↔
      (bin2int (mbOf (hex2binM m)) ≠ 0 ∧ statusP (mbOf (hex2binM m)) rules40 = true ∧
       bin2int (slice 39 47 (mbOf (hex2binM m))) = 0 ∧ bin2int (slice 51 53 (mbOf (hex2binM m))) = 0) := by
  rw [Tie.is40_tie m h hl, Tie.bool_enc_iff]
  exact is40_iff _ (Tie.frame_bits m hl)

theorem is44_iff_tie (m : Msg) (h : IsHex m) (hl : m.length = 28) :
    Gen.bds44.is44 (.str m) = .val (.bool true) ↔
      (bin2int (mbOf (hex2binM m)) ≠ 0 ∧ statusP (mbOf (hex2binM m)) rules44 = true ∧ fld (mbOf (hex2binM m)) 0 4 ≤ 4 ∧
        (bitAt (mbOf (hex2binM m)) 4 = true → fld (mbOf (hex2binM m)) 5 14 ≤ 250) ∧
        -640 ≤ sval (mbOf (hex2binM m)) 23 24 34 ∧ sval (mbOf (hex2binM m)) 23 24 34 ≤ 480) := by
  rw [Tie.is44_tie m h hl, Tie.bool_enc_iff]
  exact is44_iff _ (Tie.frame_bits m hl)

theorem is45_iff_tie (m : Msg) (h : IsHex m) (hl : m.length = 28) :
    Gen.bds45.is45 (.str m) = .val (.bool true) ↔
      (bin2int (mbOf (hex2binM m)) ≠ 0 ∧ statusP (mbOf (hex2binM m)) rules45 = true ∧ fld (mbOf (hex2binM m)) 51 56 = 0 ∧
        -320 ≤ sval (mbOf (hex2binM m)) 16 17 26 ∧ sval (mbOf (hex2binM m)) 16 17 26 ≤ 240) := by
  rw [Tie.is45_tie m h hl, Tie.bool_enc_iff]
  exact is45_iff _ (Tie.frame_bits m hl)

theorem is50_iff_tie (m : Msg) (h : IsHex m) (hl : m.length = 28) :
    Gen.bds50.is50 (.str m) = .val (.bool true) ↔
      (bin2int (mbOf (hex2binM m)) ≠ 0 ∧ statusP (mbOf (hex2binM m)) rules50 = true ∧
        (bitAt (mbOf (hex2binM m)) 0 = true → -284 ≤ sval (mbOf (hex2binM m)) 1 2 11 ∧ sval (mbOf (hex2binM m)) 1 2 11 ≤ 284) ∧
        (bitAt (mbOf (hex2binM m)) 23 = true → fld (mbOf (hex2binM m)) 24 34 ≤ 300) ∧
        (bitAt (mbOf (hex2binM m)) 45 = true → fld (mbOf (hex2binM m)) 46 56 ≤ 300) ∧
        (bitAt (mbOf (hex2binM m)) 23 = true → bitAt (mbOf (hex2binM m)) 45 = true →
          fld (mbOf (hex2binM m)) 46 56 ≤ fld (mbOf (hex2binM m)) 24 34 + 100 ∧
          fld (mbOf (hex2binM m)) 24 34 ≤ fld (mbOf (hex2binM m)) 46 56 + 100)) := by
  rw [Tie.is50_tie m h hl, Tie.bool_enc_iff]
  exact is50_iff _ (Tie.frame_bits m hl)

theorem is53_iff_tie (m : Msg) (h : IsHex m) (hl : m.length = 28) :
    Gen.bds53.is53 (.str m) = .val (.bool true) ↔
      (bin2int (mbOf (hex2binM m)) ≠ 0 ∧ statusP (mbOf (hex2binM m)) rules53 = true ∧
        (bitAt (mbOf (hex2binM m)) 12 = true → fld (mbOf (hex2binM m)) 13 23 ≤ 500) ∧
        (bitAt (mbOf (hex2binM m)) 23 = true → fld (mbOf (hex2binM m)) 24 33 ≤ 125) ∧
        (bitAt (mbOf (hex2binM m)) 33 = true → fld (mbOf (hex2binM m)) 34 46 ≤ 1000) ∧
        (bitAt (mbOf (hex2binM m)) 46 = true → -125 ≤ sval (mbOf (hex2binM m)) 47 48 56 ∧ sval (mbOf (hex2binM m)) 47 48 56 ≤ 125)) := by
  rw [Tie.is53_tie m h hl, Tie.bool_enc_iff]
  exact is53_iff _ (Tie.frame_bits m hl)

end PyModeS.C12Gen
