/-
  `processRaw` = ADS-B fold, Comm-B fold, purge: key set, `live` stamps, who is listed afterwards.
-/
import PyModeS.Proofs.Tracker.Steps
namespace PyModeS.Tracker
open PyModeS

/-- table obligation: `cache_timeout = 60` seconds -/
theorem cacheTimeout_eq : Tables.cacheTimeout = 60 := by decide

/-- the ADS-B loop of `process_raw` -/
def adsbFold (tr : Tracker) (adsb : List (Rat × Msg)) : Res Tracker :=
  foldRes (fun tr p => adsbStep tr p.1 p.2) tr adsb
/-- the Comm-B loop of `process_raw` -/
def commbFold (ias : Rat → Int → Rat) (tr : Tracker) (commb : List (Rat × Msg)) : Res Tracker :=
  foldRes (fun tr p => commbStep ias tr p.1 p.2) tr commb
/-- the purge test: an entry survives iff `not (tnow - live > cache_timeout)` -/
def keep (tnow : Rat) (p : Msg × Ac) : Bool :=
  !decide (tnow - (p.2.live : Rat) > (Tables.cacheTimeout : Rat))

theorem keep_iff (tnow : Rat) (p : Msg × Ac) : keep tnow p = true ↔ tnow - (p.2.live : Rat) ≤ 60 := by
  have e : ((60 : Int) : Rat) = 60 := by norm_cast
  simp only [keep, cacheTimeout_eq, e, Bool.not_eq_true', decide_eq_false_iff_not, gt_iff_lt, Rat.not_lt]

/-- the later the stamp, the younger the record -/
theorem age_le_age (tnow : Rat) {L l : Int} (h : L ≤ l) : tnow - (l : Rat) ≤ tnow - (L : Rat) := by
  rw [Rat.sub_eq_add_neg, Rat.sub_eq_add_neg]
  exact Rat.add_le_add_left.2 (Rat.neg_le_neg (Rat.intCast_le_intCast.2 h))

theorem processRaw_val {ias : Rat → Int → Rat} {tr tr' : Tracker} {adsb commb : List (Rat × Msg)} {tnow : Rat}
    (h : processRaw ias tr adsb commb tnow = .val tr') :
    ∃ tr1 tr2, adsbFold tr adsb = .val tr1 ∧ commbFold ias tr1 commb = .val tr2 ∧
      tr' = { tr2 with acs := tr2.acs.filter (keep tnow) } := by
  unfold processRaw at h
  obtain ⟨tr1, h1, h⟩ := bind_eq_val h
  obtain ⟨tr2, h2, h⟩ := bind_eq_val h
  simp only [Res.pure_eq, Res.val.injEq] at h
  exact ⟨tr1, tr2, h1, h2, h.symm⟩

theorem processRaw_of_folds {ias : Rat → Int → Rat} {tr tr1 tr2 : Tracker} {adsb commb : List (Rat × Msg)}
    (tnow : Rat) (h1 : adsbFold tr adsb = .val tr1) (h2 : commbFold ias tr1 commb = .val tr2) :
    processRaw ias tr adsb commb tnow = .val { tr2 with acs := tr2.acs.filter (keep tnow) } := by
  unfold processRaw
  unfold adsbFold at h1
  unfold commbFold at h2
  rw [h1, Res.bind_val, h2, Res.bind_val]
  rfl

/-! ### keys -/

theorem adsbFold_keys {tr tr1 : Tracker} {adsb : List (Rat × Msg)} (h : adsbFold tr adsb = .val tr1) :
    (∀ k ∈ keys tr1.acs, k ∈ keys tr.acs ∨ ∃ p ∈ adsb, k = keyOf p.2) ∧
    (∀ k ∈ keys tr.acs, k ∈ keys tr1.acs) ∧ (∀ p ∈ adsb, keyOf p.2 ∈ keys tr1.acs) := by
  unfold adsbFold at h
  induction adsb generalizing tr with
  | nil =>
    simp only [foldRes, Res.val.injEq] at h
    subst h
    exact ⟨fun k hk => Or.inl hk, fun k hk => hk, fun p hp => by simp at hp⟩
  | cons q qs ih =>
    rw [foldRes_cons] at h
    obtain ⟨tr0, h0, h⟩ := bind_eq_val h
    obtain ⟨i1, i2, i3⟩ := ih h
    obtain ⟨s1, s2, s3⟩ := adsbStep_keys h0
    refine ⟨?_, fun k hk => i2 k (s2 k hk), ?_⟩
    · intro k hk
      rcases i1 k hk with hk0 | ⟨p, hp, e⟩
      · rcases s1 k hk0 with hk1 | e
        · exact Or.inl hk1
        · exact Or.inr ⟨q, by simp, e⟩
      · exact Or.inr ⟨p, List.mem_cons_of_mem _ hp, e⟩
    · intro p hp
      rcases List.mem_cons.mp hp with e | hp
      · subst e; exact i2 _ s3
      · exact i3 p hp

theorem commbFold_keys {ias : Rat → Int → Rat} {tr tr2 : Tracker} {commb : List (Rat × Msg)}
    (h : commbFold ias tr commb = .val tr2) : keys tr2.acs = keys tr.acs :=
  foldRes_induct _ (fun x => keys x.acs = keys tr.acs) commb
    (fun _ _ _ _ hP hs => (commbStep_keys hs).trans hP) tr tr2 rfl h

theorem filter_keys_subset (acs : List (Msg × Ac)) (q : Msg × Ac → Bool) :
    ∀ k ∈ keys (acs.filter q), k ∈ keys acs := by
  intro k hk
  simp only [keys, List.mem_map, List.mem_filter] at hk ⊢
  obtain ⟨p, ⟨hp, _⟩, e⟩ := hk
  exact ⟨p, hp, e⟩

/-! ### lower bounds on `live` (who stays listed) -/

/-- "key `k` is present with a `live` stamp of at least `L`" -/
def LiveGe (k : Msg) (L : Int) (tr : Tracker) : Prop := ∃ a, acsGet tr.acs k = some a ∧ L ≤ a.live

theorem adsbStep_liveGe {tr tr' : Tracker} {t : Rat} {m : Msg} (h : adsbStep tr t m = .val tr')
    (k : Msg) (L : Int) (hP : LiveGe k L tr) (hm : keyOf m = k → L ≤ pyInt t) : LiveGe k L tr' := by
  by_cases hk : k = keyOf m
  · obtain ⟨a', hg, hl⟩ := adsbStep_live h
    exact ⟨a', hk ▸ hg, by rw [hl]; exact hm hk.symm⟩
  · obtain ⟨a, hg, hl⟩ := hP
    exact ⟨a, by rw [(adsbStep_other h k hk).1]; exact hg, hl⟩

theorem adsbFold_liveGe {tr tr1 : Tracker} {adsb : List (Rat × Msg)} (h : adsbFold tr adsb = .val tr1)
    (k : Msg) (L : Int) (hP : LiveGe k L tr) (hm : ∀ p ∈ adsb, keyOf p.2 = k → L ≤ pyInt p.1) :
    LiveGe k L tr1 :=
  foldRes_induct _ (LiveGe k L) adsb (fun _ b _ hb hPa hs => adsbStep_liveGe hs k L hPa (hm b hb)) tr tr1 hP h

/-- the message `(t, m)` of the batch is followed only by messages that, if they are from the same
    address, carry a time stamp with `int(t') ≥ int(t)`: then the address ends the ADS-B loop with
    `live ≥ int(t)` -/
theorem adsbFold_heard {tr tr1 : Tracker} {pre post : List (Rat × Msg)} {t : Rat} {m : Msg}
    (h : adsbFold tr (pre ++ (t, m) :: post) = .val tr1)
    (hpost : ∀ p ∈ post, keyOf p.2 = keyOf m → pyInt t ≤ pyInt p.1) :
    LiveGe (keyOf m) (pyInt t) tr1 := by
  obtain ⟨_, trb, _, hb, h⟩ := foldRes_split h
  obtain ⟨a', hg, hl⟩ := adsbStep_live hb
  exact adsbFold_liveGe (adsb := post) h (keyOf m) (pyInt t) ⟨a', hg, by rw [hl]; exact Int.le_refl _⟩ hpost

/-- with non-decreasing time stamps every message of the batch qualifies -/
theorem adsbFold_heard_sorted {tr tr1 : Tracker} {adsb : List (Rat × Msg)} {t : Rat} {m : Msg}
    (h : adsbFold tr adsb = .val tr1) (hs : adsb.Pairwise (fun p q => p.1 ≤ q.1)) (hm : (t, m) ∈ adsb) :
    LiveGe (keyOf m) (pyInt t) tr1 := by
  obtain ⟨pre, post, e⟩ := List.append_of_mem hm
  subst e
  apply adsbFold_heard h
  intro p hp _
  rw [List.pairwise_append] at hs
  have := (List.pairwise_cons.mp hs.2.1).1 p hp
  exact pyInt_mono this

theorem commbStep_liveGe {ias : Rat → Int → Rat} {tr tr' : Tracker} {t : Rat} {m : Msg}
    (h : commbStep ias tr t m = .val tr') (k : Msg) (L : Int) (hP : LiveGe k L tr) : LiveGe k L tr' := by
  obtain ⟨a, hg, hl⟩ := hP
  obtain ⟨a', hg', hle, _, _⟩ := commbStep_live h k a hg
  exact ⟨a', hg', Int.le_trans hl hle⟩

theorem commbFold_liveGe {ias : Rat → Int → Rat} {tr tr2 : Tracker} {commb : List (Rat × Msg)}
    (h : commbFold ias tr commb = .val tr2) (k : Msg) (L : Int) (hP : LiveGe k L tr) : LiveGe k L tr2 :=
  foldRes_induct _ (LiveGe k L) commb (fun _ _ _ _ hPa hs => commbStep_liveGe hs k L hPa) tr tr2 hP h

/-- a Comm-B reply at `t` from an address that is in the table raises its `live` to at least `int(t)` -/
theorem commbFold_heard {ias : Rat → Int → Rat} {tr tr2 : Tracker} {commb : List (Rat × Msg)} {t : Rat} {m : Msg}
    (h : commbFold ias tr commb = .val tr2) (hm : (t, m) ∈ commb) (hk : keyOf m ∈ keys tr.acs) :
    LiveGe (keyOf m) (pyInt t) tr2 := by
  obtain ⟨pre, post, e⟩ := List.append_of_mem hm
  subst e
  obtain ⟨tra, trb, ha, hb, h⟩ := foldRes_split h
  obtain ⟨a, hga⟩ := acsGet_of_mem (commbFold_keys (commb := pre) ha ▸ hk)
  obtain ⟨a', hg', _, hmax, _⟩ := commbStep_live hb (keyOf m) a hga
  have : LiveGe (keyOf m) (pyInt t) trb := ⟨a', hg', by rw [hmax rfl]; exact Int.le_max_right _ _⟩
  exact commbFold_liveGe (commb := post) h _ _ this

theorem acsGet_filter {acs : List (Msg × Ac)} {k : Msg} {a : Ac} (q : Msg × Ac → Bool)
    (hg : acsGet acs k = some a) (hq : q (k, a) = true) : acsGet (acs.filter q) k = some a := by
  unfold acsGet at hg ⊢
  induction acs with
  | nil => simp at hg
  | cons p acs ih =>
    rw [List.find?_cons] at hg
    by_cases hp : p.1 = k
    · simp only [hp, decide_true, Option.map_some, Option.some.injEq] at hg
      have e : p = (k, a) := by rw [← hp, ← hg]
      rw [List.filter_cons, e, hq]
      simp
    · simp only [hp, decide_false] at hg
      rw [List.filter_cons]
      split
      · rw [List.find?_cons]; simp only [hp, decide_false]; exact ih hg
      · exact ih hg

/-- a `live` stamp within 60 s of `tnow` survives the purge -/
theorem liveGe_survives {tr2 : Tracker} {k : Msg} {L : Int} {tnow : Rat} (hP : LiveGe k L tr2)
    (hL : tnow - (L : Rat) ≤ 60) :
    LiveGe k L { tr2 with acs := tr2.acs.filter (keep tnow) } :=
  let ⟨a, hg, hl⟩ := hP
  ⟨a, acsGet_filter _ hg ((keep_iff tnow (k, a)).2 (Rat.le_trans (age_le_age tnow hl) hL)), hl⟩

/-- heard at `t`, at most 59 s before `tnow`: listed after the purge -/
theorem liveGe_listed {tr2 : Tracker} {k : Msg} {t tnow : Rat} (hP : LiveGe k (pyInt t) tr2) (h : tnow - t ≤ 59) :
    k ∈ keys (tr2.acs.filter (keep tnow)) ∧
      ∃ ac', acsGet (tr2.acs.filter (keep tnow)) k = some ac' ∧ pyInt t ≤ ac'.live :=
  let ⟨a, hg, hl⟩ := liveGe_survives hP (pyInt_recent h)
  ⟨acsGet_some_key hg, a, hg, hl⟩

/-! ### upper bounds on `live` (who is purged) -/

/-- "every record under key `k` has a `live` stamp of at most `L`" -/
def LiveLe (k : Msg) (L : Int) (tr : Tracker) : Prop := ∀ p ∈ tr.acs, p.1 = k → p.2.live ≤ L

theorem adsbFold_liveLe {tr tr1 : Tracker} {adsb : List (Rat × Msg)} (h : adsbFold tr adsb = .val tr1)
    (k : Msg) (L : Int) (hP : LiveLe k L tr) (hm : ∀ p ∈ adsb, keyOf p.2 = k → pyInt p.1 ≤ L) :
    LiveLe k L tr1 :=
  foldRes_induct _ (LiveLe k L) adsb (fun _ b _ hb hPa hs => adsbStep_live_le hs k L hPa (hm b hb)) tr tr1 hP h

theorem commbFold_liveLe {ias : Rat → Int → Rat} {tr tr2 : Tracker} {commb : List (Rat × Msg)}
    (h : commbFold ias tr commb = .val tr2)
    (k : Msg) (L : Int) (hP : LiveLe k L tr) (hm : ∀ p ∈ commb, keyOf p.2 = k → pyInt p.1 ≤ L) :
    LiveLe k L tr2 :=
  foldRes_induct _ (LiveLe k L) commb (fun _ b _ hb hPa hs => commbStep_live_le hs k L hPa (hm b hb)) tr tr2 hP h

/-- all records of `k` older than 60 s: the purge removes the key -/
theorem liveLe_purged {tr2 : Tracker} {k : Msg} {L : Int} {tnow : Rat} (hP : LiveLe k L tr2)
    (hL : tnow - (L : Rat) > 60) : k ∉ keys (tr2.acs.filter (keep tnow)) := by
  intro hk
  simp only [keys, List.mem_map, List.mem_filter] at hk
  obtain ⟨p, ⟨hp, hkeep⟩, e⟩ := hk
  exact Rat.not_lt.2 (Rat.le_trans (age_le_age tnow (hP p hp e)) ((keep_iff tnow p).1 hkeep)) hL

/-! ### the table stays a dict: no key twice -/

theorem acsSet_nodup (acs : List (Msg × Ac)) (k : Msg) (a : Ac) (h : (keys acs).Nodup) :
    (keys (acsSet acs k a)).Nodup := by
  by_cases hk : k ∈ keys acs
  · rw [acsSet_keys_of_mem acs k a hk]; exact h
  · rw [acsSet_keys_of_not_mem acs k a hk]
    rw [List.nodup_append]
    refine ⟨h, by simp, ?_⟩
    intro x hx y hy
    simp only [List.mem_singleton] at hy
    subst hy
    intro e; subst e; exact hk hx

theorem processRaw_nodup {ias : Rat → Int → Rat} {tr tr' : Tracker} {adsb commb : List (Rat × Msg)} {tnow : Rat}
    (h : processRaw ias tr adsb commb tnow = .val tr') (hn : (keys tr.acs).Nodup) : (keys tr'.acs).Nodup := by
  obtain ⟨tr1, tr2, h1, h2, rfl⟩ := processRaw_val h
  have n1 : (keys tr1.acs).Nodup := foldRes_induct _ (fun x => (keys x.acs).Nodup) adsb
    (fun _ _ _ _ hP hs => by obtain ⟨ac', rfl, _⟩ := adsbStep_val hs; exact acsSet_nodup _ _ _ hP) tr tr1 hn h1
  have n2 : (keys tr2.acs).Nodup := by rw [commbFold_keys h2]; exact n1
  exact List.Nodup.sublist (List.Sublist.map _ List.filter_sublist) n2

end PyModeS.Tracker
