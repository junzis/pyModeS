/-
  A small partial-correctness calculus for `Res`-valued `do` blocks.

  `RAll P x` = "if `x` returns a value, the value satisfies `P`" (total correctness is `Ok` =
  "returns a value", NoCrashDecoders.lean, and `OkP P` = "returns a value that satisfies `P`",
  NoCrash.lean; `Res.isVal r = true` of Proofs/Commb is `Ok r` as a Boolean).  The `do` notation compiles
  sequential blocks into join points (`have __do_jp := fun … ; …`); zeta-reducing them blows the
  term up exponentially and `split at h` times out.  Recipe that works:
    unfold f
    extract_lets jp1 jp2 …                 -- innermost (= textually last) block comes first
    have h1 : ∀ a, Q a → RAll P (jp1 a) := …   -- by `RAll.bind`, `RAll.ite`, `RAll.pure`
    clear_value jp1                        -- make it opaque before going on
    …
-/
import PyModeS.Proofs.Tracker.Basic
namespace PyModeS.Tracker
open PyModeS

/-- partial-correctness predicate: if the computation returns a value, the value satisfies `P` -/
def RAll {α} (P : α → Prop) : Res α → Prop
  | .val a => P a
  | _ => True

theorem rall_val {α} {P : α → Prop} {a : α} : RAll P (.val a) ↔ P a := Iff.rfl
theorem rall_pure {α} {P : α → Prop} {a : α} : RAll P (pure a) ↔ P a := Iff.rfl
theorem rall_rte {α} {P : α → Prop} : RAll P (.rte : Res α) ↔ True := Iff.rfl
theorem rall_exc {α} {P : α → Prop} : RAll P (.exc : Res α) ↔ True := Iff.rfl
theorem rall_bind {α β} {P : β → Prop} {x : Res α} {f : α → Res β} :
    RAll P (x >>= f) ↔ ∀ a, x = .val a → RAll P (f a) := by
  cases x with
  | val a => exact ⟨fun h b hb => by cases hb; exact h, fun h => h a rfl⟩
  | rte => exact ⟨(fun _ b hb => nomatch hb), fun _ => trivial⟩
  | exc => exact ⟨(fun _ b hb => nomatch hb), fun _ => trivial⟩
theorem rall_ite {α} {P : α → Prop} {c : Prop} [Decidable c] {x y : Res α} :
    RAll P (if c then x else y) ↔ (c → RAll P x) ∧ (¬ c → RAll P y) := by
  by_cases h : c
  · rw [if_pos h]; exact ⟨fun hx => ⟨fun _ => hx, fun n => absurd h n⟩, fun hh => hh.1 h⟩
  · rw [if_neg h]; exact ⟨fun hy => ⟨fun p => absurd p h, fun _ => hy⟩, fun hh => hh.2 h⟩
theorem rall_of_forall {α} {P : α → Prop} {x : Res α} (h : ∀ a, P a) : RAll P x := by
  cases x with
  | val a => exact h a
  | rte => trivial
  | exc => trivial
theorem rall_mono {α} {P Q : α → Prop} {x : Res α} (h : RAll P x) (hpq : ∀ a, P a → Q a) : RAll Q x := by
  cases x with
  | val a => exact hpq a h
  | rte => trivial
  | exc => trivial
theorem rall_elim {α} {P : α → Prop} {x : Res α} {a : α} (h : RAll P x) (e : x = .val a) : P a := by
  rw [e] at h; exact h
theorem rall_intro {α} {P : α → Prop} {x : Res α} (h : ∀ a, x = .val a → P a) : RAll P x := by
  cases x with
  | val a => exact h a rfl
  | rte => trivial
  | exc => trivial
/-- the rules in the form a walk through a `do` block applies them: what was bound, or which branch
    was taken, does not matter -/
theorem RAll.pure {α} {P : α → Prop} {a : α} (h : P a) : RAll P (Pure.pure a) := h
theorem RAll.bind {α β} {P : β → Prop} {x : Res α} {f : α → Res β} (h : ∀ a, RAll P (f a)) : RAll P (x >>= f) :=
  rall_bind.2 fun a _ => h a
theorem RAll.ite {α} {P : α → Prop} {c : Prop} [Decidable c] {x y : Res α} (hx : RAll P x) (hy : RAll P y) :
    RAll P (if c then x else y) := rall_ite.2 ⟨fun _ => hx, fun _ => hy⟩
attribute [irreducible] RAll

end PyModeS.Tracker
