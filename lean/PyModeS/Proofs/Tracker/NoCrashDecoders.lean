/-
  Totality ("returns a value: neither RuntimeError nor any other exception") of the ADS-B decoders
  in exactly the situations in which `Decode.process_raw` (model: `adsbStep`, `velocityGate`,
  `qualityBlock`) calls them: a 112-bit frame whose type code lies in the range that guards the call.
  Each is the value half of the decoder's `Tot.Guarded` statement in `Proofs/Commb/AdsbTotal.lean`.
-/
import PyModeS.Model.Tracker
import PyModeS.Proofs.Commb.AdsbTotal

namespace PyModeS.Tracker
open PyModeS

/-- the call returns a value (no exception of either kind) -/
def Ok {α} (r : Res α) : Prop := ∃ v, r = .val v

theorem ok_val {α} (a : α) : Ok (Res.val a) := ⟨a, rfl⟩
theorem ok_pure {α} (a : α) : Ok (pure a : Res α) := ⟨a, rfl⟩
theorem Ok.bind {α β} {x : Res α} {f : α → Res β} (hx : Ok x) (hf : ∀ v, Ok (f v)) : Ok (x >>= f) := by
  obtain ⟨v, rfl⟩ := hx; exact hf v
theorem ok_ite {α} {c : Prop} [Decidable c] {x y : Res α} (hx : c → Ok x) (hy : ¬ c → Ok y) :
    Ok (if c then x else y) := by
  split
  · exact hx ‹_›
  · exact hy ‹_›
theorem Ok.ite {α} {c : Prop} [Decidable c] {x y : Res α} (hx : Ok x) (hy : Ok y) :
    Ok (if c then x else y) := ok_ite (fun _ => hx) (fun _ => hy)
theorem Ok.ne_exc {α} {r : Res α} (h : Ok r) : r ≠ .exc := by
  obtain ⟨v, rfl⟩ := h; intro h; cases h
theorem Ok.ne_rte {α} {r : Res α} (h : Ok r) : r ≠ .rte := by
  obtain ⟨v, rfl⟩ := h; intro h; cases h
theorem ok_iff {α} {r : Res α} : Ok r ↔ r ≠ .exc ∧ r ≠ .rte := by
  constructor
  · exact fun h => ⟨h.ne_exc, h.ne_rte⟩
  · rintro ⟨h1, h2⟩
    cases r with
    | val a => exact ok_val a
    | rte => exact absurd rfl h2
    | exc => exact absurd rfl h1
theorem ok_of_isVal {α} {r : Res α} (h : r.isVal = true) : Ok r := by
  cases r with
  | val a => exact ok_val a
  | rte => simp [Res.isVal] at h
  | exc => simp [Res.isVal] at h

/-! ### TC 1–4: bds08.callsign -/

/-- `pms.adsb.callsign(msg)` under `1 <= tc <= 4` -/
theorem callsign_ok (bits : Bits) (tc : Nat) (hlen : bits.length = 112) (htc : tcB bits = some tc)
    (h1 : 1 ≤ tc) (h4 : tc ≤ 4) : Ok (callsign bits) :=
  ok_of_isVal ((Tot.callsign_shape bits hlen).1 ⟨tc, htc, h1, h4⟩)

/-! ### TC 5–8 / 19: adsb.velocity -/

theorem velocityRoute_surface (bits : Bits) (tc : Nat) (htc : tcB bits = some tc) (h : 5 ≤ tc ∧ tc ≤ 8) :
    velocityRoute bits = .val .surface := by
  simp only [velocityRoute, htc]; rw [if_pos h]

theorem velocityRoute_airborne (bits : Bits) (htc : tcB bits = some 19) :
    velocityRoute bits = .val .airborne := by
  simp only [velocityRoute, htc]; rfl

/-- `bds06.surface_velocity(msg)` (through `adsb.velocity`) under `5 <= tc <= 8` -/
theorem surfaceVelocity_ok (bits : Bits) (tc : Nat) (hlen : bits.length = 112) (htc : tcB bits = some tc)
    (h5 : 5 ≤ tc) (h8 : tc ≤ 8) : Ok (surfaceVelocity bits) :=
  ok_of_isVal ((Tot.surfaceVelocity_shape bits hlen).1 ⟨tc, htc, h5, h8⟩)

/-- `bds09.airborne_velocity(msg)` (through `adsb.velocity`) under `tc == 19` -/
theorem airborneVelocity_ok (bits : Bits) (hlen : bits.length = 112) (htc : tcB bits = some 19) :
    Ok (airborneVelocity bits) :=
  ok_of_isVal ((Tot.airborneVelocity_shape bits hlen).1 htc)

/-! ### TC 5–18: oe_flag, position_with_ref, altitude -/

/-- `pms.adsb.oe_flag(msg)` -/
theorem oeFlag_ok (bits : Bits) (hlen : bits.length = 112) : Ok (oeFlag bits) :=
  ok_of_isVal (Tot.oeFlag_isVal bits hlen)

/-- `pms.adsb.position_with_ref(msg, rlat, rlon)` under `5 <= tc <= 18` -/
theorem positionWithRef_ok (bits : Bits) (tc : Nat) (hlen : bits.length = 112) (htc : tcB bits = some tc)
    (h5 : 5 ≤ tc) (h18 : tc ≤ 18) (la lo : Rat) : Ok (positionWithRef bits la lo) :=
  ok_of_isVal ((Tot.positionWithRef_shape bits hlen la lo).1 ⟨tc, htc, .inl ⟨h5, h18⟩⟩)

/-- `pms.adsb.altitude(msg)` under `5 <= tc <= 18` -/
theorem adsbAltitude_ok (bits : Bits) (tc : Nat) (hlen : bits.length = 112) (htc : tcB bits = some tc)
    (h5 : 5 ≤ tc) (h18 : tc ≤ 18) : Ok (adsbAltitude bits) :=
  ok_of_isVal ((Tot.adsbAltitude_shape bits hlen).1 ⟨tc, htc, .inl ⟨h5, h18⟩⟩)

/-! ### the uncertainty block -/

/-- `pms.adsb.nic_b(msg)` under `9 <= tc <= 18` -/
theorem nicB_ok (bits : Bits) (tc : Nat) (hlen : bits.length = 112) (htc : tcB bits = some tc)
    (h9 : 9 ≤ tc) (h18 : tc ≤ 18) : Ok (nicB bits) :=
  ok_of_isVal ((Tot.nicB_shape bits hlen).1 ⟨tc, htc, h9, h18⟩)

/-- the position type codes: 5–8, 9–18, 20–22 -/
def PosTC (tc : Nat) : Prop := (5 ≤ tc ∧ tc ≤ 8) ∨ (9 ≤ tc ∧ tc ≤ 18) ∨ (20 ≤ tc ∧ tc ≤ 22)

instance (tc : Nat) : Decidable (PosTC tc) := by unfold PosTC; infer_instance

theorem PosTC.tc {bits : Bits} {tc : Nat} (htc : tcB bits = some tc) (h : PosTC tc) : Tot.TC bits Tot.posTC :=
  ⟨tc, htc, by unfold PosTC at h; omega⟩

/-- `pms.adsb.nuc_p(msg)` under a position TC -/
theorem nucP_ok (bits : Bits) (tc : Nat) (htc : tcB bits = some tc) (h : PosTC tc) : Ok (nucP bits) :=
  ok_of_isVal ((Tot.nucP_shape bits).1 (h.tc htc))

/-- `pms.adsb.nic_v1(msg, nic_s)` under a position TC, with a stored supplement bit 0/1 -/
theorem nicV1_ok (bits : Bits) (tc s : Nat) (htc : tcB bits = some tc) (h : PosTC tc) (hs : s ≤ 1) :
    Ok (nicV1 bits s) :=
  ok_of_isVal ((Tot.nicV1_shape bits s hs).1 (h.tc htc))

/-- `pms.adsb.nic_v2(msg, nic_a, nic_bc)` under a position TC (any supplements: the inner `KeyError`
    is caught by the decoder itself) -/
theorem nicV2_ok (bits : Bits) (tc a bc : Nat) (htc : tcB bits = some tc) (h : PosTC tc) :
    Ok (nicV2 bits a bc) :=
  ok_of_isVal ((Tot.nicV2_shape bits a bc).1 (h.tc htc))

/-- `pms.adsb.nuc_v(msg)` under `tc == 19` -/
theorem nucV_ok (bits : Bits) (hlen : bits.length = 112) (htc : tcB bits = some 19) : Ok (nucV bits) :=
  ok_of_isVal ((Tot.nucV_shape bits hlen).1 htc)

/-- `pms.adsb.nac_v(msg)` under `tc == 19` -/
theorem nacV_ok (bits : Bits) (hlen : bits.length = 112) (htc : tcB bits = some 19) : Ok (nacV bits) :=
  ok_of_isVal ((Tot.nacV_shape bits hlen).1 htc)

/-- `pms.adsb.sil(msg, version)` under `tc == 29` or `tc == 31` -/
theorem sil_ok (bits : Bits) (tc : Nat) (hlen : bits.length = 112) (htc : tcB bits = some tc)
    (h : tc = 29 ∨ tc = 31) (v : Option Nat) : Ok (sil bits v) :=
  ok_of_isVal ((Tot.sil_shape bits hlen v).1 ⟨tc, htc, h⟩)

/-- `pms.adsb.nac_p(msg)` under `tc == 29` or `tc == 31` -/
theorem nacP_ok (bits : Bits) (tc : Nat) (hlen : bits.length = 112) (htc : tcB bits = some tc)
    (h : tc = 29 ∨ tc = 31) : Ok (nacP bits) :=
  ok_of_isVal ((Tot.nacP_shape bits hlen).1 ⟨tc, htc, h⟩)

/-- `pms.adsb.version(msg)` under `tc == 31` -/
theorem version_ok (bits : Bits) (hlen : bits.length = 112) (htc : tcB bits = some 31) : Ok (version bits) :=
  ok_of_isVal ((Tot.version_shape bits hlen).1 htc)

/-- `pms.adsb.nic_s(msg)` under `tc == 31` -/
theorem nicS_ok (bits : Bits) (hlen : bits.length = 112) (htc : tcB bits = some 31) : Ok (nicS bits) :=
  ok_of_isVal ((Tot.nicS_shape bits hlen).1 htc)

/-- `pms.adsb.nic_a_c(msg)` under `tc == 31` -/
theorem nicAC_ok (bits : Bits) (hlen : bits.length = 112) (htc : tcB bits = some 31) : Ok (nicAC bits) :=
  ok_of_isVal ((Tot.nicAC_shape bits hlen).1 htc)

end PyModeS.Tracker
