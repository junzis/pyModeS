/-
  What one `adsbStep` / `commbStep` does to the table, as far as it returns at all: the invariant of a
  stored record (`AcWF`), the loop body of `process_raw` block by block (`adsbStep_eq`), the shape of
  the result, the key set, the `live` stamps.
-/
import PyModeS.Proofs.Tracker.Hoare
namespace PyModeS.Tracker
open PyModeS

/-- the dict key `process_raw` uses for a message: `pms.icao(msg)` (Python `None` if undefined) -/
def keyOf (m : Msg) : Msg := (icao m).getD "None".toList

/-- two records agree on everything the position logic reads or writes (all fields except the
    version / NIC-supplement bookkeeping) -/
def SamePos (a b : Ac) : Prop :=
  a.live = b.live ∧ a.m0 = b.m0 ∧ a.m1 = b.m1 ∧ a.t0 = b.t0 ∧ a.t1 = b.t1 ∧
  a.tpos = b.tpos ∧ a.lat = b.lat ∧ a.lon = b.lon

theorem SamePos.rfl' (a : Ac) : SamePos a a := ⟨rfl, rfl, rfl, rfl, rfl, rfl, rfl, rfl⟩

theorem SamePos.trans {a b c : Ac} (h : SamePos a b) (h' : SamePos b c) : SamePos a c :=
  ⟨h.1.trans h'.1, h.2.1.trans h'.2.1, h.2.2.1.trans h'.2.2.1, h.2.2.2.1.trans h'.2.2.2.1,
    h.2.2.2.2.1.trans h'.2.2.2.2.1, h.2.2.2.2.2.1.trans h'.2.2.2.2.2.1,
    h.2.2.2.2.2.2.1.trans h'.2.2.2.2.2.2.1, h.2.2.2.2.2.2.2.trans h'.2.2.2.2.2.2.2⟩

/-- what `process_raw` relies on in a stored record: `tpos` is only ever written together with `lat`
    and `lon` (otherwise `position_with_ref(msg, None, None)` is reachable: `TypeError`), and the
    stored NIC supplement `nic_s` is a bit (otherwise `TC_NICv1_lookup[tc][nic_s]` is a `KeyError`) -/
def AcWF (ac : Ac) : Prop :=
  (ac.tpos.isSome → ac.lat.isSome ∧ ac.lon.isSome) ∧ (∀ s, ac.nicS = some s → s ≤ 1)

/-- whatever `nic_s` returns is one bit -/
theorem nicS_le {bits : Bits} {s : Nat} (h : nicS bits = .val s) : s ≤ 1 := by
  unfold nicS at h
  split at h
  · cases h
  · obtain ⟨b, _, h⟩ := bind_eq_val h
    cases h; cases b <;> decide

/-- what the uncertainty block guarantees about the record it returns -/
def Kept (ac ac' : Ac) : Prop := SamePos ac' ac ∧ (AcWF ac → AcWF ac')

theorem Kept.refl (ac : Ac) : Kept ac ac := ⟨SamePos.rfl' _, id⟩

/-- The uncertainty block leaves position, stored frames and time stamps alone and keeps the record
    well-formed.  Its `do` block has four join points (after each of the first four `if`s); each is
    treated once, the last first. -/
theorem qualityBlock_rall (ac : Ac) (bits : Bits) (tc : Nat) : RAll (Kept ac) (qualityBlock ac bits tc) := by
  unfold qualityBlock
  extract_lets jp1 jp2
  have h1 : ∀ a, Kept ac a → RAll (Kept ac) (jp1 a) := fun a ha =>
    .ite (.bind fun v => .bind fun _ => .bind fun _ =>
        .ite (rall_bind.2 fun s hs => .pure ⟨(SamePos.rfl' _).trans ha.1,
            fun w => ⟨(ha.2 w).1, fun _ e => by cases e; exact nicS_le hs⟩⟩)
          (.ite (.bind fun ⟨_, _⟩ => .pure ha) (.pure ha)))
      (.pure ha)
  clear_value jp1
  have h2 : ∀ a, Kept ac a → RAll (Kept ac) (jp2 a) := by
    intro a ha
    simp -zeta only [jp2]
    extract_lets jp3 jp4
    have h3 : ∀ u, RAll (Kept ac) (jp3 u) := fun _ => .ite (.bind fun _ => .bind fun _ => h1 a ha) (h1 a ha)
    clear_value jp3
    have h4 : ∀ u, RAll (Kept ac) (jp4 u) := fun _ =>
      .ite (.bind fun _ => .ite (.bind fun _ => h3 ()) (h3 ())) (h3 ())
    clear_value jp4
    refine .ite (.bind fun _ => ?_) (h4 ())
    split
    · exact .bind fun _ => h4 ()
    · exact .bind fun _ => h4 ()
    · exact h4 ()
  clear_value jp2
  exact .ite (.bind fun _ => h2 _ (.refl _)) (h2 _ (.refl _))

theorem qualityBlock_samePos {ac ac' : Ac} {bits : Bits} {tc : Nat}
    (h : qualityBlock ac bits tc = .val ac') : SamePos ac' ac :=
  (rall_elim (qualityBlock_rall ac bits tc) h).1

/-- the record `adsbStep` starts from is well-formed if the table is -/
theorem acWF_get {acs : List (Msg × Ac)} (hwf : ∀ p ∈ acs, AcWF p.2) (k : Msg) (l : Int) :
    AcWF { (acsGet acs k).getD { live := 0 } with live := l } := by
  cases h : acsGet acs k with
  | none => exact ⟨(fun h => nomatch h), (fun _ h => nomatch h)⟩
  | some a => exact hwf _ (acsGet_some_mem h)

/-! ### the loop body of `process_raw`, block by block

  `adsbStep` is a `do` block whose `if`s and `match`es are followed by more statements, so it elaborates
  to nested join points.  The blocks are spelled out here in the same continuation form (`k` is the rest
  of the body), which makes `adsbStep_eq` hold by `rfl`; every statement about `adsbStep` goes through
  one rule per block. -/

/-- the record `adsbStep` starts from: the stored one (or a fresh one) with `live := int(t)` -/
def startAc (tr : Tracker) (t : Rat) (m : Msg) : Ac :=
  { (acsGet tr.acs (keyOf m)).getD { live := 0 } with live := pyInt t }

/-- … with the new frame filed under its parity -/
def filedAc (tr : Tracker) (t : Rat) (m : Msg) (oe : Nat) : Ac :=
  if oe = 0 then { startAc tr t m with m0 := some (hex2binM m), t0 := some t }
  else { startAc tr t m with m1 := some (hex2binM m), t1 := some t }

/-- `if 1 <= tc <= 4: … callsign(msg)` -/
def callsignBlockK {β} (bits : Bits) (tc : Nat) (k : Res β) : Res β :=
  if 1 ≤ tc ∧ tc ≤ 4 then callsign bits >>= fun _ => k else k

/-- `if (5 <= tc <= 8) or (tc == 19): …`; `k false` is the `continue` -/
def velBlockK {β} (bits : Bits) (tc : Nat) (k : Bool → Res β) : Res β :=
  if (5 ≤ tc ∧ tc ≤ 8) ∨ tc = 19 then do
    match ← velocityGate bits with
    | none => k false
    | some (gs, spdNone, trkNone) => k (gs && !spdNone && !trkNone)
  else k true

/-- `if 5 <= tc <= 18: …`: the record handed on, and `false` for the `continue` of the bare `except` -/
def posBlockK {β} (ref : Option (Rat × Rat)) (bits : Bits) (t : Rat) (tc : Nat) (ac : Ac)
    (k : Ac × Bool → Res β) : Res β :=
  if 5 ≤ tc ∧ tc ≤ 18 then do
    let oe ← oeFlag bits
    let ac : Ac := if oe = 0 then { ac with m0 := some bits, t0 := some t } else { ac with m1 := some bits, t1 := some t }
    let useRef : Bool := match ac.tpos with | some tp => decide (t - tp < 180) | none => false
    if useRef then
      match ac.lat, ac.lon with
      | some la, some lo => do
        let (la', lo') ← positionWithRef bits la lo
        let _ ← adsbAltitude bits
        k ({ ac with tpos := some t, lat := some la', lon := some lo' }, true)
      | _, _ => .exc
    else
      match ac.m0, ac.m1, ac.t0, ac.t1 with
      | some b0, some b1, some t0, some t1 =>
        if rabs (t0 - t1) < 10 then
          match position b0 b1 t0 t1 ref with
          | .val (some (la', lo')) => do
            let _ ← adsbAltitude bits
            k ({ ac with tpos := some t, lat := some la', lon := some lo' }, true)
          | .val none => k (ac, true)
          | _ => k (ac, false)
        else k (ac, true)
      | _, _, _, _ => k (ac, true)
  else k (ac, true)

/-- the final store `acs[key] = ac` -/
def store (tr : Tracker) (m : Msg) (a : Ac) : Tracker := { tr with acs := acsSet tr.acs (keyOf m) a }

/-- the end of the body: `continue`, or the uncertainty block; the record is stored either way -/
def finishK (tr : Tracker) (m : Msg) (tc : Nat) : Ac × Bool → Res Tracker := fun (a, cont) =>
  if !cont then pure (store tr m a) else qualityBlock a (hex2binM m) tc >>= fun a => pure (store tr m a)

/-- the loop body for a message of type code `tc` -/
def adsbStepK (tr : Tracker) (t : Rat) (m : Msg) (tc : Nat) : Res Tracker :=
  callsignBlockK (hex2binM m) tc <| velBlockK (hex2binM m) tc fun cont =>
    if !cont then pure (store tr m (startAc tr t m)) else
    posBlockK tr.ref (hex2binM m) t tc (startAc tr t m) (finishK tr m tc)

theorem adsbStep_eq (tr : Tracker) (t : Rat) (m : Msg) :
    adsbStep tr t m = match typecode m with
      | none => .exc
      | some tc => adsbStepK tr t m tc := by
  unfold adsbStep
  cases typecode m with
  | none => rfl
  | some tc => rfl

theorem adsbStep_of_tc {tr : Tracker} {t : Rat} {m : Msg} {tc : Nat} (h : typecode m = some tc) :
    adsbStep tr t m = adsbStepK tr t m tc := by rw [adsbStep_eq, h]

section
variable {β : Type} {P : β → Prop} {bits : Bits} {tc : Nat}

theorem callsignBlockK_rall {k : Res β} (h : RAll P k) : RAll P (callsignBlockK bits tc k) :=
  .ite (.bind fun _ => h) h

theorem velBlockK_rall {k : Bool → Res β} (h : ∀ c, RAll P (k c)) : RAll P (velBlockK bits tc k) :=
  .ite (.bind fun g => by split <;> exact h _) (h _)

/-- whatever the position block hands on has the `live` of the record it was given and is well-formed
    if that was: `tpos` is only set together with `lat` and `lon`, and `nic_s` is not touched -/
theorem posBlockK_rall {ref : Option (Rat × Rat)} {t : Rat} {ac : Ac} {k : Ac × Bool → Res β}
    (h : ∀ a c, a.live = ac.live → (AcWF ac → AcWF a) → RAll P (k (a, c))) :
    RAll P (posBlockK ref bits t tc ac k) := by
  unfold posBlockK
  refine .ite (.bind fun oe => ?_) (h _ _ rfl id)
  extract_lets ac' useRef
  have hac' : ac'.live = ac.live ∧ (AcWF ac → AcWF ac') := by simp only [ac']; split <;> exact ⟨rfl, id⟩
  clear_value ac' useRef
  have hk : ∀ c, RAll P (k (ac', c)) := fun c => h _ c hac'.1 hac'.2
  have hset : ∀ la lo, RAll P (k ({ ac' with tpos := some t, lat := some la, lon := some lo }, true)) :=
    fun la lo => h _ _ hac'.1 fun w => ⟨fun _ => ⟨rfl, rfl⟩, (hac'.2 w).2⟩
  refine .ite ?_ ?_
  · split
    · exact .bind fun ⟨_, _⟩ => .bind fun _ => hset _ _
    · exact rall_exc.2 trivial
  · split
    · refine .ite ?_ (hk _)
      split
      · exact .bind fun _ => hset _ _
      · exact hk _
      · exact hk _
    · exact hk _

end

/-- every successful `adsbStep` ends in `acs[key] = ac'` with `ac'.live = int(t)`, and `ac'` is
    well-formed if the table was -/
def AdsbPost (tr : Tracker) (t : Rat) (m : Msg) (tr' : Tracker) : Prop :=
  ∃ ac', tr' = { tr with acs := acsSet tr.acs (keyOf m) ac' } ∧ ac'.live = pyInt t ∧
    ((∀ p ∈ tr.acs, AcWF p.2) → AcWF ac')

theorem adsbStep_rall (tr : Tracker) (t : Rat) (m : Msg) : RAll (AdsbPost tr t m) (adsbStep tr t m) := by
  rw [adsbStep_eq]
  cases typecode m with
  | none => exact rall_exc.2 trivial
  | some tc =>
    have hstore : ∀ a : Ac, a.live = (startAc tr t m).live → (AcWF (startAc tr t m) → AcWF a) →
        AdsbPost tr t m (store tr m a) := fun a h1 h2 => ⟨a, rfl, h1, fun w => h2 (acWF_get w _ _)⟩
    refine callsignBlockK_rall <| velBlockK_rall fun _ => .ite (.pure (hstore _ rfl id)) <|
      posBlockK_rall fun a c h1 h2 => .ite (.pure (hstore a h1 h2)) <| rall_bind.2 fun a' hq => ?_
    obtain ⟨hs, hw⟩ := rall_elim (qualityBlock_rall _ _ _) hq
    exact .pure (hstore a' (hs.1.trans h1) fun w => hw (h2 w))

/-- shape of a successful ADS-B step -/
theorem adsbStep_val {tr tr' : Tracker} {t : Rat} {m : Msg} (h : adsbStep tr t m = .val tr') :
    ∃ ac', tr' = { tr with acs := acsSet tr.acs (keyOf m) ac' } ∧ ac'.live = pyInt t :=
  let ⟨a, h1, h2, _⟩ := rall_elim (adsbStep_rall tr t m) h
  ⟨a, h1, h2⟩

theorem commbStep_eq (ias : Rat → Int → Rat) (tr : Tracker) (t : Rat) (m : Msg) :
    commbStep ias tr t m = match acsGet tr.acs (keyOf m) with
      | none => pure tr
      | some ac => infer ias (hex2binM m) false >>= fun _ =>
          pure { tr with acs := acsSet tr.acs (keyOf m) { ac with live := max ac.live (pyInt t) } } := rfl

/-- shape of a successful Comm-B step: an unknown address leaves the table as it is, a known one
    has its `live` raised to `max(live, int(t))` and nothing else changed -/
theorem commbStep_val {ias : Rat → Int → Rat} {tr tr' : Tracker} {t : Rat} {m : Msg}
    (h : commbStep ias tr t m = .val tr') :
    (acsGet tr.acs (keyOf m) = none ∧ tr' = tr) ∨
    (∃ ac, acsGet tr.acs (keyOf m) = some ac ∧
      tr' = { tr with acs := acsSet tr.acs (keyOf m) { ac with live := max ac.live (pyInt t) } }) := by
  rw [commbStep_eq] at h
  cases hg : acsGet tr.acs (keyOf m) with
  | none =>
    rw [hg] at h
    exact .inl ⟨rfl, (Res.val.inj h).symm⟩
  | some ac =>
    rw [hg] at h
    obtain ⟨_, _, h⟩ := bind_eq_val h
    exact .inr ⟨ac, rfl, (Res.val.inj h).symm⟩

/-- Comm-B gating: a reply from an address that is not in the table changes nothing -/
theorem commbStep_unknown (ias : Rat → Int → Rat) (tr : Tracker) (t : Rat) (m : Msg)
    (h : acsGet tr.acs (keyOf m) = none) : commbStep ias tr t m = .val tr := by
  rw [commbStep_eq, h]; rfl

/-! ### key set -/

theorem adsbStep_keys {tr tr' : Tracker} {t : Rat} {m : Msg} (h : adsbStep tr t m = .val tr') :
    (∀ k ∈ keys tr'.acs, k ∈ keys tr.acs ∨ k = keyOf m) ∧ (∀ k ∈ keys tr.acs, k ∈ keys tr'.acs) ∧
    keyOf m ∈ keys tr'.acs := by
  obtain ⟨ac', rfl, _⟩ := adsbStep_val h
  refine ⟨acsSet_keys_subset _ _ _, keys_subset_acsSet _ _ _, ?_⟩
  exact acsGet_some_key (acsGet_acsSet_same _ _ _)

theorem commbStep_keys {ias : Rat → Int → Rat} {tr tr' : Tracker} {t : Rat} {m : Msg}
    (h : commbStep ias tr t m = .val tr') : keys tr'.acs = keys tr.acs := by
  rcases commbStep_val h with ⟨_, rfl⟩ | ⟨ac, hg, rfl⟩
  · rfl
  · exact acsSet_keys_of_mem _ _ _ (acsGet_some_key hg)

theorem adsbStep_ref {tr tr' : Tracker} {t : Rat} {m : Msg} (h : adsbStep tr t m = .val tr') :
    tr'.ref = tr.ref := by
  obtain ⟨ac', rfl, _⟩ := adsbStep_val h; rfl

theorem commbStep_ref {ias : Rat → Int → Rat} {tr tr' : Tracker} {t : Rat} {m : Msg}
    (h : commbStep ias tr t m = .val tr') : tr'.ref = tr.ref := by
  rcases commbStep_val h with ⟨_, rfl⟩ | ⟨ac, hg, rfl⟩ <;> rfl

/-! ### `live` -/

theorem adsbStep_live {tr tr' : Tracker} {t : Rat} {m : Msg} (h : adsbStep tr t m = .val tr') :
    ∃ ac', acsGet tr'.acs (keyOf m) = some ac' ∧ ac'.live = pyInt t := by
  obtain ⟨ac', rfl, hl⟩ := adsbStep_val h
  exact ⟨ac', acsGet_acsSet_same _ _ _, hl⟩

theorem adsbStep_other {tr tr' : Tracker} {t : Rat} {m : Msg} (h : adsbStep tr t m = .val tr')
    (k : Msg) (hk : k ≠ keyOf m) :
    acsGet tr'.acs k = acsGet tr.acs k ∧ tr'.acs.filter (·.1 = k) = tr.acs.filter (·.1 = k) := by
  obtain ⟨ac', rfl, _⟩ := adsbStep_val h
  exact ⟨acsGet_acsSet_other _ _ _ _ hk, acsSet_filter_other _ _ _ _ hk⟩

/-- a Comm-B step only raises `live`: same key → `max`, other keys untouched -/
theorem commbStep_live {ias : Rat → Int → Rat} {tr tr' : Tracker} {t : Rat} {m : Msg}
    (h : commbStep ias tr t m = .val tr') (k : Msg) (ac : Ac) (hg : acsGet tr.acs k = some ac) :
    ∃ ac', acsGet tr'.acs k = some ac' ∧ ac.live ≤ ac'.live ∧
      (k = keyOf m → ac'.live = max ac.live (pyInt t)) ∧ (k ≠ keyOf m → ac' = ac) := by
  rcases commbStep_val h with ⟨hn, rfl⟩ | ⟨ac0, hg0, rfl⟩
  · refine ⟨ac, hg, Int.le_refl _, ?_, fun _ => rfl⟩
    intro hk; rw [hk, hn] at hg; cases hg
  · by_cases hk : k = keyOf m
    · subst hk
      rw [hg0] at hg; cases hg
      refine ⟨_, acsGet_acsSet_same _ _ _, ?_, fun _ => rfl, fun hne => absurd rfl hne⟩
      exact Int.le_max_left _ _
    · refine ⟨ac, ?_, Int.le_refl _, fun e => absurd e hk, fun _ => rfl⟩
      rw [acsGet_acsSet_other _ _ _ _ hk]; exact hg

theorem commbStep_other {ias : Rat → Int → Rat} {tr tr' : Tracker} {t : Rat} {m : Msg}
    (h : commbStep ias tr t m = .val tr') (k : Msg) (hk : k ≠ keyOf m) :
    tr'.acs.filter (·.1 = k) = tr.acs.filter (·.1 = k) := by
  rcases commbStep_val h with ⟨_, rfl⟩ | ⟨ac0, _, rfl⟩
  · rfl
  · exact acsSet_filter_other _ _ _ _ hk

/-- upper bound on the `live` of all records under key `k` is kept by an ADS-B step -/
theorem adsbStep_live_le {tr tr' : Tracker} {t : Rat} {m : Msg} (h : adsbStep tr t m = .val tr')
    (k : Msg) (L : Int) (hold : ∀ p ∈ tr.acs, p.1 = k → p.2.live ≤ L)
    (hm : keyOf m = k → pyInt t ≤ L) : ∀ p ∈ tr'.acs, p.1 = k → p.2.live ≤ L := by
  obtain ⟨ac', rfl, hl⟩ := adsbStep_val h
  exact acsSet_live_le hold fun e => hl ▸ hm e

theorem commbStep_live_le {ias : Rat → Int → Rat} {tr tr' : Tracker} {t : Rat} {m : Msg}
    (h : commbStep ias tr t m = .val tr')
    (k : Msg) (L : Int) (hold : ∀ p ∈ tr.acs, p.1 = k → p.2.live ≤ L)
    (hm : keyOf m = k → pyInt t ≤ L) : ∀ p ∈ tr'.acs, p.1 = k → p.2.live ≤ L := by
  rcases commbStep_val h with ⟨_, rfl⟩ | ⟨ac0, hg0, rfl⟩
  · exact hold
  · exact acsSet_live_le hold fun e => Int.max_le.2 ⟨live_le_of_get hold hg0 e, hm e⟩

end PyModeS.Tracker
