/-
  What `adsbStep` stores as the aircraft's position: the reference branch (`position_with_ref`
  against the stored position, when it is younger than 180 s) and the pair branch (`position` on
  the stored even/odd frames, when they are less than 10 s apart).
-/
import PyModeS.Proofs.Tracker.Steps
import PyModeS.Proofs.Tracker.NoCrash
namespace PyModeS.Tracker
open PyModeS

/-- the step stored, under the sender's key, a record that agrees with `T` on the position fields -/
def StoredLike (tr : Tracker) (m : Msg) (T : Ac) (tr' : Tracker) : Prop :=
  ∃ a', tr' = { tr with acs := acsSet tr.acs (keyOf m) a' } ∧ SamePos a' T

/-- … namely with the record as filed under the parity read, updated by `tpos := t, lat := X, lon := Y` -/
def RefPost (tr : Tracker) (t : Rat) (m : Msg) (X Y : Rat) (tr' : Tracker) : Prop :=
  ∃ oe, oeFlag (hex2binM m) = .val oe ∧
    StoredLike tr m { filedAc tr t m oe with tpos := some t, lat := some X, lon := some Y } tr'

/-- the velocity gate of `process_raw` lets the message through to the position block -/
def GateOpen (bits : Bits) (tc : Nat) : Prop :=
  ((5 ≤ tc ∧ tc ≤ 8) ∨ tc = 19) → velocityGate bits = .val (some (true, false, false))

theorem velBlockK_open {β} {bits : Bits} {tc : Nat} (h : GateOpen bits tc) (k : Bool → Res β) :
    velBlockK bits tc k = k true := by
  unfold velBlockK
  split
  · rw [h ‹_›]; rfl
  · rfl

/-- filing the frame touches neither the stamp nor the stored position -/
theorem filedAc_keeps (tr : Tracker) (t : Rat) (m : Msg) (oe : Nat) :
    (filedAc tr t m oe).live = pyInt t ∧ (filedAc tr t m oe).tpos = (startAc tr t m).tpos ∧
    (filedAc tr t m oe).lat = (startAc tr t m).lat ∧ (filedAc tr t m oe).lon = (startAc tr t m).lon := by
  unfold filedAc; split <;> exact ⟨rfl, rfl, rfl, rfl⟩

theorem filedAc_frames (tr : Tracker) (t : Rat) (m : Msg) (oe : Nat) :
    (filedAc tr t m oe).m0 = (if oe = 0 then some (hex2binM m) else (startAc tr t m).m0) ∧
    (filedAc tr t m oe).m1 = (if oe = 0 then (startAc tr t m).m1 else some (hex2binM m)) ∧
    (filedAc tr t m oe).t0 = (if oe = 0 then some t else (startAc tr t m).t0) ∧
    (filedAc tr t m oe).t1 = (if oe = 0 then (startAc tr t m).t1 else some t) := by
  unfold filedAc; split <;> exact ⟨rfl, rfl, rfl, rfl⟩

theorem startAc_of_get {tr : Tracker} {t : Rat} {m : Msg} {ac0 : Ac} (h : acsGet tr.acs (keyOf m) = some ac0) :
    startAc tr t m = { ac0 with live := pyInt t } := by
  simp [startAc, h]

theorem StoredLike.get {tr tr' : Tracker} {m : Msg} {T : Ac} (h : StoredLike tr m T tr') :
    ∃ a', acsGet tr'.acs (keyOf m) = some a' ∧ SamePos a' T := by
  obtain ⟨a', rfl, hs⟩ := h
  exact ⟨a', acsGet_acsSet_same _ _ _, hs⟩

/-- whatever `finishK` stores agrees with the record it was handed on the position fields -/
theorem finishK_rall (tr : Tracker) (m : Msg) (tc : Nat) (a : Ac) (c : Bool) :
    RAll (StoredLike tr m a) (finishK tr m tc (a, c)) :=
  .ite (.pure ⟨a, rfl, SamePos.rfl' a⟩) (rall_bind.2 fun a' hq => .pure ⟨a', rfl, qualityBlock_samePos hq⟩)

/-- with the no-crash theorem, what holds of every value `adsbStep` can return holds of the value it returns -/
theorem adsbStep_total {tr : Tracker} {t : Rat} {m : Msg} {P : Tracker → Prop} (hwf : TrackerWF tr)
    (hlen : m.length = 28) (hdf : df m = 17 ∨ df m = 18) (h : RAll P (adsbStep tr t m)) :
    ∃ tr', adsbStep tr t m = .val tr' ∧ TrackerWF tr' ∧ P tr' :=
  let ⟨tr', hv, hwf'⟩ := adsbStep_no_crash tr hwf t m hlen hdf
  ⟨tr', hv, hwf', rall_elim h hv⟩

/-- what the pair branch stores: the decoded position if `position` returns one, else the record
    as filed (`None`, or any exception: the bare `except: continue`) -/
def pairTarget (a : Ac) (t : Rat) (r : Res (Option (Rat × Rat))) : Ac :=
  match r with
  | .val (some p) => { a with tpos := some t, lat := some p.1, lon := some p.2 }
  | _ => a

theorem samePos_pairTarget {a' a : Ac} {t : Rat} {r : Res (Option (Rat × Rat))} :
    SamePos a' (pairTarget a t r) → a'.live = a.live ∧ a'.m0 = a.m0 ∧ a'.m1 = a.m1 ∧ a'.t0 = a.t0 ∧ a'.t1 = a.t1 ∧
    (match r with
     | .val (some p) => a'.lat = some p.1 ∧ a'.lon = some p.2 ∧ a'.tpos = some t
     | _ => a'.lat = a.lat ∧ a'.lon = a.lon ∧ a'.tpos = a.tpos) := by
  rcases r with (_ | p) | _ | _ <;> exact fun ⟨p1, p2, p3, p4, p5, p6, p7, p8⟩ => ⟨p1, p2, p3, p4, p5, p7, p8, p6⟩

/-! ### a position message (TC 5–18) that the velocity gate lets through -/

section
variable (tr : Tracker) (t : Rat) (m : Msg) (tc : Nat)
  (htc : typecode m = some tc) (h518 : 5 ≤ tc ∧ tc ≤ 18) (hgate : GateOpen (hex2binM m) tc)
include htc h518 hgate

/-- the loop body is the position block and the end of the body -/
theorem adsbStep_pos :
    adsbStep tr t m = posBlockK tr.ref (hex2binM m) t tc (startAc tr t m) (finishK tr m tc) := by
  rw [adsbStep_of_tc htc, adsbStepK, callsignBlockK, if_neg (by omega), velBlockK_open hgate]
  rfl

section
variable (tp la lo X Y : Rat) (htp : (startAc tr t m).tpos = some tp) (hrecent : t - tp < 180)
  (hla : (startAc tr t m).lat = some la) (hlo : (startAc tr t m).lon = some lo)
  (hpwr : positionWithRef (hex2binM m) la lo = .val (X, Y))
include htp hrecent hla hlo hpwr

/-- REFERENCE BRANCH: the stored position is younger than 180 s and `position_with_ref` returns
    `(X, Y)`: what is left of the loop body is `oe_flag`, `altitude`, and the end of the body on the
    filed record updated by `tpos := t, lat := X, lon := Y` -/
theorem adsbStep_ref_eq :
    adsbStep tr t m = oeFlag (hex2binM m) >>= fun oe => adsbAltitude (hex2binM m) >>= fun _ =>
      finishK tr m tc ({ filedAc tr t m oe with tpos := some t, lat := some X, lon := some Y }, true) := by
  rw [adsbStep_pos tr t m tc htc h518 hgate, posBlockK, if_pos h518]
  congr 1; funext oe
  extract_lets ac' useRef
  have hac' : ac' = filedAc tr t m oe := rfl
  obtain ⟨_, h1, h2, h3⟩ := filedAc_keeps tr t m oe
  have huse : useRef = true := by simp only [useRef, hac', h1, htp, decide_eq_true_eq]; exact hrecent
  clear_value useRef ac'
  subst huse hac'
  simp only [if_true, h2, h3, hla, hlo, hpwr, Res.bind_val]
  rfl

/-- … hence every value `adsbStep` can return is the table with the sender's record replaced by a
    record that agrees (on all position fields) with that record -/
theorem adsbStep_ref_rall : RAll (RefPost tr t m X Y) (adsbStep tr t m) := by
  rw [adsbStep_ref_eq tr t m tc htc h518 hgate tp la lo X Y htp hrecent hla hlo hpwr]
  exact rall_bind.2 fun oe hoe => .bind fun _ => rall_mono (finishK_rall tr m tc _ true) fun _ h => ⟨oe, hoe, h⟩

end

section
variable (hnoref : ∀ tp, (startAc tr t m).tpos = some tp → ¬ (t - tp < 180))
  (oe : Nat) (hoe : oeFlag (hex2binM m) = .val oe) (b0 b1 : Bits) (t0 t1 : Rat)
  (hm0 : (filedAc tr t m oe).m0 = some b0) (hm1 : (filedAc tr t m oe).m1 = some b1)
  (ht0 : (filedAc tr t m oe).t0 = some t0) (ht1 : (filedAc tr t m oe).t1 = some t1)
  (hwin : rabs (t0 - t1) < 10)
include hnoref hoe hm0 hm1 ht0 ht1 hwin

/-- PAIR BRANCH: no stored position younger than 180 s, both parities on file after filing the new
    frame, less than 10 s apart: what is left of the loop body is `position` on the two frames (any
    exception: the bare `except: continue`) and the end of the body -/
theorem adsbStep_pair_eq :
    adsbStep tr t m = match position b0 b1 t0 t1 tr.ref with
      | .val (some p) => adsbAltitude (hex2binM m) >>= fun _ =>
          finishK tr m tc ({ filedAc tr t m oe with tpos := some t, lat := some p.1, lon := some p.2 }, true)
      | .val none => finishK tr m tc (filedAc tr t m oe, true)
      | _ => finishK tr m tc (filedAc tr t m oe, false) := by
  rw [adsbStep_pos tr t m tc htc h518 hgate, posBlockK, if_pos h518, hoe, Res.bind_val]
  extract_lets F useRef F'
  have hF' : F = F' := rfl
  have hF : filedAc tr t m oe = F := rfl
  have huse : useRef = false := by
    simp only [useRef, ← hF, (filedAc_keeps tr t m oe).2.1]
    cases h : (startAc tr t m).tpos with
    | none => rfl
    | some tp => exact decide_eq_false (hnoref tp h)
  clear_value useRef F F'
  subst huse hF'
  -- the filed record as a variable, so that the four equations rewrite both sides alike
  rw [hF] at hm0 hm1 ht0 ht1 ⊢
  obtain ⟨_, _, _, _, _, _, _, _, _, _, _, _⟩ := F
  cases hm0; cases hm1; cases ht0; cases ht1
  simp only [Bool.false_eq_true, if_false, hwin, if_true]
  rcases position b0 b1 t0 t1 tr.ref with (_ | ⟨_, _⟩) | _ | _ <;> rfl

/-- … hence what is stored agrees with `pairTarget` on the position fields -/
theorem adsbStep_pair_rall :
    RAll (StoredLike tr m (pairTarget (filedAc tr t m oe) t (position b0 b1 t0 t1 tr.ref))) (adsbStep tr t m) := by
  rw [adsbStep_pair_eq tr t m tc htc h518 hgate hnoref oe hoe b0 b1 t0 t1 hm0 hm1 ht0 ht1 hwin]
  rcases position b0 b1 t0 t1 tr.ref with (_ | p) | _ | _
  · exact finishK_rall tr m tc _ _
  · exact .bind fun _ => finishK_rall tr m tc _ _
  · exact finishK_rall tr m tc _ _
  · exact finishK_rall tr m tc _ _

end
end

/-! ### the decoders called, in terms of the CPR cores -/

theorem positionWithRef_airborne (bits : Bits) (tc : Nat) (htc : tcB bits = some tc)
    (h : (9 ≤ tc ∧ tc ≤ 18) ∨ (20 ≤ tc ∧ tc ≤ 22)) (f : CprFrame) (hf : cprFields bits = .val f) (la lo : Rat) :
    positionWithRef bits la lo = .val (positionWithRefCore cprNL 360 f la lo) := by
  have h58 : ¬ (5 ≤ tc ∧ tc ≤ 8) := by omega
  simp [positionWithRef, positionWithRefRoute, htc, h58, h, airbornePositionWithRef, hf]

theorem positionWithRef_surface (bits : Bits) (tc : Nat) (htc : tcB bits = some tc)
    (h : 5 ≤ tc ∧ tc ≤ 8) (f : CprFrame) (hf : cprFields bits = .val f) (la lo : Rat) :
    positionWithRef bits la lo = .val (positionWithRefCore cprNL 90 f la lo) := by
  simp [positionWithRef, positionWithRefRoute, htc, h, surfacePositionWithRef, hf]

/-- `adsb.position` on two airborne frames (TC 9–18 both, or 20–22 both) is the global airborne decode -/
theorem position_airborne (b0 b1 : Bits) (tc0 tc1 : Nat) (h0 : tcB b0 = some tc0) (h1 : tcB b1 = some tc1)
    (h : (9 ≤ tc0 ∧ tc0 ≤ 18 ∧ 9 ≤ tc1 ∧ tc1 ≤ 18) ∨ (20 ≤ tc0 ∧ tc0 ≤ 22 ∧ 20 ≤ tc1 ∧ tc1 ≤ 22))
    (f0 f1 : CprFrame) (hf0 : cprFields b0 = .val f0) (hf1 : cprFields b1 = .val f1)
    (t0 t1 : Rat) (ref : Option (Rat × Rat)) :
    position b0 b1 t0 t1 ref = airbornePositionCore cprNL f0 f1 t0 t1 := by
  have h58 : ¬ (5 ≤ tc0 ∧ tc0 ≤ 8 ∧ 5 ≤ tc1 ∧ tc1 ≤ 8) := by omega
  have hr : positionRoute b0 b1 ref.isSome = .val .airborne := by
    unfold positionRoute
    simp only [h0, h1, h58, if_false]
    rcases h with h | h
    · simp [h]
    · have : ¬ (9 ≤ tc0 ∧ tc0 ≤ 18 ∧ 9 ≤ tc1 ∧ tc1 ≤ 18) := by omega
      simp [this, h]
  unfold position
  rw [hr]
  simp [airbornePosition, hf0, hf1]

end PyModeS.Tracker
