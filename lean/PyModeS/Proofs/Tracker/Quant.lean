/-
  CPR quantisation bound: the position carried by a frame (`Spec.cprEncode … |>.rlat / .rlon`,
  which is what the decoders recover) is within half a quantisation step `dlat / 2^17`,
  `dlon / 2^17` of the encoder's input.  With the zone sizes this gives the 0.001 degree tolerance
  used by the tracker comparison: always for the latitude and for surface frames, and for airborne
  frames whenever there are at least two longitude zones (one zone only beyond 87 degrees latitude,
  where half a step is 360/2^18 = 0.00137 degrees -- see the counterexample at the end).
-/
import PyModeS.Proofs.CPR.Local

namespace PyModeS.Tracker
open PyModeS

/-! ### rounding to the nearest integer -/

/-- rounding (ties upwards) moves a rational by at most one half -/
theorem round_half (x : ℚ) : |((⌊x + 1 / 2⌋ : ℤ) : ℚ) - x| ≤ 1 / 2 := by
  rw [← round_eq, abs_sub_comm]
  exact abs_sub_round x

/-- rounding `x` to the nearest multiple of `d / 2^17` moves it by at most `d / 2^18` -/
theorem round_step (d : ℚ) (hd : 0 < d) (x : ℚ) :
    |d / 131072 * ((⌊131072 * (x / d) + 1 / 2⌋ : ℤ) : ℚ) - x| ≤ d / 2 ^ 18 := by
  have hx : x = d / 131072 * (131072 * (x / d)) := by field_simp
  have hr := round_half (131072 * (x / d))
  generalize 131072 * (x / d) = X at hx hr
  generalize ((⌊X + 1 / 2⌋ : ℤ) : ℚ) = F at hr
  have e : d / 131072 * F - x = d / 131072 * (F - X) := by rw [hx]; ring
  have hc : (0 : ℚ) ≤ d / 131072 := by positivity
  rw [e, abs_mul, abs_of_nonneg hc]
  calc d / 131072 * |F - X| ≤ d / 131072 * (1 / 2) := mul_le_mul_of_nonneg_left hr hc
    _ = d / 2 ^ 18 := by ring

/-! ### the carried longitude is the rounded input -/

/-- analogue of `CPR.enc_rlat_round` for the longitude: the carried longitude is the input
    longitude rounded to the nearest multiple of `dlon/2^17` (ties upwards) -/
theorem enc_rlon_round (nl : ℚ → ℕ) (B : ℚ) (i : ℕ) (lat lon : ℚ) :
    (Spec.cprEncode nl B i lat lon).rlon = (Spec.cprEncode nl B i lat lon).dlon / 131072 *
      ((⌊131072 * (lon / (Spec.cprEncode nl B i lat lon).dlon) + 1 / 2⌋ : ℤ) : ℚ) := by
  simp only [Spec.cprEncode, Spec.two17, CPR.ratFloor_eq]
  generalize (B / ((max (nl _ - i) 1 : ℕ) : ℚ)) = d
  have : (131072 : ℚ) * (lon / d - (⌊lon / d⌋ : ℚ)) + 1 / 2
      = (131072 * (lon / d) + 1 / 2) + ((-(131072 * ⌊lon / d⌋) : ℤ) : ℚ) := by push_cast; ring
  rw [this, Int.floor_add_intCast]
  push_cast; ring

/-! ### quantisation error -/

/-- the carried latitude is within half a quantisation step (`dlat / 2^17 / 2`) of the input -/
theorem quant_lat (nl : ℚ → ℕ) (base : ℚ) (hb : 0 < base) (i : ℕ) (hi : i = 0 ∨ i = 1)
    (lat lon : ℚ) (e : Spec.Enc) (he : e = Spec.cprEncode nl base i lat lon) :
    |e.rlat - lat| ≤ e.dlat / 2 ^ 18 := by
  subst he
  rw [CPR.enc_rlat_round]
  exact round_step _ (CPR.enc_dlat_pos nl base hb i hi lat lon) lat

/-- the carried longitude is within half a quantisation step (`dlon / 2^17 / 2`) of the input -/
theorem quant_lon (nl : ℚ → ℕ) (base : ℚ) (hb : 0 < base) (i : ℕ) (hi : i = 0 ∨ i = 1)
    (lat lon : ℚ) (e : Spec.Enc) (he : e = Spec.cprEncode nl base i lat lon) :
    |e.rlon - lon| ≤ e.dlon / 2 ^ 18 := by
  have _ := hi
  subst he
  rw [enc_rlon_round]
  exact round_step _ (CPR.enc_dlon_pos nl base hb i lat lon) lon

/-! ### zone sizes -/

/-- the latitude zone is `base / (60 - i)`, at most `base / 59` -/
theorem dlat_le (nl : ℚ → ℕ) (base : ℚ) (hb : 0 < base) (i : ℕ) (hi : i = 0 ∨ i = 1)
    (lat lon : ℚ) (e : Spec.Enc) (he : e = Spec.cprEncode nl base i lat lon) :
    e.dlat ≤ base / 59 := by
  subst he
  rw [CPR.enc_dlat]
  rcases hi with rfl | rfl
  · exact div_le_div_of_nonneg_left hb.le (by norm_num) (by norm_num)
  · exact le_of_eq (by norm_num)

/-- the longitude zone is `base / max (NL(rlat) - i) 1` (= `CPR.enc_dlon`) -/
theorem dlon_eq' (nl : ℚ → ℕ) (base : ℚ) (i : ℕ) (lat lon : ℚ) (e : Spec.Enc)
    (he : e = Spec.cprEncode nl base i lat lon) :
    e.dlon = base / ((max (nl e.rlat - i) 1 : ℕ) : ℚ) := by
  subst he
  exact CPR.enc_dlon nl base i lat lon

/-- the longitude zone is at most `base` (one zone) -/
theorem dlon_le (nl : ℚ → ℕ) (base : ℚ) (hb : 0 < base) (i : ℕ) (lat lon : ℚ) (e : Spec.Enc)
    (he : e = Spec.cprEncode nl base i lat lon) : e.dlon ≤ base := by
  rw [dlon_eq' nl base i lat lon e he]
  have h1 : 1 ≤ max (nl e.rlat - i) 1 := le_max_right _ _
  have h1' : (1 : ℚ) ≤ ((max (nl e.rlat - i) 1 : ℕ) : ℚ) := by exact_mod_cast h1
  exact div_le_self hb.le h1'

/-- with at least two longitude zones the zone is at most `base / 2` -/
theorem dlon_le_half (nl : ℚ → ℕ) (base : ℚ) (hb : 0 < base) (i : ℕ) (lat lon : ℚ) (e : Spec.Enc)
    (he : e = Spec.cprEncode nl base i lat lon) (hni : 2 ≤ max (nl e.rlat - i) 1) :
    e.dlon ≤ base / 2 := by
  rw [dlon_eq' nl base i lat lon e he]
  have h2 : (2 : ℚ) ≤ ((max (nl e.rlat - i) 1 : ℕ) : ℚ) := by exact_mod_cast hni
  exact div_le_div_of_nonneg_left hb.le (by norm_num) h2

/-! ### explicit numeric bounds -/

/-- latitude error at most `base/59/2^18` -/
theorem quant_lat_le (nl : ℚ → ℕ) (base : ℚ) (hb : 0 < base) (i : ℕ) (hi : i = 0 ∨ i = 1)
    (lat lon : ℚ) (e : Spec.Enc) (he : e = Spec.cprEncode nl base i lat lon) :
    |e.rlat - lat| ≤ base / 59 / 2 ^ 18 :=
  (quant_lat nl base hb i hi lat lon e he).trans
    (div_le_div_of_nonneg_right (dlat_le nl base hb i hi lat lon e he) (by norm_num))

/-- longitude error at most `D/2^18` when the longitude zone is at most `D` -/
theorem quant_lon_le (nl : ℚ → ℕ) (base : ℚ) (hb : 0 < base) (i : ℕ) (hi : i = 0 ∨ i = 1)
    (lat lon : ℚ) (e : Spec.Enc) (he : e = Spec.cprEncode nl base i lat lon) {D : ℚ} (hD : e.dlon ≤ D) :
    |e.rlon - lon| ≤ D / 2 ^ 18 :=
  (quant_lon nl base hb i hi lat lon e he).trans (div_le_div_of_nonneg_right hD (by norm_num))

/-- airborne latitude error at most `360/59/2^18` (< 0.0000233 degrees) -/
theorem quant_lat_360 (nl : ℚ → ℕ) (i : ℕ) (hi : i = 0 ∨ i = 1) (lat lon : ℚ) (e : Spec.Enc)
    (he : e = Spec.cprEncode nl 360 i lat lon) : |e.rlat - lat| ≤ 360 / 59 / 2 ^ 18 :=
  quant_lat_le nl 360 (by norm_num) i hi lat lon e he

/-- airborne longitude error at most `360 / (ni * 2^18)` with `ni = max (NL(rlat) - i) 1` -/
theorem quant_lon_360 (nl : ℚ → ℕ) (i : ℕ) (hi : i = 0 ∨ i = 1) (lat lon : ℚ) (e : Spec.Enc)
    (he : e = Spec.cprEncode nl 360 i lat lon) :
    |e.rlon - lon| ≤ 360 / ((max (nl e.rlat - i) 1 : ℕ) : ℚ) / 2 ^ 18 :=
  quant_lon_le nl 360 (by norm_num) i hi lat lon e he (dlon_eq' nl 360 i lat lon e he).le

/-! ### the 0.001 degree tolerance -/

/-- airborne, base 360: needs at least two longitude zones (`ni = 1` only beyond 87 degrees
    latitude, where half a step is `360/2^18 = 0.00137` degrees) -/
theorem carried_within_0_001 (nl : ℚ → ℕ) (i : ℕ) (hi : i = 0 ∨ i = 1) (lat lon : ℚ)
    (e : Spec.Enc) (he : e = Spec.cprEncode nl 360 i lat lon)
    (hni : 2 ≤ max (nl e.rlat - i) 1) :
    |e.rlon - lon| < 1 / 1000 ∧ |e.rlat - lat| < 1 / 1000 :=
  ⟨(quant_lon_le nl 360 (by norm_num) i hi lat lon e he
      (dlon_le_half nl 360 (by norm_num) i lat lon e he hni)).trans_lt (by norm_num),
    (quant_lat_le nl 360 (by norm_num) i hi lat lon e he).trans_lt (by norm_num)⟩

/-- surface, base 90: unconditional -/
theorem carried_within_0_001_surface (nl : ℚ → ℕ) (i : ℕ) (hi : i = 0 ∨ i = 1) (lat lon : ℚ)
    (e : Spec.Enc) (he : e = Spec.cprEncode nl 90 i lat lon) :
    |e.rlon - lon| < 1 / 1000 ∧ |e.rlat - lat| < 1 / 1000 :=
  ⟨(quant_lon_le nl 90 (by norm_num) i hi lat lon e he
      (dlon_le nl 90 (by norm_num) i lat lon e he)).trans_lt (by norm_num),
    (quant_lat_le nl 90 (by norm_num) i hi lat lon e he).trans_lt (by norm_num)⟩

/-! ### non-vacuity and sharpness -/

/-- the hypotheses of `carried_within_0_001` hold for a real position (lat 52.2572, lon 3.91937,
    even frame, the NL function as coded): 36 longitude zones -/
example : 2 ≤ max (cprNL (Spec.cprEncode cprNL 360 0 (522572 / 10000) (391937 / 100000)).rlat - 0) 1 := by
  decide +kernel

example :
    |(Spec.cprEncode cprNL 360 0 (522572 / 10000) (391937 / 100000)).rlon - 391937 / 100000| < 1 / 1000 ∧
    |(Spec.cprEncode cprNL 360 0 (522572 / 10000) (391937 / 100000)).rlat - 522572 / 10000| < 1 / 1000 :=
  carried_within_0_001 cprNL 0 (Or.inl rfl) _ _ _ rfl (by decide +kernel)

/-- odd frame of the same position -/
example :
    |(Spec.cprEncode cprNL 360 1 (522572 / 10000) (391937 / 100000)).rlon - 391937 / 100000| < 1 / 1000 ∧
    |(Spec.cprEncode cprNL 360 1 (522572 / 10000) (391937 / 100000)).rlat - 522572 / 10000| < 1 / 1000 :=
  carried_within_0_001 cprNL 1 (Or.inr rfl) _ _ _ rfl (by decide +kernel)

/-- surface frame of the same position (unconditional) -/
example :
    |(Spec.cprEncode cprNL 90 0 (522572 / 10000) (391937 / 100000)).rlon - 391937 / 100000| < 1 / 1000 ∧
    |(Spec.cprEncode cprNL 90 0 (522572 / 10000) (391937 / 100000)).rlat - 522572 / 10000| < 1 / 1000 :=
  carried_within_0_001_surface cprNL 0 (Or.inl rfl) _ _ _ rfl

/-- sharpness: the `ni ≥ 2` hypothesis cannot be dropped for base 360.  At latitude 88 there is a
    single longitude zone (`dlon = 360`), the input longitude 0.00137 is carried as 0, an error of
    0.00137 > 0.001 degrees. -/
theorem carried_within_0_001_sharp :
    max (cprNL (Spec.cprEncode cprNL 360 0 88 (137 / 100000)).rlat - 0) 1 = 1 ∧
    (Spec.cprEncode cprNL 360 0 88 (137 / 100000)).dlon = 360 ∧
    (Spec.cprEncode cprNL 360 0 88 (137 / 100000)).rlon = 0 ∧
    ¬ |(Spec.cprEncode cprNL 360 0 88 (137 / 100000)).rlon - 137 / 100000| < 1 / 1000 := by
  have h1 : max (cprNL (Spec.cprEncode cprNL 360 0 88 (137 / 100000)).rlat - 0) 1 = 1 := by
    decide +kernel
  have h2 : (Spec.cprEncode cprNL 360 0 88 (137 / 100000)).dlon = 360 := by decide +kernel
  have h3 : (Spec.cprEncode cprNL 360 0 88 (137 / 100000)).rlon = 0 := by decide +kernel
  refine ⟨h1, h2, h3, ?_⟩
  rw [h3]
  norm_num [abs_of_nonneg]

end PyModeS.Tracker
