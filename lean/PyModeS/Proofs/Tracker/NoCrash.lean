/-
  C17, robustness half: `Decode.process_raw` (model: `adsbStep`, `commbStep`, `processRaw` of
  PyModeS/Model/Tracker.lean) does not raise: every step is `Ok` (returns a value) and keeps `TrackerWF`,
  stated together as `OkP TrackerWF`.
-/
import PyModeS.Proofs.Tracker.NoCrashDecoders
import PyModeS.Proofs.Tracker.NoCrashInfer
import PyModeS.Proofs.Tracker.Steps
import PyModeS.Proofs.Hex

namespace PyModeS.Tracker
open PyModeS

/-! ### results with a post-condition -/

/-- the call returns a value, and the value satisfies `P` -/
def OkP {α} (P : α → Prop) (r : Res α) : Prop := ∃ v, r = .val v ∧ P v

theorem okP_val {α} {P : α → Prop} (a : α) (h : P a) : OkP P (Res.val a) := ⟨a, rfl, h⟩
theorem OkP.ok {α} {P : α → Prop} {r : Res α} (h : OkP P r) : Ok r := by
  obtain ⟨v, hv, _⟩ := h; exact ⟨v, hv⟩
theorem okP_of_ok {α} {r : Res α} (h : Ok r) : OkP (fun _ => True) r := by
  obtain ⟨v, hv⟩ := h; exact ⟨v, hv, trivial⟩

/-! ### the table invariant -/

/-- the table invariant: every stored record is well-formed -/
def TrackerWF (tr : Tracker) : Prop := ∀ p ∈ tr.acs, AcWF p.2

/-- the empty table (a fresh `Decode()`) is well-formed -/
theorem trackerWF_empty : TrackerWF {} := by intro p hp; simp at hp

theorem trackerWF_set {tr : Tracker} (hwf : TrackerWF tr) (k : Msg) (a : Ac) (ha : AcWF a) :
    TrackerWF { tr with acs := acsSet tr.acs k a } := by
  intro p hp
  rcases mem_acsSet hp with h | rfl
  · exact hwf p h
  · exact ha

/-! ### one ADS-B message: every decoder is called under the type-code guard that makes it total -/

/-- `pms.adsb.velocity(msg)` under `(5 <= tc <= 8) or (tc == 19)` -/
theorem velocityGate_ok (bits : Bits) (tc : Nat) (hlen : bits.length = 112) (htc : tcB bits = some tc)
    (h : (5 ≤ tc ∧ tc ≤ 8) ∨ tc = 19) : Ok (velocityGate bits) := by
  unfold velocityGate
  rcases h with h | rfl
  · rw [velocityRoute_surface bits tc htc h, Res.bind_val]
    exact (surfaceVelocity_ok bits tc hlen htc h.1 h.2).bind fun ⟨_, _⟩ => ok_pure _
  · rw [velocityRoute_airborne bits htc, Res.bind_val]
    exact (airborneVelocity_ok bits hlen htc).bind fun v => by cases v <;> exact ok_pure _

/-- the uncertainty block, for a record whose stored `nic_s` is a bit; join points as in
    `qualityBlock_rall` -/
theorem qualityBlock_ok (ac : Ac) (hs : ∀ s, ac.nicS = some s → s ≤ 1) (bits : Bits) (tc : Nat)
    (hlen : bits.length = 112) (htc : tcB bits = some tc) : Ok (qualityBlock ac bits tc) := by
  unfold qualityBlock
  extract_lets jp1 jp2
  have h1 : ∀ a, Ok (jp1 a) := fun a =>
    ok_ite (fun h => (version_ok bits hlen (h ▸ htc)).bind fun v =>
        (nacP_ok bits tc hlen htc (.inr h)).bind fun _ => (sil_ok bits tc hlen htc (.inr h) _).bind fun _ =>
        .ite ((nicS_ok bits hlen (h ▸ htc)).bind fun _ => ok_pure _)
          (.ite ((nicAC_ok bits hlen (h ▸ htc)).bind fun ⟨_, _⟩ => ok_pure _) (ok_pure _)))
      (fun _ => ok_pure _)
  clear_value jp1
  have h2 : ∀ a : Ac, (∀ s, a.nicS = some s → s ≤ 1) → Ok (jp2 a) := by
    intro a hsa
    simp -zeta only [jp2]
    extract_lets jp3 jp4
    have h3 : ∀ u, Ok (jp3 u) := fun _ =>
      ok_ite (fun h => (sil_ok bits tc hlen htc (.inl h) _).bind fun _ =>
        (nacP_ok bits tc hlen htc (.inl h)).bind fun _ => h1 _) (fun _ => h1 _)
    clear_value jp3
    have h4 : ∀ u, Ok (jp4 u) := fun _ =>
      ok_ite (fun h => (nucV_ok bits hlen (h ▸ htc)).bind fun _ =>
        .ite ((nacV_ok bits hlen (h ▸ htc)).bind fun _ => h3 ()) (h3 ())) (fun _ => h3 ())
    clear_value jp4
    refine ok_ite (fun h => (nucP_ok bits tc htc h).bind fun _ => ?_) (fun _ => h4 ())
    split
    · exact (nicV1_ok bits tc _ htc h (hsa _ ‹_›)).bind fun _ => h4 ()
    · exact (nicV2_ok bits tc _ _ htc h).bind fun _ => h4 ()
    · exact h4 ()
  clear_value jp2
  exact ok_ite (fun h => (nicB_ok bits tc hlen htc h.1 h.2).bind fun _ => h2 _ hs) (fun _ => h2 _ hs)

section
variable {β : Type} {bits : Bits} {tc : Nat} (hlen : bits.length = 112) (htc : tcB bits = some tc)
include hlen htc

theorem callsignBlockK_ok {k : Res β} (hk : Ok k) : Ok (callsignBlockK bits tc k) :=
  ok_ite (fun h => (callsign_ok bits tc hlen htc h.1 h.2).bind fun _ => hk) fun _ => hk

theorem velBlockK_ok {k : Bool → Res β} (hk : ∀ c, Ok (k c)) : Ok (velBlockK bits tc k) :=
  ok_ite (fun h => (velocityGate_ok bits tc hlen htc h).bind fun g => by split <;> exact hk _) fun _ => hk _

/-- the position block returns if the rest does on every record with the same `nic_s`;
    `pms.adsb.position` may raise anything (bare `except: continue`) -/
theorem posBlockK_ok {ref : Option (Rat × Rat)} {t : Rat} {ac : Ac} {k : Ac × Bool → Res β} (hac : AcWF ac)
    (hk : ∀ a c, a.nicS = ac.nicS → Ok (k (a, c))) : Ok (posBlockK ref bits t tc ac k) := by
  unfold posBlockK
  refine ok_ite (fun h518 => (oeFlag_ok _ hlen).bind fun oe => ?_) (fun _ => hk _ _ rfl)
  extract_lets ac' useRef
  have hac' : AcWF ac' ∧ ac'.nicS = ac.nicS := by simp only [ac']; split <;> exact ⟨hac, rfl⟩
  refine ok_ite (fun hu => ?_) (fun _ => ?_)
  · -- `t - tpos < 180`: `tpos` is set, hence so are `lat` and `lon`
    have htp : ac'.tpos.isSome := by
      cases h : ac'.tpos with
      | none => simp [useRef, h] at hu
      | some _ => rfl
    obtain ⟨hla, hlo⟩ := hac'.1.1 htp
    obtain ⟨la, hla⟩ := Option.isSome_iff_exists.1 hla
    obtain ⟨lo, hlo⟩ := Option.isSome_iff_exists.1 hlo
    simp -zeta only [hla, hlo]
    exact (positionWithRef_ok bits tc hlen htc h518.1 h518.2 la lo).bind fun ⟨_, _⟩ =>
      (adsbAltitude_ok bits tc hlen htc h518.1 h518.2).bind fun _ => hk _ _ hac'.2
  · split
    · refine .ite ?_ (hk _ _ hac'.2)
      split
      · exact (adsbAltitude_ok bits tc hlen htc h518.1 h518.2).bind fun _ => hk _ _ hac'.2
      · exact hk _ _ hac'.2
      · exact hk _ _ hac'.2
    · exact hk _ _ hac'.2

end

/-- One ADS-B step on a 28-digit DF17/18 message returns a value. -/
theorem adsbStep_ok (tr : Tracker) (hwf : TrackerWF tr) (t : Rat) (m : Msg) (hlen : m.length = 28)
    (hdf : df m = 17 ∨ df m = 18) : Ok (adsbStep tr t m) := by
  have hlen : (hex2binM m).length = 112 := by rw [hex2binM_length, hlen]
  obtain ⟨tc, htc⟩ : ∃ tc, tcB (hex2binM m) = some tc := by
    unfold tcB; rw [← df_eq]; simp [hdf]
  have hac : AcWF (startAc tr t m) := acWF_get hwf _ _
  rw [adsbStep_of_tc (typecode_eq m ▸ htc)]
  exact callsignBlockK_ok hlen htc <| velBlockK_ok hlen htc fun _ => .ite (ok_pure _) <|
    posBlockK_ok hlen htc hac fun a c ha => .ite (ok_pure _) <|
      (qualityBlock_ok a (ha ▸ hac.2) _ tc hlen htc).bind fun _ => ok_pure _

/-- preservation of the invariant by an ADS-B step -/
theorem adsbStep_preserves (tr tr' : Tracker) (hwf : TrackerWF tr) (t : Rat) (m : Msg)
    (hlen : m.length = 28) (hdf : df m = 17 ∨ df m = 18) (h : adsbStep tr t m = .val tr') : TrackerWF tr' := by
  have _ := hlen; have _ := hdf
  obtain ⟨a, rfl, _, hw⟩ := rall_elim (adsbStep_rall tr t m) h
  exact trackerWF_set hwf _ _ (hw hwf)

/-- C17 (robustness), one ADS-B message: `process_raw`'s ADS-B loop body returns normally on a 28-digit
    DF17/18 message, whatever the (well-formed) table, and leaves the table well-formed.  The hex
    well-formedness of `m` is not needed because the model reads a non-hex character as 0 where Python
    raises. -/
theorem adsbStep_no_crash (tr : Tracker) (hwf : TrackerWF tr) (t : Rat) (m : Msg)
    (hlen : m.length = 28) (hdf : df m = 17 ∨ df m = 18) :
    ∃ tr', adsbStep tr t m = .val tr' ∧ TrackerWF tr' :=
  let ⟨tr', h⟩ := adsbStep_ok tr hwf t m hlen hdf
  ⟨tr', h, adsbStep_preserves tr tr' hwf t m hlen hdf h⟩

/-- the same in the `≠` form: neither `RuntimeError` nor any other exception -/
theorem adsbStep_ne_exc_rte (tr : Tracker) (hwf : TrackerWF tr) (t : Rat) (m : Msg)
    (hlen : m.length = 28) (hdf : df m = 17 ∨ df m = 18) :
    adsbStep tr t m ≠ .exc ∧ adsbStep tr t m ≠ .rte :=
  ok_iff.1 (adsbStep_ok tr hwf t m hlen hdf)

/-- the hypotheses of `adsbStep_no_crash` are met, e.g., by an identification message to a fresh table -/
example : ("8D406B902015A678D4D220AA4BDA".toList).length = 28 ∧ df "8D406B902015A678D4D220AA4BDA".toList = 17 ∧
    TrackerWF {} := ⟨by decide, by decide +kernel, trackerWF_empty⟩

/-! ### a whole ADS-B batch -/

theorem foldRes_okP {α β} (Inv : α → Prop) (Good : β → Prop) (f : α → β → Res α)
    (hf : ∀ a b, Inv a → Good b → OkP Inv (f a b)) (a : α) (l : List β) (ha : Inv a) (hl : ∀ b ∈ l, Good b) :
    OkP Inv (foldRes f a l) := by
  induction l generalizing a with
  | nil => exact okP_val _ ha
  | cons b bs ih =>
    obtain ⟨a', h, ha'⟩ := hf a b ha (hl b (by simp))
    unfold foldRes
    rw [h]
    exact ih a' ha' (fun x hx => hl x (by simp [hx]))

/-- the ADS-B loop of `process_raw` over a batch of 28-digit DF17/18 messages returns normally -/
theorem adsbBatch_no_crash (tr : Tracker) (hwf : TrackerWF tr) (adsb : List (Rat × Msg))
    (h : ∀ p ∈ adsb, p.2.length = 28 ∧ (df p.2 = 17 ∨ df p.2 = 18)) :
    ∃ tr', foldRes (fun tr p => adsbStep tr p.1 p.2) tr adsb = .val tr' ∧ TrackerWF tr' :=
  foldRes_okP TrackerWF (fun p : Rat × Msg => p.2.length = 28 ∧ (df p.2 = 17 ∨ df p.2 = 18)) _
    (fun a b ha hb => adsbStep_no_crash a ha b.1 b.2 hb.1 hb.2) tr adsb hwf h

/-! ### Comm-B messages and the whole call -/

/-- preservation of the invariant by a Comm-B step (no hypothesis on the message) -/
theorem commbStep_preserves (ias : Rat → Int → Rat) (tr tr' : Tracker) (hwf : TrackerWF tr) (t : Rat) (m : Msg)
    (h : commbStep ias tr t m = .val tr') : TrackerWF tr' := by
  rcases commbStep_val h with ⟨_, rfl⟩ | ⟨ac, hg, rfl⟩
  · exact hwf
  · exact trackerWF_set hwf _ _ (hwf _ (acsGet_some_mem hg))

/-- one Comm-B message (28 hex digits) returns normally (`pms.bds.infer` is total on 112 bits: `infer_ok`) and
    the table stays well-formed (only `live` changes).  The model of the Comm-B loop stops at `pms.bds.infer`:
    the field decoders `process_raw` runs afterwards on a BDS50/60/44 label (`roll50` … `wind44`) are not
    part of `commbStep`. -/
theorem commbStep_no_crash (ias : Rat → Int → Rat) (tr : Tracker) (hwf : TrackerWF tr)
    (t : Rat) (m : Msg) (hlen : m.length = 28) :
    ∃ tr', commbStep ias tr t m = .val tr' ∧ TrackerWF tr' := by
  have hok : Ok (commbStep ias tr t m) := by
    rw [commbStep_eq]
    cases acsGet tr.acs (keyOf m) with
    | none => exact ok_pure _
    | some ac => exact (infer_ok _ (by rw [hex2binM_length, hlen]) ias false).bind fun _ => ok_pure _
  obtain ⟨tr', h⟩ := hok
  exact ⟨tr', h, commbStep_preserves ias tr tr' hwf t m h⟩

theorem trackerWF_filter {tr : Tracker} (hwf : TrackerWF tr) (f : Msg × Ac → Bool) :
    TrackerWF { tr with acs := tr.acs.filter f } :=
  fun p hp => hwf p (List.mem_filter.1 hp).1

/--
C17 (robustness), a whole call: `process_raw(adsb_ts, adsb_msg, commb_ts, commb_msg, tnow)` returns
normally when every ADS-B message is a 28-digit DF17/18 message and every Comm-B message has 28 digits,
from any well-formed table (in particular from the table left by any earlier such calls, starting from
`Decode()`), and leaves a well-formed table.  Hex well-formedness of the messages is not needed because
the model reads a non-hex character as 0 where Python raises.
-/
theorem process_raw_no_crash (ias : Rat → Int → Rat) (tr : Tracker) (hwf : TrackerWF tr)
    (adsb commb : List (Rat × Msg)) (tnow : Rat)
    (ha : ∀ p ∈ adsb, p.2.length = 28 ∧ (df p.2 = 17 ∨ df p.2 = 18))
    (hc : ∀ p ∈ commb, p.2.length = 28) :
    ∃ tr', processRaw ias tr adsb commb tnow = .val tr' ∧ TrackerWF tr' := by
  obtain ⟨tr1, h1, hwf1⟩ := adsbBatch_no_crash tr hwf adsb ha
  obtain ⟨tr2, h2, hwf2⟩ := foldRes_okP TrackerWF (fun p : Rat × Msg => p.2.length = 28)
    (fun tr p => commbStep ias tr p.1 p.2)
    (fun a b ha hb => commbStep_no_crash ias a ha b.1 b.2 hb) tr1 commb hwf1 hc
  unfold processRaw
  simp only [h1, h2, Res.bind_val, Res.pure_eq]
  exact ⟨_, rfl, trackerWF_filter hwf2 _⟩

/-- a history of calls: each call is (ADS-B batch, Comm-B batch, tnow) -/
def processHistory (ias : Rat → Int → Rat) : Tracker → List (List (Rat × Msg) × List (Rat × Msg) × Rat) → Res Tracker :=
  foldRes (fun tr c => processRaw ias tr c.1 c.2.1 c.2.2)

/-- C17 (robustness): any history of such calls, starting from a fresh `Decode()`, never raises -/
theorem processRaw_history_no_crash (ias : Rat → Int → Rat)
    (calls : List (List (Rat × Msg) × List (Rat × Msg) × Rat))
    (h : ∀ c ∈ calls, (∀ p ∈ c.1, p.2.length = 28 ∧ (df p.2 = 17 ∨ df p.2 = 18)) ∧ (∀ p ∈ c.2.1, p.2.length = 28)) :
    ∃ tr', processHistory ias {} calls = .val tr' ∧ TrackerWF tr' :=
  foldRes_okP TrackerWF
    (fun c : List (Rat × Msg) × List (Rat × Msg) × Rat =>
      (∀ p ∈ c.1, p.2.length = 28 ∧ (df p.2 = 17 ∨ df p.2 = 18)) ∧ (∀ p ∈ c.2.1, p.2.length = 28))
    _ (fun a c ha hc => process_raw_no_crash ias a ha c.1 c.2.1 c.2.2 hc.1 hc.2) {} calls
    trackerWF_empty h

/-- The one decoder fact the Comm-B loop rests on, as a proposition of its own.  (The ADS-B loop needs
    `callsign`, `velocity`, `oe_flag`, `position_with_ref`, `altitude`, `nic_b`, `nuc_p`, `nic_v1`, `nic_v2`,
    `nuc_v`, `nac_v`, `sil`, `nac_p`, `version`, `nic_s`, `nic_a_c`, each under the type codes under which
    `process_raw` makes the call: `NoCrashDecoders.lean`; and nothing about `pms.adsb.position`.) -/
structure DecodersTotal : Prop where
  /-- `pms.bds.infer(msg)` (decoder/bds/__init__.py, with the default `mrar=False`), called by the
      Comm-B loop of `process_raw` on every message of a known address: returns a label or `None` on
      any 112-bit frame, whatever the `mach2cas` oracle -/
  infer : ∀ (ias : Rat → Int → Rat) (bits : Bits), bits.length = 112 → ∃ v, infer ias bits false = .val v

theorem decodersTotal : DecodersTotal := ⟨fun ias bits h => infer_ok bits h ias false⟩

/-! ### concrete runs (the theorems are not vacuous, and the model evaluates) -/

/-- an identification message (TC 4) to a fresh table -/
example : (adsbStep {} 0 "8D406B902015A678D4D220AA4BDA".toList).isVal = true := by decide +kernel

/-- one aircraft: an airborne position pair (TC 11, even then odd: global decoding), an operational status
    message (TC 31: version 1, `nic_s` = 1), a third position message (decoded against the stored position,
    then `nic_v1` with the stored supplement), an airborne velocity message (TC 19) -/
example :
    (foldRes (fun tr p => adsbStep tr p.1 p.2) {}
      [(0, "8D40621D58C382D690C8AC2863A7".toList), (1, "8D40621D58C386435CC412692AD6".toList),
       (2, "8D40621DF8000000003000000000".toList), (3, "8D40621D58C382D690C8AC2863A7".toList),
       (4, "8D40621D9944EC0000000B000000".toList)]).isVal = true := by
  decide +kernel

end PyModeS.Tracker
