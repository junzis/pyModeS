/-
  `pms.bds.infer(msg)` returns a value on every 112-bit frame (the one decoder fact the Comm-B loop of
  `process_raw` needs): it is the explicit function `Infer.inferP` of the frame.
  Helper file of `PyModeS/Proofs/Tracker/NoCrash.lean`.
-/
import PyModeS.Proofs.Tracker.NoCrashDecoders
import PyModeS.Proofs.Infer.Main

namespace PyModeS.Tracker
open PyModeS

theorem ufield_ok (d : Bits) (sb a b : Nat) (scale off : Rat) (h1 : sb < d.length) (h2 : a < b) (h3 : b ≤ d.length) :
    Ok (ufield d sb a b scale off) :=
  ⟨_, Infer.ufield_val d sb a b scale off h1 h2 (by omega)⟩

theorem sfield_ok (d : Bits) (sb sg a b : Nat) (scale : Rat) (h1 : sb < d.length) (h1' : sg < d.length) (h2 : a < b)
    (h3 : b ≤ d.length) : Ok (sfield d sb sg a b scale) :=
  ⟨_, Infer.sfield_val d sb sg a b scale h1 h1' h2 (by omega)⟩

/-- a status rule `(sb, msb, lsb)` (1-based, as in `wrongstatus`) stays inside the 56-bit MB field -/
def ruleOk (r : Nat × Nat × Nat) : Bool := decide (1 ≤ r.1 ∧ r.1 ≤ 56 ∧ 1 ≤ r.2.1 ∧ r.2.1 ≤ r.2.2 ∧ r.2.2 ≤ 56)

theorem statusOk_ok (d : Bits) (hl : d.length = 56) (rules : List (Nat × Nat × Nat)) (h : rules.all ruleOk = true) :
    Ok (statusOk d rules) := by
  refine ⟨_, Infer.statusOk_val d rules fun t ht => ?_⟩
  have := List.all_eq_true.mp h t ht
  simp only [ruleOk, decide_eq_true_eq] at this
  omega

/-- `pms.bds.infer(msg, mrar)` returns a label, a list of labels or `None` on every 112-bit frame -/
theorem infer_ok (bits : Bits) (hlen : bits.length = 112) (ias : Rat → Int → Rat) (mrar : Bool) :
    Ok (infer ias bits mrar) :=
  ⟨_, Infer.infer_val ias bits mrar hlen⟩

end PyModeS.Tracker
