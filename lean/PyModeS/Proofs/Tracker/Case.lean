/-
  Letter-case insensitivity of the tracker steps: a hex message enters `adsbStep`/`commbStep`
  only through `hex2binM`, `icao` and `typecode`, none of which sees the letter case.
-/
import PyModeS.Proofs.Tracker.Basic
import PyModeS.Proofs.CRC.Icao
namespace PyModeS.Tracker
open PyModeS PyModeS.CRC

theorem typecode_map (f : Char → Char) (m : Msg) (hf : ∀ c ∈ m, hexVal (f c) = hexVal c) :
    typecode (m.map f) = typecode m := by
  rw [typecode_eq, typecode_eq, hex2binM_map f m hf]

/-- any re-spelling of the characters that keeps digit values and upper-case forms -/
theorem adsbStep_map (f : Char → Char) (tr : Tracker) (t : Rat) (m : Msg)
    (hf : ∀ c ∈ m, hexVal (f c) = hexVal c ∧ (f c).toUpper = c.toUpper) :
    adsbStep tr t (m.map f) = adsbStep tr t m := by
  have hv : ∀ c ∈ m, hexVal (f c) = hexVal c := fun c hc => (hf c hc).1
  unfold adsbStep
  rw [hex2binM_map f m hv, icao_map f m hf, typecode_map f m hv]

theorem commbStep_map (ias : Rat → Int → Rat) (f : Char → Char) (tr : Tracker) (t : Rat) (m : Msg)
    (hf : ∀ c ∈ m, hexVal (f c) = hexVal c ∧ (f c).toUpper = c.toUpper) :
    commbStep ias tr t (m.map f) = commbStep ias tr t m := by
  have hv : ∀ c ∈ m, hexVal (f c) = hexVal c := fun c hc => (hf c hc).1
  unfold commbStep
  rw [hex2binM_map f m hv, icao_map f m hf]

theorem toLower_ok (m : Msg) (h : IsHex m) :
    ∀ c ∈ m, hexVal c.toLower = hexVal c ∧ c.toLower.toUpper = c.toUpper :=
  fun c hc => ⟨(hexFacts c (h c hc)).2.1, (hexFacts c (h c hc)).2.2.2.2.2.1⟩

theorem toUpper_ok (m : Msg) (h : IsHex m) :
    ∀ c ∈ m, hexVal c.toUpper = hexVal c ∧ c.toUpper.toUpper = c.toUpper :=
  fun c hc => ⟨(hexFacts c (h c hc)).2.2.1, (hexFacts c (h c hc)).2.2.2.2.2.2.1⟩

theorem foldRes_map {α β γ} (f : α → β → Res α) (g : γ → β) (l : List γ) :
    ∀ a, foldRes f a (l.map g) = foldRes (fun a c => f a (g c)) a l := by
  induction l with
  | nil => intro a; rfl
  | cons c cs ih =>
    intro a
    rw [List.map_cons, foldRes_cons, foldRes_cons]
    congr 1
    funext a'
    exact ih a'

theorem foldRes_congr {α β} (f g : α → β → Res α) (l : List β) (h : ∀ a, ∀ b ∈ l, f a b = g a b) :
    ∀ a, foldRes f a l = foldRes g a l := by
  induction l with
  | nil => intro a; rfl
  | cons b bs ih =>
    intro a
    rw [foldRes_cons, foldRes_cons, h a b (by simp)]
    congr 1
    funext a'
    exact ih (fun a b hb => h a b (List.mem_cons_of_mem _ hb)) a'

/-- re-spelling every message of both batches (e.g. lower-casing) does not change `process_raw` -/
theorem processRaw_map (ias : Rat → Int → Rat) (f : Char → Char) (tr : Tracker)
    (adsb commb : List (Rat × Msg)) (tnow : Rat)
    (hf : ∀ p ∈ adsb ++ commb, ∀ c ∈ p.2, hexVal (f c) = hexVal c ∧ (f c).toUpper = c.toUpper) :
    processRaw ias tr (adsb.map (fun p => (p.1, p.2.map f))) (commb.map (fun p => (p.1, p.2.map f))) tnow =
      processRaw ias tr adsb commb tnow := by
  have hA : ∀ a, foldRes (fun tr p => adsbStep tr p.1 p.2) a (adsb.map (fun p => (p.1, p.2.map f))) =
      foldRes (fun tr p => adsbStep tr p.1 p.2) a adsb := by
    intro a
    rw [foldRes_map]
    apply foldRes_congr
    intro a b hb
    exact adsbStep_map f a b.1 b.2 (hf b (List.mem_append_left _ hb))
  have hB : ∀ a, foldRes (fun tr p => commbStep ias tr p.1 p.2) a (commb.map (fun p => (p.1, p.2.map f))) =
      foldRes (fun tr p => commbStep ias tr p.1 p.2) a commb := by
    intro a
    rw [foldRes_map]
    apply foldRes_congr
    intro a b hb
    exact commbStep_map ias f a b.1 b.2 (hf b (List.mem_append_right _ hb))
  unfold processRaw
  rw [hA]
  congr 1
  funext tr1
  rw [hB]

end PyModeS.Tracker
