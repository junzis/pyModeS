/-
  Groundwork for the invariants of the live aircraft table: `int(t)` truncation bounds, the dict operations
  `acsGet`/`acsSet` (keys, get after set, filtering), and folding a `Res`-valued step over a list (`foldRes`).
  Which keys a step can add and how `live` evolves: Proofs/Tracker/Steps.lean and Process.lean.
-/
import PyModeS.Model.Tracker
namespace PyModeS.Tracker
open PyModeS

/-! ### `int(t)` -/

theorem pyInt_nonneg_bounds (t : Rat) (h : 0 ≤ t) : (pyInt t : Rat) ≤ t ∧ t < (pyInt t : Rat) + 1 := by
  have e : pyInt t = t.floor := if_pos h
  rw [e]
  refine ⟨Rat.floor_le t, ?_⟩
  have := Rat.lt_floor_add_one t
  rwa [Rat.intCast_add] at this

theorem pyInt_neg_bounds (t : Rat) (h : t < 0) : t ≤ (pyInt t : Rat) ∧ (pyInt t : Rat) < t + 1 := by
  have e : pyInt t = -((-t).floor) := if_neg (Rat.not_le.2 h)
  rw [e, Rat.intCast_neg]
  have h1 := Rat.floor_le (-t)
  have h2 := Rat.lt_floor_add_one (-t)
  rw [Rat.intCast_add] at h2
  grind

/-- `int(t)` is within less than 1 of `t`, on the side of zero -/
theorem pyInt_abs_lt (t : Rat) : t - 1 < (pyInt t : Rat) ∧ (pyInt t : Rat) < t + 1 := by
  by_cases h : 0 ≤ t
  · have := pyInt_nonneg_bounds t h; grind
  · have := pyInt_neg_bounds t (Rat.not_le.1 h); grind

theorem pyInt_bounds (t : Rat) : (pyInt t : Rat) ≤ t + 1 ∧ t - 1 < (pyInt t : Rat) :=
  ⟨Rat.le_of_lt (pyInt_abs_lt t).2, (pyInt_abs_lt t).1⟩

theorem pyInt_mono {s t : Rat} (h : s ≤ t) : pyInt s ≤ pyInt t := by
  unfold pyInt
  by_cases hs : s ≥ 0
  · rw [if_pos hs, if_pos (Rat.le_trans hs h)]
    exact Rat.floor_monotone h
  · rw [if_neg hs]
    have h2 : (0 : Int) ≤ (-s).floor :=
      Rat.le_floor_iff.mpr (by simpa using Rat.neg_le_neg (Rat.le_of_lt (Rat.not_le.1 hs)))
    by_cases ht : t ≥ 0
    · rw [if_pos ht]
      have h1 : (0 : Int) ≤ t.floor := Rat.le_floor_iff.mpr (by simpa using ht)
      omega
    · rw [if_neg ht]
      have : (-t).floor ≤ (-s).floor := Rat.floor_monotone (Rat.neg_le_neg h)
      omega

/-- heard at most 59 s ago: the stamp `int(t) > t - 1` is at most 60 s old -/
theorem pyInt_recent {tnow t : Rat} (h : tnow - t ≤ 59) : tnow - (pyInt t : Rat) ≤ 60 := by
  have := (pyInt_abs_lt t).1
  grind

/-- last heard more than 61 s ago: the stamp `int(T) < T + 1` is more than 60 s old -/
theorem pyInt_silent {tnow T : Rat} (h : tnow - T > 61) : tnow - (pyInt T : Rat) > 60 := by
  have := (pyInt_abs_lt T).2
  grind

/-! ### the dict -/

/-- the key set, in insertion order -/
def keys (acs : List (Msg × Ac)) : List Msg := acs.map (·.1)

theorem any_key_iff (acs : List (Msg × Ac)) (k : Msg) : acs.any (·.1 = k) = true ↔ k ∈ keys acs := by
  simp only [keys, List.any_eq_true, decide_eq_true_eq, List.mem_map]

/-- `acs[k] = a` for a key that is present: the record is replaced in place -/
theorem acsSet_of_mem {acs : List (Msg × Ac)} {k : Msg} (h : k ∈ keys acs) (a : Ac) :
    acsSet acs k a = acs.map (fun p => if p.1 = k then (k, a) else p) :=
  if_pos ((any_key_iff acs k).2 h)

/-- `acs[k] = a` for a new key: appended -/
theorem acsSet_of_not_mem {acs : List (Msg × Ac)} {k : Msg} (h : k ∉ keys acs) (a : Ac) :
    acsSet acs k a = acs ++ [(k, a)] :=
  if_neg (mt (any_key_iff acs k).1 h)

theorem acsSet_keys_of_mem (acs : List (Msg × Ac)) (k : Msg) (a : Ac) (h : k ∈ keys acs) :
    keys (acsSet acs k a) = keys acs := by
  rw [acsSet_of_mem h, keys, keys, List.map_map]
  apply List.map_congr_left
  intro p _
  simp only [Function.comp]
  split
  · rename_i hk; exact hk.symm
  · rfl

theorem acsSet_keys_of_not_mem (acs : List (Msg × Ac)) (k : Msg) (a : Ac) (h : k ∉ keys acs) :
    keys (acsSet acs k a) = keys acs ++ [k] := by
  rw [acsSet_of_not_mem h, keys, keys, List.map_append]; rfl

/-- `acs[k] = a` adds at most the key `k` -/
theorem acsSet_keys_subset (acs : List (Msg × Ac)) (k : Msg) (a : Ac) :
    ∀ x ∈ keys (acsSet acs k a), x ∈ keys acs ∨ x = k := by
  intro x hx
  by_cases h : k ∈ keys acs
  · rw [acsSet_keys_of_mem acs k a h] at hx; exact Or.inl hx
  · rw [acsSet_keys_of_not_mem acs k a h] at hx
    simpa using hx

theorem keys_subset_acsSet (acs : List (Msg × Ac)) (k : Msg) (a : Ac) :
    ∀ x ∈ keys acs, x ∈ keys (acsSet acs k a) := by
  intro x hx
  by_cases h : k ∈ keys acs
  · rw [acsSet_keys_of_mem acs k a h]; exact hx
  · rw [acsSet_keys_of_not_mem acs k a h]; simp [hx]

theorem acsGet_some_mem {acs : List (Msg × Ac)} {k : Msg} {a : Ac} (h : acsGet acs k = some a) :
    (k, a) ∈ acs := by
  unfold acsGet at h
  cases hf : acs.find? (·.1 = k) with
  | none => rw [hf] at h; simp at h
  | some p =>
    rw [hf] at h
    simp only [Option.map_some, Option.some.injEq] at h
    have h1 := List.find?_some hf
    have h2 := List.mem_of_find?_eq_some hf
    simp only [decide_eq_true_eq] at h1
    rw [← h1, ← h]; exact h2

theorem acsGet_some_key {acs : List (Msg × Ac)} {k : Msg} {a : Ac} (h : acsGet acs k = some a) :
    k ∈ keys acs :=
  List.mem_map.2 ⟨(k, a), acsGet_some_mem h, rfl⟩

theorem acsGet_isSome_iff (acs : List (Msg × Ac)) (k : Msg) : (acsGet acs k).isSome ↔ k ∈ keys acs := by
  simp only [acsGet, Option.isSome_map, List.find?_isSome, decide_eq_true_eq, keys, List.mem_map]

theorem acsGet_of_mem {acs : List (Msg × Ac)} {k : Msg} (h : k ∈ keys acs) : ∃ a, acsGet acs k = some a :=
  Option.isSome_iff_exists.1 ((acsGet_isSome_iff acs k).2 h)

theorem acsGet_of_not_mem {acs : List (Msg × Ac)} {k : Msg} (h : k ∉ keys acs) : acsGet acs k = none :=
  Option.not_isSome_iff_eq_none.1 fun hs => h ((acsGet_isSome_iff acs k).1 hs)

/-- reading back what was just stored -/
theorem acsGet_acsSet_same (acs : List (Msg × Ac)) (k : Msg) (a : Ac) :
    acsGet (acsSet acs k a) k = some a := by
  by_cases h : k ∈ keys acs
  · rw [acsSet_of_mem h, acsGet]
    induction acs with
    | nil => cases h
    | cons p acs ih =>
      by_cases hp : p.1 = k
      · simp [hp]
      · simp only [List.map_cons, hp, if_false, List.find?_cons, decide_false]
        exact ih ((List.mem_cons.1 h).resolve_left fun e => hp e.symm)
  · have hnone : acs.find? (·.1 = k) = none := by simpa [acsGet] using acsGet_of_not_mem h
    rw [acsSet_of_not_mem h, acsGet, List.find?_append, hnone]
    simp

theorem find?_map_other (acs : List (Msg × Ac)) (k k' : Msg) (a : Ac) (h : k' ≠ k) :
    (acs.map (fun p => if p.1 = k then (k, a) else p)).find? (·.1 = k') = acs.find? (·.1 = k') := by
  have hk : ¬ k = k' := fun e => h e.symm
  induction acs with
  | nil => rfl
  | cons p acs ih =>
    rw [List.map_cons, List.find?_cons, List.find?_cons, ih]
    by_cases hp : p.1 = k
    · have hp' : ¬ p.1 = k' := by rw [hp]; exact hk
      simp only [hp, if_true, hk, decide_false]
    · simp only [hp, if_false]

/-- other keys are not affected -/
theorem acsGet_acsSet_other (acs : List (Msg × Ac)) (k k' : Msg) (a : Ac) (h : k' ≠ k) :
    acsGet (acsSet acs k a) k' = acsGet acs k' := by
  by_cases hm : k ∈ keys acs
  · rw [acsSet_of_mem hm, acsGet, find?_map_other acs k k' a h, acsGet]
  · have hk : ¬ k = k' := fun e => h e.symm
    rw [acsSet_of_not_mem hm]
    simp [acsGet, List.find?_append, hk]

theorem filter_map_other (acs : List (Msg × Ac)) (k k' : Msg) (a : Ac) (h : k' ≠ k) :
    (acs.map (fun p => if p.1 = k then (k, a) else p)).filter (·.1 = k') = acs.filter (·.1 = k') := by
  have hk : ¬ k = k' := fun e => h e.symm
  induction acs with
  | nil => rfl
  | cons p acs ih =>
    rw [List.map_cons, List.filter_cons, List.filter_cons, ih]
    by_cases hp : p.1 = k
    · have hp' : ¬ p.1 = k' := by rw [hp]; exact hk
      simp [hp, hk]
    · simp only [hp, if_false]

/-- the records stored under another key are untouched (also with duplicate keys) -/
theorem acsSet_filter_other (acs : List (Msg × Ac)) (k k' : Msg) (a : Ac) (h : k' ≠ k) :
    (acsSet acs k a).filter (·.1 = k') = acs.filter (·.1 = k') := by
  by_cases hm : k ∈ keys acs
  · rw [acsSet_of_mem hm]; exact filter_map_other acs k k' a h
  · have hk : ¬ k = k' := fun e => h e.symm
    rw [acsSet_of_not_mem hm]
    simp [List.filter_append, hk]

/-- the records under key `k` after `acs[k] = a` all equal `a` -/
theorem acsSet_filter_same (acs : List (Msg × Ac)) (k : Msg) (a : Ac) :
    ∀ p ∈ acsSet acs k a, p.1 = k → p.2 = a := by
  intro p hp hk
  by_cases hm : k ∈ keys acs
  · rw [acsSet_of_mem hm] at hp
    obtain ⟨q, _, hq⟩ := List.mem_map.1 hp
    split at hq
    · rw [← hq]
    · rename_i hne; rw [hq] at hne; exact absurd hk hne
  · rw [acsSet_of_not_mem hm] at hp
    rcases List.mem_append.1 hp with hp | hp
    · exact absurd (List.mem_map.2 ⟨p, hp, hk⟩) hm
    · rw [List.mem_singleton.1 hp]

theorem mem_acsSet {acs : List (Msg × Ac)} {k : Msg} {a : Ac} {p : Msg × Ac} (h : p ∈ acsSet acs k a) :
    p ∈ acs ∨ p = (k, a) := by
  by_cases hm : k ∈ keys acs
  · rw [acsSet_of_mem hm] at h
    obtain ⟨q, hq, rfl⟩ := List.mem_map.1 h
    split
    · exact Or.inr rfl
    · exact Or.inl hq
  · rw [acsSet_of_not_mem hm] at h
    rcases List.mem_append.1 h with h | h
    · exact Or.inl h
    · exact Or.inr (List.mem_singleton.1 h)

theorem live_le_of_get {acs : List (Msg × Ac)} {k k' : Msg} {a : Ac} {L : Int}
    (hold : ∀ p ∈ acs, p.1 = k → p.2.live ≤ L) (hg : acsGet acs k' = some a) (e : k' = k) : a.live ≤ L :=
  hold (k', a) (acsGet_some_mem hg) e

/-- a bound on the `live` stamps under key `k` survives `acs[k'] = a` if `a` obeys it when `k' = k` -/
theorem acsSet_live_le {acs : List (Msg × Ac)} {k k' : Msg} {a : Ac} {L : Int}
    (hold : ∀ p ∈ acs, p.1 = k → p.2.live ≤ L) (ha : k' = k → a.live ≤ L) :
    ∀ p ∈ acsSet acs k' a, p.1 = k → p.2.live ≤ L := by
  intro p hp hk
  rcases mem_acsSet hp with h | rfl
  · exact hold p h hk
  · exact ha hk

/-! ### `foldRes` -/

theorem bind_eq_val {α β} {x : Res α} {f : α → Res β} {b : β} (h : (x >>= f) = .val b) :
    ∃ a, x = .val a ∧ f a = .val b := by
  cases x with
  | val a => exact ⟨a, rfl, h⟩
  | rte => simp at h
  | exc => simp at h

theorem foldRes_cons {α β} (f : α → β → Res α) (a : α) (b : β) (bs : List β) :
    foldRes f a (b :: bs) = (f a b >>= fun a' => foldRes f a' bs) := rfl

theorem foldRes_append {α β} (f : α → β → Res α) (a : α) (l₁ l₂ : List β) :
    foldRes f a (l₁ ++ l₂) = (foldRes f a l₁ >>= fun a' => foldRes f a' l₂) := by
  induction l₁ generalizing a with
  | nil => rfl
  | cons b bs ih =>
    rw [List.cons_append, foldRes_cons, foldRes_cons, bind_assoc]
    congr 1
    funext a'
    exact ih a'

/-- a fold that returns has run up to, over, and after any one of its elements -/
theorem foldRes_split {α β} {f : α → β → Res α} {a a' : α} {pre post : List β} {b : β}
    (h : foldRes f a (pre ++ b :: post) = .val a') :
    ∃ a1 a2, foldRes f a pre = .val a1 ∧ f a1 b = .val a2 ∧ foldRes f a2 post = .val a' := by
  rw [foldRes_append] at h
  obtain ⟨a1, h1, h⟩ := bind_eq_val h
  obtain ⟨a2, h2, h⟩ := bind_eq_val h
  exact ⟨a1, a2, h1, h2, h⟩

/-- a property preserved by every successful step is preserved by the fold -/
theorem foldRes_induct {α β} (f : α → β → Res α) (P : α → Prop) (l : List β)
    (hstep : ∀ a b a', b ∈ l → P a → f a b = .val a' → P a') :
    ∀ a a', P a → foldRes f a l = .val a' → P a' := by
  induction l with
  | nil =>
    intro a a' hP h
    simp only [foldRes, Res.val.injEq] at h
    rw [← h]; exact hP
  | cons b bs ih =>
    intro a a' hP h
    rw [foldRes_cons] at h
    obtain ⟨a1, h1, h2⟩ := bind_eq_val h
    exact ih (fun a b a' hb => hstep a b a' (List.mem_cons_of_mem _ hb)) a1 a'
      (hstep a b a1 (by simp) hP h1) h2

end PyModeS.Tracker
