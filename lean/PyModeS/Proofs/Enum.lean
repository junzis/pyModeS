/- Lifting kernel-checked enumerations `(List.range n).all P = true` to `∀ c < n`. -/
namespace PyModeS

theorem all_range_imp {P : Nat → Bool} {n : Nat} (h : (List.range n).all P = true) :
    ∀ c, c < n → P c = true := by
  intro c h1
  rw [List.all_eq_true] at h
  exact h c (List.mem_range.mpr h1)

end PyModeS
