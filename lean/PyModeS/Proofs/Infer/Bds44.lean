/-
  BDS 4,4 (meteorological routine air report): `is44` in integer terms, and an encoder accepted by it.
-/
import PyModeS.Proofs.Infer.Sound
namespace PyModeS.Infer
open PyModeS

/-- the temperature test of `is44` (both readings of the field, 0.25 °C and 0.125 °C per unit, must not
    both lie above 60 °C or both below −80 °C) on the signed field value `v`: accepted iff −640 ≤ v ≤ 480 -/
theorem temp44_bound (v : Int) :
    (min ((v : Rat) / 4) ((v : Rat) / 8) > 60 ∨ max ((v : Rat) / 4) ((v : Rat) / 8) < -80) ↔
      ¬ (-640 ≤ v ∧ v ≤ 480) := by
  have a4 := scaled_le (1 / 4) 60 240 v (by norm_num) (by norm_num)
  have a8 := scaled_le (1 / 8) 60 480 v (by norm_num) (by norm_num)
  have b4 := neg_le_scaled (1 / 4) 80 320 v (by norm_num) (by norm_num)
  have b8 := neg_le_scaled (1 / 8) 80 640 v (by norm_num) (by norm_num)
  rw [div_eq_mul_one_div (v : Rat) 4, div_eq_mul_one_div (v : Rat) 8, gt_iff_lt, lt_min_iff, max_lt_iff,
    ← not_le, ← not_le, ← not_le (a := (-80 : Rat)), ← not_le (a := (-80 : Rat)), a4, a8, b4, b8]
  omega

theorem temp44V_eq (d : Bits) : temp44V d = sval d 23 24 34 := by
  unfold temp44V sval
  rfl

/-- BDS 4,4 in integer terms -/
theorem is44P_iff (d : Bits) :
    is44P d = true ↔ (bin2int d ≠ 0 ∧ statusP d rules44 = true ∧ fld d 0 4 ≤ 4 ∧
      (bitAt d 4 = true → fld d 5 14 ≤ 250) ∧ -640 ≤ sval d 23 24 34 ∧ sval d 23 24 34 ≤ 480) := by
  unfold is44P wind44P temp44P
  simp only [guard_iff, temp44V_eq, temp44_bound, ne_eq, Bool.not_eq_true', Bool.not_eq_false, not_not, not_lt,
    gt_iff_lt, and_true]
  cases bitAt d 4 <;> simp

/-! ### encoder -/

/-- the BDS 4,4 layout: figure-of-merit/source (4 bits), wind (status, 9-bit speed, 9-bit direction), static air
    temperature (sign, 10-bit magnitude; no status bit), average static pressure (status, 11 bits), turbulence
    (status, 2 bits), humidity (status, 6 bits) -/
def layout44 (src : Nat) (sw : Bool) (wspd wdir : Nat) (gt : Bool) (mt : Nat) (sp : Bool) (p : Nat)
    (st : Bool) (turb : Nat) (sh : Bool) (hum : Nat) : List (Nat × Nat) :=
  [(4, src), (1, sw.toNat), (9, wspd), (9, wdir), (1, gt.toNat), (10, mt), (1, sp.toNat), (11, p),
   (1, st.toNat), (2, turb), (1, sh.toNat), (6, hum)]

def mb44 (src : Nat) (sw : Bool) (wspd wdir : Nat) (gt : Bool) (mt : Nat) (sp : Bool) (p : Nat)
    (st : Bool) (turb : Nat) (sh : Bool) (hum : Nat) : Bits :=
  build (layout44 src sw wspd wdir gt mt sp p st turb sh hum)

/-- signed value of a sign bit and a 10-bit magnitude -/
def s10 (g : Bool) (m : Nat) : Int := if g then (m : Int) - 1024 else (m : Int)

section
variable (src : Nat) (sw : Bool) (wspd wdir : Nat) (gt : Bool) (mt : Nat) (sp : Bool) (p : Nat)
    (st : Bool) (turb : Nat) (sh : Bool) (hum : Nat)

theorem mb44_length : (mb44 src sw wspd wdir gt mt sp p st turb sh hum).length = 56 := by simp [mb44, layout44, build]

/-- completeness on the MB field: source ≤ 4, absent values zero, wind speed ≤ 250 kt when present, signed
    temperature field in −640..480, not everything zero -/
theorem is44P_mb44 (hsrc : src ≤ 4) (hws : wspd < 512) (hwd : wdir < 512) (hmt : mt < 1024) (hp : p < 2048)
    (htb : turb < 4) (hhm : hum < 64)
    (z1 : sw = false → wspd = 0 ∧ wdir = 0) (z2 : sp = false → p = 0) (z3 : st = false → turb = 0)
    (z4 : sh = false → hum = 0)
    (hw : sw = true → wspd ≤ 250) (ht : -640 ≤ s10 gt mt ∧ s10 gt mt ≤ 480)
    (hne : src ≠ 0 ∨ sw = true ∨ gt = true ∨ mt ≠ 0 ∨ sp = true ∨ st = true ∨ sh = true) :
    is44P (mb44 src sw wspd wdir gt mt sp p st turb sh hum) = true := by
  let D := mb44 src sw wspd wdir gt mt sp p st turb sh hum
  have b1 : bitAt D 4 = sw := build_bit _ 1 4 sw rfl rfl
  have bg : bitAt D 23 = gt := build_bit _ 4 23 gt (by simp [layout44, offset]) rfl
  have b2 : bitAt D 34 = sp := build_bit _ 6 34 sp (by simp [layout44, offset]) rfl
  have b3 : bitAt D 46 = st := build_bit _ 8 46 st (by simp [layout44, offset]) rfl
  have b4 : bitAt D 49 = sh := build_bit _ 10 49 sh (by simp [layout44, offset]) rfl
  have f0 : fld D 0 4 = src := build_fld1 _ 0 0 4 src rfl rfl (by omega)
  have f1 : fld D 5 23 = wspd * 2 ^ 9 + wdir := build_fld2 _ 2 5 9 wspd 9 wdir rfl rfl rfl hws hwd
  have f1s : fld D 5 14 = wspd := build_fld1 _ 2 5 9 wspd rfl rfl hws
  have fm : fld D 24 34 = mt := build_fld1 _ 5 24 10 mt (by simp [layout44, offset]) rfl hmt
  have f2 : fld D 35 46 = p := build_fld1 _ 7 35 11 p (by simp [layout44, offset]) rfl hp
  have f3 : fld D 47 49 = turb := build_fld1 _ 9 47 2 turb (by simp [layout44, offset]) rfl htb
  have f4 : fld D 50 56 = hum := build_fld1 _ 11 50 6 hum (by simp [layout44, offset]) rfl hhm
  have hsv : sval D 23 24 34 = s10 gt mt := by unfold sval s10; rw [bg, fm]; rfl
  rw [is44P_iff]
  refine ⟨?_, ?_, ?_, ?_, ?_⟩
  · rcases hne with h | h | h | h | h | h | h
    · exact bin2int_ne_zero_of_fld D 0 4 (by rw [f0]; exact h)
    · exact bin2int_ne_zero_of_bit D 4 (b1.trans h)
    · exact bin2int_ne_zero_of_bit D 23 (bg.trans h)
    · exact bin2int_ne_zero_of_fld D 24 34 (by rw [fm]; exact h)
    · exact bin2int_ne_zero_of_bit D 34 (b2.trans h)
    · exact bin2int_ne_zero_of_bit D 46 (b3.trans h)
    · exact bin2int_ne_zero_of_bit D 49 (b4.trans h)
  · simp only [rules44, statusP_cons, statusP_nil, and_true]
    refine ⟨status_rule_of_zero b1 f1 fun h => ?_, status_rule_of_zero b2 f2 z2, status_rule_of_zero b3 f3 z3,
      status_rule_of_zero b4 f4 z4⟩
    obtain ⟨rfl, rfl⟩ := z1 h
    rfl
  · rw [f0]; exact hsrc
  · rw [b1, f1s]; exact hw
  · rw [hsv]; exact ht

end

end PyModeS.Infer
