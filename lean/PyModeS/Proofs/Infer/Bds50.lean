/-
  BDS 5,0 (track and turn report): `is50` in integer terms (soundness and
  completeness of the plausibility limits), and an encoder: every plausible choice of the five
  (status, value) pairs, laid out with `build`, is accepted.
-/
import PyModeS.Proofs.Infer.Sound
namespace PyModeS.Infer
open PyModeS

theorem roll_bound (v : Int) : rabs ((v : Rat) * ((45 : Rat) / 256)) ≤ 50 ↔ (-284 ≤ v ∧ v ≤ 284) :=
  rabs_scaled_le _ _ 284 v (by norm_num) (by norm_num)

theorem spd_bound (n : Nat) : (n : Rat) * 2 ≤ 600 ↔ n ≤ 300 :=
  scaled_le_nat _ _ 300 n (by norm_num) (by norm_num)

theorem diff_bound (g t : Nat) :
    rabs ((t : Rat) * 2 - (g : Rat) * 2) ≤ 200 ↔ (t ≤ g + 100 ∧ g ≤ t + 100) := by
  have e : (t : Rat) * 2 - (g : Rat) * 2 = (((t : Int) - g : Int) : Rat) * 2 := by push_cast; ring
  rw [e, rabs_scaled_le 2 200 100 _ (by norm_num) (by norm_num)]
  omega

/-- BDS 5,0 in integer terms: the rule holds exactly when the payload is not all zero, the five status
    rules hold, and the present values are plausible: |roll| ≤ 50° (signed field −284..284),
    GS ≤ 600 kt (field ≤ 300), TAS ≤ 600 kt (field ≤ 300), |TAS − GS| ≤ 200 kt (fields differ by ≤ 100) -/
theorem is50P_iff (d : Bits) :
    is50P d = true ↔ (bin2int d ≠ 0 ∧ statusP d rules50 = true ∧
      (bitAt d 0 = true → -284 ≤ sval d 1 2 11 ∧ sval d 1 2 11 ≤ 284) ∧
      (bitAt d 23 = true → fld d 24 34 ≤ 300) ∧
      (bitAt d 45 = true → fld d 46 56 ≤ 300) ∧
      (bitAt d 23 = true → bitAt d 45 = true →
        fld d 46 56 ≤ fld d 24 34 + 100 ∧ fld d 24 34 ≤ fld d 46 56 + 100)) := by
  unfold is50P roll50P gs50P tas50P
  simp only [guard_iff, optGt_ufieldP, optAbsGt_sfieldP, roll_bound, spd_bound, ne_eq, Bool.not_eq_true',
    Bool.not_eq_false]
  -- the GS/TAS consistency check is made only when both values are present
  unfold ufieldP
  cases bitAt d 23 <;> cases bitAt d 45 <;> simp [diff_bound]

/-! ### encoder -/

/-- the BDS 5,0 layout: roll (status, sign, 9 bits), true track (status, sign, 10 bits), ground speed
    (status, 10 bits), track rate (status, sign, 9 bits), true airspeed (status, 10 bits) -/
def layout50 (s1 g1 : Bool) (m1 : Nat) (s2 g2 : Bool) (m2 : Nat) (s3 : Bool) (gs : Nat)
    (s4 g4 : Bool) (m4 : Nat) (s5 : Bool) (tas : Nat) : List (Nat × Nat) :=
  [(1, s1.toNat), (1, g1.toNat), (9, m1), (1, s2.toNat), (1, g2.toNat), (10, m2), (1, s3.toNat), (10, gs),
   (1, s4.toNat), (1, g4.toNat), (9, m4), (1, s5.toNat), (10, tas)]

def mb50 (s1 g1 : Bool) (m1 : Nat) (s2 g2 : Bool) (m2 : Nat) (s3 : Bool) (gs : Nat)
    (s4 g4 : Bool) (m4 : Nat) (s5 : Bool) (tas : Nat) : Bits :=
  build (layout50 s1 g1 m1 s2 g2 m2 s3 gs s4 g4 m4 s5 tas)

section
variable (s1 g1 : Bool) (m1 : Nat) (s2 g2 : Bool) (m2 : Nat) (s3 : Bool) (gs : Nat)
    (s4 g4 : Bool) (m4 : Nat) (s5 : Bool) (tas : Nat)

theorem mb50_length : (mb50 s1 g1 m1 s2 g2 m2 s3 gs s4 g4 m4 s5 tas).length = 56 := by simp [mb50, layout50, build]

/-- the signed roll field of an encoded payload -/
def sroll (g1 : Bool) (m1 : Nat) : Int := if g1 then (m1 : Int) - 512 else (m1 : Int)

theorem sroll_eq_s9 : sroll = s9 := rfl

/-- completeness on the MB field: plausible values, absent values zero, not everything absent -/
theorem is50P_mb50 (hm1 : m1 < 512) (hm2 : m2 < 1024) (hgs : gs < 1024) (hm4 : m4 < 512) (htas : tas < 1024)
    (z1 : s1 = false → g1 = false ∧ m1 = 0) (z2 : s2 = false → g2 = false ∧ m2 = 0)
    (z3 : s3 = false → gs = 0) (z4 : s4 = false → g4 = false ∧ m4 = 0) (z5 : s5 = false → tas = 0)
    (hroll : s1 = true → -284 ≤ sroll g1 m1 ∧ sroll g1 m1 ≤ 284)
    (hgs300 : s3 = true → gs ≤ 300) (htas300 : s5 = true → tas ≤ 300)
    (hdiff : s3 = true → s5 = true → tas ≤ gs + 100 ∧ gs ≤ tas + 100)
    (hne : s1 = true ∨ s2 = true ∨ s3 = true ∨ s4 = true ∨ s5 = true) :
    is50P (mb50 s1 g1 m1 s2 g2 m2 s3 gs s4 g4 m4 s5 tas) = true := by
  let D := mb50 s1 g1 m1 s2 g2 m2 s3 gs s4 g4 m4 s5 tas
  have b1 : bitAt D 0 = s1 := build_bit _ 0 0 s1 rfl rfl
  have bg : bitAt D 1 = g1 := build_bit _ 1 1 g1 rfl rfl
  have b2 : bitAt D 11 = s2 := build_bit _ 3 11 s2 (by simp [layout50, offset]) rfl
  have b3 : bitAt D 23 = s3 := build_bit _ 6 23 s3 (by simp [layout50, offset]) rfl
  have b4 : bitAt D 34 = s4 := build_bit _ 8 34 s4 (by simp [layout50, offset]) rfl
  have b5 : bitAt D 45 = s5 := build_bit _ 11 45 s5 (by simp [layout50, offset]) rfl
  have f1 : fld D 1 11 = g1.toNat * 2 ^ 9 + m1 := build_fld2 _ 1 1 1 _ 9 m1 rfl rfl rfl g1.toNat_lt hm1
  have f1m : fld D 2 11 = m1 := build_fld1 _ 2 2 9 m1 rfl rfl hm1
  have f2 : fld D 12 23 = g2.toNat * 2 ^ 10 + m2 :=
    build_fld2 _ 4 12 1 _ 10 m2 (by simp [layout50, offset]) rfl rfl g2.toNat_lt hm2
  have f3 : fld D 24 34 = gs := build_fld1 _ 7 24 10 gs (by simp [layout50, offset]) rfl hgs
  have f4 : fld D 35 45 = g4.toNat * 2 ^ 9 + m4 :=
    build_fld2 _ 9 35 1 _ 9 m4 (by simp [layout50, offset]) rfl rfl g4.toNat_lt hm4
  have f5 : fld D 46 56 = tas := build_fld1 _ 12 46 10 tas (by simp [layout50, offset]) rfl htas
  rw [is50P_iff]
  refine ⟨?_, ?_, ?_, ?_, ?_, ?_⟩
  · -- not all zero: some status bit is set
    rcases hne with h | h | h | h | h
    · exact bin2int_ne_zero_of_bit D 0 (b1.trans h)
    · exact bin2int_ne_zero_of_bit D 11 (b2.trans h)
    · exact bin2int_ne_zero_of_bit D 23 (b3.trans h)
    · exact bin2int_ne_zero_of_bit D 34 (b4.trans h)
    · exact bin2int_ne_zero_of_bit D 45 (b5.trans h)
  · -- the five status rules
    simp only [rules50, statusP_cons, statusP_nil, and_true]
    exact ⟨status_rule_of_zero b1 f1 fun h => signed_zero 9 (z1 h),
      status_rule_of_zero b2 f2 fun h => signed_zero 10 (z2 h), status_rule_of_zero b3 f3 z3,
      status_rule_of_zero b4 f4 fun h => signed_zero 9 (z4 h), status_rule_of_zero b5 f5 z5⟩
  · have : sval D 1 2 11 = sroll g1 m1 := by unfold sval sroll; rw [bg, f1m]; rfl
    rw [b1, this]; exact hroll
  · rw [b3, f3]; exact hgs300
  · rw [b5, f5]; exact htas300
  · rw [b3, b5, f3, f5]; exact hdiff

end

end PyModeS.Infer
