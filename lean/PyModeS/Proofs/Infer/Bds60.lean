/-
  BDS 6,0 (heading and speed report), the part of `is60` before the altitude cross-check
  (`is60Core`): in integer terms, and an encoder accepted by it.
-/
import PyModeS.Proofs.Infer.Sound
namespace PyModeS.Infer
open PyModeS

theorem mach_bound (n : Nat) : (n : Rat) * ((2048 : Rat) / 1000 / 512) ≤ 1 ↔ n ≤ 250 :=
  scaled_le_nat _ _ 250 n (by norm_num) (by norm_num)

theorem vr_bound (v : Int) : rabs ((v : Rat) * 32) ≤ 6000 ↔ (-187 ≤ v ∧ v ≤ 187) :=
  rabs_scaled_le _ _ 187 v (by norm_num) (by norm_num)

/-- `is60Core` in integers: not all zero, the five status rules, and for the values that are present
    IAS ≤ 500 kt, Mach ≤ 1 (field ≤ 250), |vertical rate| ≤ 6000 ft/min (signed fields in −187..187) -/
theorem is60CoreP_iff (d : Bits) :
    is60CoreP d = true ↔ (bin2int d ≠ 0 ∧ statusP d rules60 = true ∧
      (bitAt d 12 = true → fld d 13 23 ≤ 500) ∧
      (bitAt d 23 = true → fld d 24 34 ≤ 250) ∧
      (bitAt d 34 = true → -187 ≤ sval d 35 36 45 ∧ sval d 35 36 45 ≤ 187) ∧
      (bitAt d 45 = true → -187 ≤ sval d 46 47 56 ∧ sval d 46 47 56 ≤ 187)) := by
  unfold is60CoreP ias60P mach60P vr60baroP vr60insP
  simp only [guard_iff, optGt_ufieldP, optAbsGt_sfieldP, mach_bound, vr_bound, mul_one, Nat.cast_le_ofNat, ne_eq,
    Bool.not_eq_true', Bool.not_eq_false, and_true]

/-! ### encoder -/

/-- the BDS 6,0 layout: magnetic heading (status, sign, 10 bits), IAS (status, 10 bits), Mach (status, 10 bits),
    barometric altitude rate (status, sign, 9 bits), inertial vertical velocity (status, sign, 9 bits) -/
def layout60 (s1 g1 : Bool) (hdg : Nat) (s2 : Bool) (ias : Nat) (s3 : Bool) (mach : Nat)
    (s4 g4 : Bool) (vb : Nat) (s5 g5 : Bool) (vi : Nat) : List (Nat × Nat) :=
  [(1, s1.toNat), (1, g1.toNat), (10, hdg), (1, s2.toNat), (10, ias), (1, s3.toNat), (10, mach),
   (1, s4.toNat), (1, g4.toNat), (9, vb), (1, s5.toNat), (1, g5.toNat), (9, vi)]

def mb60 (s1 g1 : Bool) (hdg : Nat) (s2 : Bool) (ias : Nat) (s3 : Bool) (mach : Nat)
    (s4 g4 : Bool) (vb : Nat) (s5 g5 : Bool) (vi : Nat) : Bits :=
  build (layout60 s1 g1 hdg s2 ias s3 mach s4 g4 vb s5 g5 vi)

section
variable (s1 g1 : Bool) (hdg : Nat) (s2 : Bool) (ias : Nat) (s3 : Bool) (mach : Nat)
    (s4 g4 : Bool) (vb : Nat) (s5 g5 : Bool) (vi : Nat)

theorem mb60_length : (mb60 s1 g1 hdg s2 ias s3 mach s4 g4 vb s5 g5 vi).length = 56 := by simp [mb60, layout60, build]

/-- completeness of `is60Core` on the MB field -/
theorem is60CoreP_mb60 (hh : hdg < 1024) (hi : ias < 1024) (hm : mach < 1024) (hvb : vb < 512) (hvi : vi < 512)
    (z1 : s1 = false → g1 = false ∧ hdg = 0) (z2 : s2 = false → ias = 0) (z3 : s3 = false → mach = 0)
    (z4 : s4 = false → g4 = false ∧ vb = 0) (z5 : s5 = false → g5 = false ∧ vi = 0)
    (hias : s2 = true → ias ≤ 500) (hmach : s3 = true → mach ≤ 250)
    (hb : s4 = true → -187 ≤ s9 g4 vb ∧ s9 g4 vb ≤ 187) (hn : s5 = true → -187 ≤ s9 g5 vi ∧ s9 g5 vi ≤ 187)
    (hne : s1 = true ∨ s2 = true ∨ s3 = true ∨ s4 = true ∨ s5 = true) :
    is60CoreP (mb60 s1 g1 hdg s2 ias s3 mach s4 g4 vb s5 g5 vi) = true := by
  let D := mb60 s1 g1 hdg s2 ias s3 mach s4 g4 vb s5 g5 vi
  have b1 : bitAt D 0 = s1 := build_bit _ 0 0 s1 rfl rfl
  have b2 : bitAt D 12 = s2 := build_bit _ 3 12 s2 (by simp [layout60, offset]) rfl
  have b3 : bitAt D 23 = s3 := build_bit _ 5 23 s3 (by simp [layout60, offset]) rfl
  have b4 : bitAt D 34 = s4 := build_bit _ 7 34 s4 (by simp [layout60, offset]) rfl
  have b5 : bitAt D 45 = s5 := build_bit _ 10 45 s5 (by simp [layout60, offset]) rfl
  have g4b : bitAt D 35 = g4 := build_bit _ 8 35 g4 (by simp [layout60, offset]) rfl
  have g5b : bitAt D 46 = g5 := build_bit _ 11 46 g5 (by simp [layout60, offset]) rfl
  have f1 : fld D 1 12 = g1.toNat * 2 ^ 10 + hdg :=
    build_fld2 _ 1 1 1 _ 10 hdg (by simp [layout60, offset]) rfl rfl g1.toNat_lt hh
  have f2 : fld D 13 23 = ias := build_fld1 _ 4 13 10 ias (by simp [layout60, offset]) rfl hi
  have f3 : fld D 24 34 = mach := build_fld1 _ 6 24 10 mach (by simp [layout60, offset]) rfl hm
  have f4 : fld D 35 45 = g4.toNat * 2 ^ 9 + vb :=
    build_fld2 _ 8 35 1 _ 9 vb (by simp [layout60, offset]) rfl rfl g4.toNat_lt hvb
  have f4m : fld D 36 45 = vb := build_fld1 _ 9 36 9 vb (by simp [layout60, offset]) rfl hvb
  have f5 : fld D 46 56 = g5.toNat * 2 ^ 9 + vi :=
    build_fld2 _ 11 46 1 _ 9 vi (by simp [layout60, offset]) rfl rfl g5.toNat_lt hvi
  have f5m : fld D 47 56 = vi := build_fld1 _ 12 47 9 vi (by simp [layout60, offset]) rfl hvi
  rw [is60CoreP_iff]
  refine ⟨?_, ?_, ?_, ?_, ?_, ?_⟩
  · rcases hne with h | h | h | h | h
    · exact bin2int_ne_zero_of_bit D 0 (b1.trans h)
    · exact bin2int_ne_zero_of_bit D 12 (b2.trans h)
    · exact bin2int_ne_zero_of_bit D 23 (b3.trans h)
    · exact bin2int_ne_zero_of_bit D 34 (b4.trans h)
    · exact bin2int_ne_zero_of_bit D 45 (b5.trans h)
  · simp only [rules60, statusP_cons, statusP_nil, and_true]
    exact ⟨status_rule_of_zero b1 f1 fun h => signed_zero 10 (z1 h), status_rule_of_zero b2 f2 z2,
      status_rule_of_zero b3 f3 z3, status_rule_of_zero b4 f4 fun h => signed_zero 9 (z4 h),
      status_rule_of_zero b5 f5 fun h => signed_zero 9 (z5 h)⟩
  · rw [b2, f2]; exact hias
  · rw [b3, f3]; exact hmach
  · have : sval D 35 36 45 = s9 g4 vb := by unfold sval s9; rw [g4b, f4m]; rfl
    rw [b4, this]; exact hb
  · have : sval D 46 47 56 = s9 g5 vi := by unfold sval s9; rw [g5b, f5m]; rfl
    rw [b5, this]; exact hn

end

end PyModeS.Infer
