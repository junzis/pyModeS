/-
  Comm-B format rules on a 112-bit frame: the exception-free reading of the MB field.
  `mbOf bits` is the 56-bit MB field; `bitAt`/`fld` read one bit / an unsigned field of it.
-/
import PyModeS.Proofs.Bits
import PyModeS.Model.Commb
namespace PyModeS.Infer
open PyModeS

/-- the MB field (bits 33-88) of a 112-bit frame -/
def mbOf (bits : Bits) : Bits := slice 32 88 bits

/-- bit `i` (0-based) of a bit string, `false` beyond its end -/
def bitAt (d : Bits) (i : Nat) : Bool := d.getD i false

/-- the unsigned value of `d[a:b]` -/
def fld (d : Bits) (a b : Nat) : Nat := bin2int (slice a b d)

theorem mbOf_length (bits : Bits) (h : bits.length = 112) : (mbOf bits).length = 56 := by
  simp [mbOf, slice, h]

theorem dataR_val (bits : Bits) (h : bits.length = 112) : dataR bits = .val (mbOf bits) := by
  have hl := mbOf_length bits h
  unfold dataR
  simp only [h]
  have : (slice 32 (112 - 24) bits).isEmpty = false := by
    cases hs : slice 32 (112 - 24) bits with
    | nil => simp [mbOf, hs] at hl
    | cons a t => rfl
  simp only [this]
  rfl

theorem allzerosB_val (bits : Bits) (h : bits.length = 112) :
    allzerosB bits = .val (decide (bin2int (mbOf bits) = 0)) := by
  unfold allzerosB
  rw [dataR_val bits h]
  rfl

theorem idxR_val (d : Bits) (i : Nat) (h : i < d.length) : idxR d i = .val (bitAt d i) := idxR_getD d i false h

theorem bin2intR_slice_val (d : Bits) (a b : Nat) (h1 : a < b) (h2 : a < d.length) :
    bin2intR (slice a b d) = .val (fld d a b) := bin2intR_slice_of_lt h1 h2

/-- push a two-way choice between values under `.val` -/
theorem ite_val {α} (c : Prop) [Decidable c] (a b : α) :
    (if c then Res.val a else Res.val b) = Res.val (if c then a else b) := by
  split <;> rfl

theorem fld_lt (d : Bits) (a b : Nat) : fld d a b < 2 ^ (b - a) := bin2int_slice_lt d a b

/-! ### status rules -/

/-- `wrongstatus(d, sb, msb, lsb)` as a Boolean: status bit 0 but the field is not all zero -/
def wrongP (d : Bits) (sb msb lsb : Nat) : Bool := !bitAt d (sb - 1) && fld d (msb - 1) lsb != 0

theorem wrongstatus_val (d : Bits) (sb msb lsb : Nat) (h1 : sb - 1 < d.length) (h2 : msb - 1 < lsb)
    (h3 : msb - 1 < d.length) : wrongstatus d sb msb lsb = .val (wrongP d sb msb lsb) := by
  unfold wrongstatus
  rw [idxR_val d _ h1, bin2intR_slice_val d _ _ h2 h3]
  rfl

/-- all status rules of a list hold -/
def statusP (d : Bits) (l : List (Nat × Nat × Nat)) : Bool := l.all (fun t => !wrongP d t.1 t.2.1 t.2.2)

theorem statusOk_val (d : Bits) (l : List (Nat × Nat × Nat))
    (h : ∀ t ∈ l, t.1 - 1 < d.length ∧ t.2.1 - 1 < t.2.2 ∧ t.2.1 - 1 < d.length) :
    statusOk d l = .val (statusP d l) := by
  induction l with
  | nil => rfl
  | cons t l ih =>
    obtain ⟨sb, msb, lsb⟩ := t
    have ht := h (sb, msb, lsb) (by simp)
    unfold statusOk
    rw [wrongstatus_val d sb msb lsb ht.1 ht.2.1 ht.2.2, ih (fun t ht => h t (List.mem_cons_of_mem _ ht))]
    simp only [Res.bind_val, statusP, List.all_cons]
    cases wrongP d sb msb lsb <;> simp

/-! ### status-gated fields -/

def ufieldP (d : Bits) (sb a b : Nat) (scale off : Rat) : Option Rat :=
  if bitAt d sb = false then none else some ((fld d a b : Rat) * scale + off)

theorem ufield_val (d : Bits) (sb a b : Nat) (scale off : Rat) (h0 : sb < d.length) (h1 : a < b)
    (h2 : a < d.length) : ufield d sb a b scale off = .val (ufieldP d sb a b scale off) := by
  unfold ufield ufieldP
  rw [idxR_val d _ h0, bin2intR_slice_val d _ _ h1 h2]
  simp only [Res.bind_val]
  split <;> rfl

/-- signed value of a sign bit and a magnitude field of width `b - a` -/
def sval (d : Bits) (sg a b : Nat) : Int :=
  if bitAt d sg then (fld d a b : Int) - (2 ^ (b - a) : Nat) else (fld d a b : Int)

def sfieldP (d : Bits) (sb sg a b : Nat) (scale : Rat) : Option Rat :=
  if bitAt d sb = false then none else some ((sval d sg a b : Rat) * scale)

theorem sfield_val (d : Bits) (sb sg a b : Nat) (scale : Rat) (h0 : sb < d.length) (hs : sg < d.length)
    (h1 : a < b) (h2 : a < d.length) : sfield d sb sg a b scale = .val (sfieldP d sb sg a b scale) := by
  unfold sfield sfieldP sval
  rw [idxR_val d _ h0, idxR_val d _ hs, bin2intR_slice_val d _ _ h1 h2]
  simp only [Res.bind_val]
  split <;> rfl

/-! ### the field decoders of a 112-bit frame: `ufield`/`sfield` applied to `dataR bits` -/

theorem ufield_frame (bits : Bits) (h : bits.length = 112) (sb a b : Nat) (scale off : Rat) (h0 : sb < 56)
    (h1 : a < b) (h2 : a < 56) :
    (do ufield (← dataR bits) sb a b scale off) = Res.val (ufieldP (mbOf bits) sb a b scale off) := by
  have hd := mbOf_length bits h
  rw [dataR_val bits h]
  exact ufield_val _ _ _ _ _ _ (by omega) h1 (by omega)

theorem sfield_frame (bits : Bits) (h : bits.length = 112) (sb sg a b : Nat) (scale : Rat) (h0 : sb < 56)
    (hs : sg < 56) (h1 : a < b) (h2 : a < 56) :
    (do sfield (← dataR bits) sb sg a b scale) = Res.val (sfieldP (mbOf bits) sb sg a b scale) := by
  have hd := mbOf_length bits h
  rw [dataR_val bits h]
  exact sfield_val _ _ _ _ _ _ (by omega) (by omega) h1 (by omega)

/-- the angle decoders: `sfield` reported in `[0, 360)` -/
theorem sfield_wrap_frame (bits : Bits) (h : bits.length = 112) (sb sg a b : Nat) (scale : Rat) (h0 : sb < 56)
    (hs : sg < 56) (h1 : a < b) (h2 : a < 56) :
    (do pure (wrap360 (← sfield (← dataR bits) sb sg a b scale))) =
      Res.val (wrap360 (sfieldP (mbOf bits) sb sg a b scale)) := by
  have hd := mbOf_length bits h
  rw [dataR_val bits h]
  show (do pure (wrap360 (← sfield (mbOf bits) sb sg a b scale))) = _
  rw [sfield_val _ _ _ _ _ _ (by omega) (by omega) h1 (by omega)]
  rfl

/-- the value of the 13-bit altitude code decoder (`none` also where it raises) -/
def alt13P (b : Bits) : Option Int := match altitude13 b with | .val a => a | _ => none

/-- the decoder never fails on 13 bits -/
theorem altitude13_val (b : Bits) (h : b.length = 13) : altitude13 b = .val (alt13P b) := by
  obtain ⟨C1, A1, C2, A2, C4, A4, M, B1, Q, B2, D2, B4, D4, rfl⟩ := bits13 h
  unfold alt13P altitude13
  simp only []
  split
  · rfl
  · split
    · split <;> rfl
    · rfl

/-- `Res.mapM` of a function that never fails -/
theorem mapM_val {α β} (f : α → Res β) (g : α → β) (l : List α) (h : ∀ x ∈ l, f x = .val (g x)) :
    Res.mapM f l = .val (l.map g) := by
  induction l with
  | nil => rfl
  | cons a l ih =>
    unfold Res.mapM
    rw [h a (by simp), ih (fun x hx => h x (List.mem_cons_of_mem _ hx))]
    rfl

end PyModeS.Infer
