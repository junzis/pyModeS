/-
  Reading bits and (multi-field) unsigned values back out of a `build` layout.
-/
import PyModeS.Proofs.Infer.Base
namespace PyModeS.Infer
open PyModeS

/-- a bit is the one-bit field at its position -/
theorem bitAt_eq_fld (d : Bits) (i : Nat) : bitAt d i = (fld d i (i + 1) == 1) := getD_eq_decide d i

theorem toNat_eq_one (b : Bool) : (b.toNat == 1) = b := by cases b <;> rfl

/-! ### reading field `i` of a layout, found at bit `a`

  For a concrete layout the offset `ho` is given by `simp [layout, offset]`; `rfl` is exponential in `i`. -/

/-- a single `w`-bit field -/
theorem build_fld1 (F : List (Nat × Nat)) (i a w v : Nat) (ho : offset F i = a) (hf : F[i]? = some (w, v))
    (hv : v < 2 ^ w) : fld (build F) a (a + w) = v := by
  have := field_val F [] i a w v ho hf hv
  rwa [List.append_nil] at this

/-- two adjacent fields read as one (a sign bit and its magnitude, for instance) -/
theorem build_fld2 (F : List (Nat × Nat)) (i a w1 v1 w2 v2 : Nat) (ho : offset F i = a)
    (hf : F[i]? = some (w1, v1)) (hf' : F[i + 1]? = some (w2, v2)) (h1 : v1 < 2 ^ w1) (h2 : v2 < 2 ^ w2) :
    fld (build F) a (a + w1 + w2) = v1 * 2 ^ w2 + v2 := by
  have ho' : offset F (i + 1) = a + w1 := by rw [offset_succ F i w1 v1 hf, ho]
  obtain ⟨hi, e⟩ := List.getElem?_eq_some_iff.mp hf'
  have hl := offset_add_le F (i + 1) hi
  rw [e, ho'] at hl
  rw [← build_fld1 F i a w1 v1 ho hf h1, ← build_fld1 F (i + 1) (a + w1) w2 v2 ho' hf' h2]
  exact (bin2int_slice_add (build F) a (a + w1) w2 (Nat.le_add_right _ _) hl).symm

/-- a one-bit field holding a Boolean -/
theorem build_bit (F : List (Nat × Nat)) (i a : Nat) (b : Bool) (ho : offset F i = a)
    (hf : F[i]? = some (1, b.toNat)) : bitAt (build F) a = b := by
  have := field_bit F [] i a b ho hf
  rwa [List.append_nil] at this

/-- the MB field of `header ++ payload ++ parity` -/
theorem mbOf_frame (hdr mb par : Bits) (h1 : hdr.length = 32) (h2 : mb.length = 56) :
    mbOf (hdr ++ mb ++ par) = mb := by
  have := slice_append_mid hdr mb par
  rw [h1, h2] at this
  exact this

/-- a rule `r` that is the predicate `P` of the MB field accepts every frame around an MB field that `P` accepts -/
theorem accepts_frame {r : Bits → Res Bool} {P : Bits → Bool}
    (hr : ∀ bits, bits.length = 112 → r bits = .val (P (mbOf bits))) (hdr mb par : Bits) (h1 : hdr.length = 32)
    (h2 : mb.length = 56) (h3 : par.length = 24) (hP : P mb = true) : r (hdr ++ mb ++ par) = .val true := by
  rw [hr _ (by simp only [List.length_append, h1, h2, h3]), mbOf_frame hdr mb par h1 h2, hP]

end PyModeS.Infer
