/-
  Tools for the soundness of the Comm-B rules (Properties/C12.lean): a guard of a rule read as a conjunct,
  fields that are not all zero, the status rules `statusP` / `wrongP` as statements about bits, the rules `isXXP`
  of the registers without plausibility limits as conjunctions (`_iff`, `_reserved`), and the range guards
  `optGt` / `optAbsGt` on a status-gated field as integer bounds on the field (`scaled_le` and its relatives, for
  the `isXXP_iff` of Bds44 … Bds60).
-/
import Mathlib.Data.Rat.Floor
import Mathlib.Tactic.Linarith
import Mathlib.Tactic.NormNum
import PyModeS.Proofs.Infer.Rules
import PyModeS.Proofs.Infer.Build
import PyModeS.Proofs.CPR.Floor
namespace PyModeS.Infer
open PyModeS

/-- one guard of a rule: the rule holds when the guard does not fire and the rest holds -/
theorem guard_iff {c : Prop} [Decidable c] {b : Bool} : (if c then false else b) = true ↔ ¬c ∧ b = true := by
  split <;> simp [*]

/-! ### fields that are not all zero -/

/-- a field is non-zero exactly when one of its bits is 1 -/
theorem fld_ne_zero_iff (d : Bits) (a b : Nat) : fld d a b ≠ 0 ↔ true ∈ slice a b d :=
  bin2int_ne_zero_iff _

/-- a non-zero field makes the whole string non-zero -/
theorem bin2int_ne_zero_of_fld (d : Bits) (a b : Nat) (h : fld d a b ≠ 0) : bin2int d ≠ 0 := by
  rw [fld_ne_zero_iff] at h
  exact bin2int_ne_zero (List.mem_of_mem_drop (List.mem_of_mem_take h))

/-- … and so does a set bit -/
theorem bin2int_ne_zero_of_bit (d : Bits) (i : Nat) (h : bitAt d i = true) : bin2int d ≠ 0 := by
  apply bin2int_ne_zero_of_fld d i (i + 1)
  rw [bitAt_eq_fld, beq_iff_eq] at h
  omega

/-! ### status rules -/

/-- `wrongstatus` flags exactly: status bit 0 and field not all zero -/
theorem wrongP_iff (d : Bits) (sb msb lsb : Nat) :
    wrongP d sb msb lsb = true ↔ (bitAt d (sb - 1) = false ∧ fld d (msb - 1) lsb ≠ 0) := by
  unfold wrongP
  cases bitAt d (sb - 1) <;> simp

/-- the rule of one field passes exactly when its status bit is set or the field is all zero -/
theorem not_wrongP_iff (d : Bits) (sb msb lsb : Nat) :
    (!wrongP d sb msb lsb) = true ↔ (bitAt d (sb - 1) = true ∨ fld d (msb - 1) lsb = 0) := by
  unfold wrongP
  cases bitAt d (sb - 1) <;> simp

theorem statusP_iff (d : Bits) (l : List (Nat × Nat × Nat)) :
    statusP d l = true ↔ ∀ t ∈ l, bitAt d (t.1 - 1) = true ∨ fld d (t.2.1 - 1) t.2.2 = 0 := by
  unfold statusP
  simp only [List.all_eq_true, not_wrongP_iff]

/-- a predicate `p` that implies the status rules `l` fails where one of them is violated: status bit 0 although
    some bit of the field is 1 -/
theorem false_of_wrong {p : Bool} {d : Bits} {l : List (Nat × Nat × Nat)} (hp : p = true → statusP d l = true)
    {t : Nat × Nat × Nat} (ht : t ∈ l) (h0 : bitAt d (t.1 - 1) = false) (h1 : true ∈ slice (t.2.1 - 1) t.2.2 d) :
    p = false := by
  apply eq_false_of_ne_true
  intro h
  rcases (statusP_iff d l).mp (hp h) t ht with hb | hf
  · rw [h0] at hb; cases hb
  · exact (fld_ne_zero_iff d _ _).mpr h1 hf

theorem statusP_nil (d : Bits) : statusP d [] = true := rfl

theorem statusP_cons (d : Bits) (sb msb lsb : Nat) (l : List (Nat × Nat × Nat)) :
    statusP d ((sb, msb, lsb) :: l) = true ↔
      (bitAt d (sb - 1) = true ∨ fld d (msb - 1) lsb = 0) ∧ statusP d l = true := by
  simp only [statusP_iff, List.forall_mem_cons]

/-- a field whose value is 0 whenever its status bit `s` is 0 satisfies its status rule -/
theorem status_rule_of_zero {d : Bits} {sb a b : Nat} {s : Bool} {v : Nat} (hb : bitAt d sb = s)
    (hf : fld d a b = v) (z : s = false → v = 0) : bitAt d sb = true ∨ fld d a b = 0 := by
  cases s with
  | true => exact Or.inl hb
  | false => exact Or.inr (hf.trans (z rfl))

/-- sign bit `g` over magnitude `m`: zero when both are -/
theorem signed_zero {g : Bool} {m : Nat} (w : Nat) (h : g = false ∧ m = 0) : g.toNat * 2 ^ w + m = 0 := by
  obtain ⟨rfl, rfl⟩ := h
  simp

theorem is60P_core (ias : Rat → Int → Rat) (bits : Bits) (h : is60P ias bits = true) :
    is60CoreP (mbOf bits) = true := by
  unfold is60P at h
  cases hs : is60CoreP (mbOf bits) with
  | true => rfl
  | false => simp [hs] at h

/-! ### reserved-bit rules -/

theorem is10P_reserved (d : Bits) (h : is10P d = true) :
    bin2int d ≠ 0 ∧ slice 0 8 d = natToBits 8 0x10 ∧ fld d 9 14 = 0 := by
  unfold is10P at h
  simp only [guard_iff, ne_eq, Decidable.not_not] at h
  exact ⟨h.1, h.2.1, h.2.2.1⟩

theorem cap17_label_enum : ∀ i, i < 24 → ("BDS" ++ Tables.cap17All.getD i "" = "BDS20" ↔ i = 6) := by decide

/-- the capability list names BDS 2,0 exactly when MB bit 7 is set -/
theorem cap17P_contains_iff (d : Bits) (hd : d.length = 56) : (cap17P d).contains "BDS20" = true ↔ bitAt d 6 = true := by
  unfold cap17P
  rw [List.contains_iff_mem, List.mem_map]
  have hl : (d.take 24).length = 24 := by rw [List.length_take]; omega
  have h6 : (d.take 24).getD 6 false = bitAt d 6 := by
    simp [bitAt, List.getD]
  constructor
  · rintro ⟨i, hi, he⟩
    rw [List.mem_filter, List.mem_range, hl] at hi
    have := (cap17_label_enum i hi.1).mp he
    subst this
    rw [← h6]; exact hi.2
  · intro hb
    refine ⟨6, ?_, by decide⟩
    rw [List.mem_filter, List.mem_range, hl, h6]
    exact ⟨by decide, hb⟩

theorem is17P_iff (d : Bits) (hd : d.length = 56) :
    is17P d = true ↔ (bin2int d ≠ 0 ∧ fld d 24 56 = 0 ∧ bitAt d 6 = true) := by
  unfold is17P
  simp only [guard_iff, ne_eq, Decidable.not_not, cap17P_contains_iff d hd]

theorem is20P_reserved (d : Bits) (h : is20P d = true) :
    bin2int d ≠ 0 ∧ slice 0 8 d = natToBits 8 0x20 ∧ (fld d 8 56 = 0 ∨ '#' ∉ cs20P d) := by
  unfold is20P at h
  simp only [guard_iff, ne_eq, Decidable.not_not] at h
  refine ⟨h.1, h.2.1, ?_⟩
  by_cases h2 : fld d 8 56 = 0
  · exact Or.inl h2
  · exact Or.inr (by simpa [h2] using h.2.2)

/-- "every character legal": no 6-bit character code of the callsign field maps to '#' -/
theorem cs20P_legal_iff (d : Bits) :
    '#' ∉ cs20P d ↔ ∀ i, i < 8 → Tables.cs20Chars.getD (fld (slice 8 56 d) (6 * i) (6 * i + 6)) '#' ≠ '#' := by
  unfold cs20P chars8P
  rw [List.mem_map]
  constructor
  · intro h i hi he
    exact h ⟨i, List.mem_range.mpr hi, he⟩
  · rintro h ⟨i, hi, he⟩
    exact h i (List.mem_range.mp hi) he

theorem is30P_iff (d : Bits) :
    is30P d = true ↔ (bin2int d ≠ 0 ∧ slice 0 8 d = natToBits 8 0x30 ∧ slice 28 30 d ≠ [true, true] ∧ fld d 15 22 < 48) := by
  unfold is30P
  simp only [guard_iff, ne_eq, Decidable.not_not, decide_eq_true_eq]

theorem is40P_iff (d : Bits) :
    is40P d = true ↔ (bin2int d ≠ 0 ∧ statusP d rules40 = true ∧ fld d 39 47 = 0 ∧ fld d 51 53 = 0) := by
  unfold is40P
  simp only [guard_iff, ne_eq, Decidable.not_not, decide_eq_true_eq, Bool.not_eq_true', Bool.not_eq_false]

/-! ### the range guards: an absent value passes, a present one is compared -/

theorem optGt_ufieldP (d : Bits) (sb a b : Nat) (scale lim : Rat) :
    ¬ optGt (ufieldP d sb a b scale 0) lim = true ↔ (bitAt d sb = true → (fld d a b : Rat) * scale ≤ lim) := by
  unfold optGt ufieldP
  cases bitAt d sb <;> simp

theorem optAbsGt_sfieldP (d : Bits) (sb sg a b : Nat) (scale lim : Rat) :
    ¬ optAbsGt (sfieldP d sb sg a b scale) lim = true ↔
      (bitAt d sb = true → rabs ((sval d sg a b : Rat) * scale) ≤ lim) := by
  unfold optAbsGt sfieldP
  cases bitAt d sb <;> simp

/-! ### a field value times its weight against a limit: `K` is the last value that fits -/

theorem scaled_le (c L : Rat) (K v : Int) (h1 : (K : Rat) * c ≤ L) (h2 : L < ((K : Rat) + 1) * c) :
    (v : Rat) * c ≤ L ↔ v ≤ K := by
  have hc : 0 < c := by linarith
  constructor
  · intro h
    by_contra hn
    have : (K : Rat) + 1 ≤ v := by exact_mod_cast Int.lt_of_not_ge hn
    have := mul_le_mul_of_nonneg_right this hc.le
    linarith
  · intro h
    have : (v : Rat) ≤ K := by exact_mod_cast h
    exact le_trans (mul_le_mul_of_nonneg_right this hc.le) h1

theorem scaled_le_nat (c L : Rat) (K n : Nat) (h1 : (K : Rat) * c ≤ L) (h2 : L < ((K : Rat) + 1) * c) :
    (n : Rat) * c ≤ L ↔ n ≤ K := by
  exact_mod_cast scaled_le c L K n (by exact_mod_cast h1) (by exact_mod_cast h2)

theorem neg_le_scaled (c L : Rat) (K v : Int) (h1 : (K : Rat) * c ≤ L) (h2 : L < ((K : Rat) + 1) * c) :
    -L ≤ (v : Rat) * c ↔ -K ≤ v := by
  have := scaled_le c L K (-v) h1 h2
  rw [Int.cast_neg, neg_mul, neg_le] at this
  rw [this, neg_le]

theorem rabs_scaled_le (c L : Rat) (K v : Int) (h1 : (K : Rat) * c ≤ L) (h2 : L < ((K : Rat) + 1) * c) :
    rabs ((v : Rat) * c) ≤ L ↔ (-K ≤ v ∧ v ≤ K) := by
  rw [CPR.rabs_le_iff, scaled_le c L K v h1 h2, neg_le_scaled c L K v h1 h2]

/-- signed value of a sign bit and a 9-bit magnitude -/
def s9 (g : Bool) (m : Nat) : Int := if g then (m : Int) - 512 else (m : Int)

end PyModeS.Infer
