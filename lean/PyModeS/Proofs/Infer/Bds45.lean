/-
  BDS 4,5 (meteorological hazard report): `is45` in integer terms, and an encoder accepted by it.
-/
import PyModeS.Proofs.Infer.Sound
namespace PyModeS.Infer
open PyModeS

/-- the temperature test of `is45` (skipped when the temperature is exactly 0, otherwise −80 °C ≤ t ≤ 60 °C with
    0.25 °C per unit) on the signed field value `v`: accepted iff −320 ≤ v ≤ 240 -/
theorem temp45_bound (v : Int) :
    ((v : Rat) / 4 ≠ 0 ∧ ((v : Rat) / 4 > 60 ∨ (v : Rat) / 4 < -80)) ↔ ¬ (-320 ≤ v ∧ v ≤ 240) := by
  have hi := scaled_le (1 / 4) 60 240 v (by norm_num) (by norm_num)
  have lo := neg_le_scaled (1 / 4) 80 320 v (by norm_num) (by norm_num)
  have z : (v : Rat) * (1 / 4) = 0 ↔ v = 0 := by simp
  rw [div_eq_mul_one_div (v : Rat) 4, gt_iff_lt, ← not_le, ← not_le (a := (-80 : Rat)), hi, lo, ne_eq, z]
  omega

theorem temp45V_eq (d : Bits) : temp45V d = sval d 16 17 26 := by
  unfold temp45V sval
  rfl

/-- BDS 4,5 in integer terms (the temperature is read whatever its status bit says, as `temp45` does) -/
theorem is45P_iff (d : Bits) :
    is45P d = true ↔ (bin2int d ≠ 0 ∧ statusP d rules45 = true ∧ fld d 51 56 = 0 ∧
      -320 ≤ sval d 16 17 26 ∧ sval d 16 17 26 ≤ 240) := by
  unfold is45P temp45P
  simp only [guard_iff, temp45V_eq, temp45_bound, ne_eq, not_not, and_true, Bool.not_eq_true', Bool.not_eq_false]

/-! ### encoder -/

/-- the BDS 4,5 layout: turbulence, wind shear, microburst, icing, wake vortex (status, 2 bits each), static air
    temperature (status, sign, 9-bit magnitude), average static pressure (status, 11 bits), radio height
    (status, 12 bits), 5 reserved bits -/
def layout45 (s1 : Bool) (turb : Nat) (s2 : Bool) (ws : Nat) (s3 : Bool) (mb : Nat) (s4 : Bool) (ic : Nat)
    (s5 : Bool) (wv : Nat) (s6 gt : Bool) (mt : Nat) (s7 : Bool) (p : Nat) (s8 : Bool) (rh : Nat) :
    List (Nat × Nat) :=
  [(1, s1.toNat), (2, turb), (1, s2.toNat), (2, ws), (1, s3.toNat), (2, mb), (1, s4.toNat), (2, ic),
   (1, s5.toNat), (2, wv), (1, s6.toNat), (1, gt.toNat), (9, mt), (1, s7.toNat), (11, p), (1, s8.toNat),
   (12, rh), (5, 0)]

def mb45 (s1 : Bool) (turb : Nat) (s2 : Bool) (ws : Nat) (s3 : Bool) (mb : Nat) (s4 : Bool) (ic : Nat)
    (s5 : Bool) (wv : Nat) (s6 gt : Bool) (mt : Nat) (s7 : Bool) (p : Nat) (s8 : Bool) (rh : Nat) : Bits :=
  build (layout45 s1 turb s2 ws s3 mb s4 ic s5 wv s6 gt mt s7 p s8 rh)

section
variable (s1 : Bool) (turb : Nat) (s2 : Bool) (ws : Nat) (s3 : Bool) (mb : Nat) (s4 : Bool) (ic : Nat)
    (s5 : Bool) (wv : Nat) (s6 gt : Bool) (mt : Nat) (s7 : Bool) (p : Nat) (s8 : Bool) (rh : Nat)

theorem mb45_length : (mb45 s1 turb s2 ws s3 mb s4 ic s5 wv s6 gt mt s7 p s8 rh).length = 56 := by simp [mb45, layout45, build]

/-- completeness on the MB field: in-range values, absent values zero, reserved bits zero (by layout), signed
    temperature field in −320..240 when present, not everything absent -/
theorem is45P_mb45 (h1 : turb < 4) (h2 : ws < 4) (h3 : mb < 4) (h4 : ic < 4) (h5 : wv < 4) (h6 : mt < 512)
    (h7 : p < 2048) (h8 : rh < 4096)
    (z1 : s1 = false → turb = 0) (z2 : s2 = false → ws = 0) (z3 : s3 = false → mb = 0)
    (z4 : s4 = false → ic = 0) (z5 : s5 = false → wv = 0) (z6 : s6 = false → gt = false ∧ mt = 0)
    (z7 : s7 = false → p = 0) (z8 : s8 = false → rh = 0)
    (ht : s6 = true → -320 ≤ s9 gt mt ∧ s9 gt mt ≤ 240)
    (hne : s1 = true ∨ s2 = true ∨ s3 = true ∨ s4 = true ∨ s5 = true ∨ s6 = true ∨ s7 = true ∨ s8 = true) :
    is45P (mb45 s1 turb s2 ws s3 mb s4 ic s5 wv s6 gt mt s7 p s8 rh) = true := by
  let D := mb45 s1 turb s2 ws s3 mb s4 ic s5 wv s6 gt mt s7 p s8 rh
  have b1 : bitAt D 0 = s1 := build_bit _ 0 0 s1 rfl rfl
  have b2 : bitAt D 3 = s2 := build_bit _ 2 3 s2 rfl rfl
  have b3 : bitAt D 6 = s3 := build_bit _ 4 6 s3 (by simp [layout45, offset]) rfl
  have b4 : bitAt D 9 = s4 := build_bit _ 6 9 s4 (by simp [layout45, offset]) rfl
  have b5 : bitAt D 12 = s5 := build_bit _ 8 12 s5 (by simp [layout45, offset]) rfl
  have b6 : bitAt D 15 = s6 := build_bit _ 10 15 s6 (by simp [layout45, offset]) rfl
  have bg : bitAt D 16 = gt := build_bit _ 11 16 gt (by simp [layout45, offset]) rfl
  have b7 : bitAt D 26 = s7 := build_bit _ 13 26 s7 (by simp [layout45, offset]) rfl
  have b8 : bitAt D 38 = s8 := build_bit _ 15 38 s8 (by simp [layout45, offset]) rfl
  have f1 : fld D 1 3 = turb := build_fld1 _ 1 1 2 turb rfl rfl h1
  have f2 : fld D 4 6 = ws := build_fld1 _ 3 4 2 ws (by simp [layout45, offset]) rfl h2
  have f3 : fld D 7 9 = mb := build_fld1 _ 5 7 2 mb (by simp [layout45, offset]) rfl h3
  have f4 : fld D 10 12 = ic := build_fld1 _ 7 10 2 ic (by simp [layout45, offset]) rfl h4
  have f5 : fld D 13 15 = wv := build_fld1 _ 9 13 2 wv (by simp [layout45, offset]) rfl h5
  have f6 : fld D 16 26 = gt.toNat * 2 ^ 9 + mt :=
    build_fld2 _ 11 16 1 _ 9 mt (by simp [layout45, offset]) rfl rfl gt.toNat_lt h6
  have f6m : fld D 17 26 = mt := build_fld1 _ 12 17 9 mt (by simp [layout45, offset]) rfl h6
  have f7 : fld D 27 38 = p := build_fld1 _ 14 27 11 p (by simp [layout45, offset]) rfl h7
  have f8 : fld D 39 51 = rh := build_fld1 _ 16 39 12 rh (by simp [layout45, offset]) rfl h8
  have r1 : fld D 51 56 = 0 := build_fld1 _ 17 51 5 0 (by simp [layout45, offset]) rfl (by decide)
  have hsv : sval D 16 17 26 = s9 gt mt := by unfold sval s9; rw [bg, f6m]; rfl
  rw [is45P_iff]
  refine ⟨?_, ?_, r1, ?_⟩
  · rcases hne with h | h | h | h | h | h | h | h
    · exact bin2int_ne_zero_of_bit D 0 (b1.trans h)
    · exact bin2int_ne_zero_of_bit D 3 (b2.trans h)
    · exact bin2int_ne_zero_of_bit D 6 (b3.trans h)
    · exact bin2int_ne_zero_of_bit D 9 (b4.trans h)
    · exact bin2int_ne_zero_of_bit D 12 (b5.trans h)
    · exact bin2int_ne_zero_of_bit D 15 (b6.trans h)
    · exact bin2int_ne_zero_of_bit D 26 (b7.trans h)
    · exact bin2int_ne_zero_of_bit D 38 (b8.trans h)
  · simp only [rules45, statusP_cons, statusP_nil, and_true]
    exact ⟨status_rule_of_zero b1 f1 z1, status_rule_of_zero b2 f2 z2, status_rule_of_zero b3 f3 z3,
      status_rule_of_zero b4 f4 z4, status_rule_of_zero b5 f5 z5,
      status_rule_of_zero b6 f6 fun h => signed_zero 9 (z6 h), status_rule_of_zero b7 f7 z7,
      status_rule_of_zero b8 f8 z8⟩
  · -- the temperature is range-checked whatever its status bit says; absent, it is 0
    rw [hsv]
    cases hs6 : s6 with
    | true => exact ht hs6
    | false =>
      obtain ⟨rfl, rfl⟩ := z6 hs6
      decide

end

end PyModeS.Infer
