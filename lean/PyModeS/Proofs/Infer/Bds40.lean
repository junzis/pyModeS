/-
  BDS 4,0 (selected vertical intention): an encoder accepted by `is40` (the exact rule is `is40P_iff`).
-/
import PyModeS.Proofs.Infer.Sound
namespace PyModeS.Infer
open PyModeS

/-- the BDS 4,0 layout: MCP/FCU selected altitude (status, 12 bits), FMS selected altitude (status, 12 bits),
    barometric pressure setting (status, 12 bits), 8 reserved bits, MCP/FCU mode (status, 3 mode bits),
    2 reserved bits, target altitude source (status, 2 bits) -/
def layout40 (s1 : Bool) (mcp : Nat) (s2 : Bool) (fms : Nat) (s3 : Bool) (baro : Nat) (s4 : Bool) (modes : Nat)
    (s5 : Bool) (src : Nat) : List (Nat × Nat) :=
  [(1, s1.toNat), (12, mcp), (1, s2.toNat), (12, fms), (1, s3.toNat), (12, baro), (8, 0), (1, s4.toNat), (3, modes),
   (2, 0), (1, s5.toNat), (2, src)]

def mb40 (s1 : Bool) (mcp : Nat) (s2 : Bool) (fms : Nat) (s3 : Bool) (baro : Nat) (s4 : Bool) (modes : Nat)
    (s5 : Bool) (src : Nat) : Bits :=
  build (layout40 s1 mcp s2 fms s3 baro s4 modes s5 src)

section
variable (s1 : Bool) (mcp : Nat) (s2 : Bool) (fms : Nat) (s3 : Bool) (baro : Nat) (s4 : Bool) (modes : Nat)
    (s5 : Bool) (src : Nat)

theorem mb40_length : (mb40 s1 mcp s2 fms s3 baro s4 modes s5 src).length = 56 := by simp [mb40, layout40, build]

/-- completeness on the MB field: any in-range values, absent values zero, reserved bits zero (by layout),
    not everything absent -/
theorem is40P_mb40 (h1 : mcp < 4096) (h2 : fms < 4096) (h3 : baro < 4096) (h4 : modes < 8) (h5 : src < 4)
    (z1 : s1 = false → mcp = 0) (z2 : s2 = false → fms = 0) (z3 : s3 = false → baro = 0)
    (z4 : s4 = false → modes = 0) (z5 : s5 = false → src = 0)
    (hne : s1 = true ∨ s2 = true ∨ s3 = true ∨ s4 = true ∨ s5 = true) :
    is40P (mb40 s1 mcp s2 fms s3 baro s4 modes s5 src) = true := by
  let D := mb40 s1 mcp s2 fms s3 baro s4 modes s5 src
  have b1 : bitAt D 0 = s1 := build_bit _ 0 0 s1 rfl rfl
  have b2 : bitAt D 13 = s2 := build_bit _ 2 13 s2 rfl rfl
  have b3 : bitAt D 26 = s3 := build_bit _ 4 26 s3 (by simp [layout40, offset]) rfl
  have b4 : bitAt D 47 = s4 := build_bit _ 7 47 s4 (by simp [layout40, offset]) rfl
  have b5 : bitAt D 53 = s5 := build_bit _ 10 53 s5 (by simp [layout40, offset]) rfl
  have f1 : fld D 1 13 = mcp := build_fld1 _ 1 1 12 mcp rfl rfl h1
  have f2 : fld D 14 26 = fms := build_fld1 _ 3 14 12 fms (by simp [layout40, offset]) rfl h2
  have f3 : fld D 27 39 = baro := build_fld1 _ 5 27 12 baro (by simp [layout40, offset]) rfl h3
  have r1 : fld D 39 47 = 0 := build_fld1 _ 6 39 8 0 (by simp [layout40, offset]) rfl (by decide)
  have f4 : fld D 48 51 = modes := build_fld1 _ 8 48 3 modes (by simp [layout40, offset]) rfl h4
  have r2 : fld D 51 53 = 0 := build_fld1 _ 9 51 2 0 (by simp [layout40, offset]) rfl (by decide)
  have f5 : fld D 54 56 = src := build_fld1 _ 11 54 2 src (by simp [layout40, offset]) rfl h5
  rw [is40P_iff]
  refine ⟨?_, ?_, r1, r2⟩
  · rcases hne with h | h | h | h | h
    · exact bin2int_ne_zero_of_bit D 0 (b1.trans h)
    · exact bin2int_ne_zero_of_bit D 13 (b2.trans h)
    · exact bin2int_ne_zero_of_bit D 26 (b3.trans h)
    · exact bin2int_ne_zero_of_bit D 47 (b4.trans h)
    · exact bin2int_ne_zero_of_bit D 53 (b5.trans h)
  · simp only [rules40, statusP_cons, statusP_nil, and_true]
    exact ⟨status_rule_of_zero b1 f1 z1, status_rule_of_zero b2 f2 z2, status_rule_of_zero b3 f3 z3,
      status_rule_of_zero b4 f4 z4, status_rule_of_zero b5 f5 z5⟩

end

end PyModeS.Infer
