/-
  BDS 5,3 (air-referenced state vector): `is53` in integer terms.
-/
import PyModeS.Proofs.Infer.Sound
namespace PyModeS.Infer
open PyModeS

/-- Mach = field × 0.008 ≤ 1 iff field ≤ 125 -/
theorem mach53_bound (n : Nat) : (n : Rat) * ((8 : Rat) / 1000) ≤ 1 ↔ n ≤ 125 :=
  scaled_le_nat _ _ 125 n (by norm_num) (by norm_num)

/-- TAS = field × 0.5 kt ≤ 500 iff field ≤ 1000 -/
theorem tas53_bound (n : Nat) : (n : Rat) * ((1 : Rat) / 2) ≤ 500 ↔ n ≤ 1000 :=
  scaled_le_nat _ _ 1000 n (by norm_num) (by norm_num)

/-- |vertical rate| = |signed field| × 64 ft/min ≤ 8000 iff the signed field is in −125..125 -/
theorem vr53_bound (v : Int) : rabs ((v : Rat) * 64) ≤ 8000 ↔ (-125 ≤ v ∧ v ≤ 125) :=
  rabs_scaled_le _ _ 125 v (by norm_num) (by norm_num)

/-- BDS 5,3 in integers: not all zero, the five status rules, and for the values that are present
    IAS ≤ 500 kt, Mach ≤ 1 (field ≤ 125), TAS ≤ 500 kt (field ≤ 1000), |vertical rate| ≤ 8000 ft/min
    (signed field in −125..125) -/
theorem is53P_iff (d : Bits) :
    is53P d = true ↔ (bin2int d ≠ 0 ∧ statusP d rules53 = true ∧
      (bitAt d 12 = true → fld d 13 23 ≤ 500) ∧
      (bitAt d 23 = true → fld d 24 33 ≤ 125) ∧
      (bitAt d 33 = true → fld d 34 46 ≤ 1000) ∧
      (bitAt d 46 = true → -125 ≤ sval d 47 48 56 ∧ sval d 47 48 56 ≤ 125)) := by
  unfold is53P
  simp only [guard_iff, optGt_ufieldP, optAbsGt_sfieldP, mach53_bound, tas53_bound, vr53_bound, mul_one,
    Nat.cast_le_ofNat, ne_eq, Bool.not_eq_true', Bool.not_eq_false, and_true]

end PyModeS.Infer
