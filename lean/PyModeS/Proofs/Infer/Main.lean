/-
  bds.infer on a 112-bit frame: total, and for Comm-B replies the comma-joined list of the registers
  whose rules hold, in a fixed order that is the sorted order.
-/
import PyModeS.Proofs.Infer.Rules
namespace PyModeS.Infer
open PyModeS

/-- the nine Comm-B rule results, as Booleans -/
def rulesP (ias : Rat → Int → Rat) (bits : Bits) : List (String × Bool × Bool) :=
  let d := mbOf bits
  [("BDS10", is10P d, false), ("BDS17", is17P d, false), ("BDS20", is20P d, false), ("BDS30", is30P d, false),
   ("BDS40", is40P d, false), ("BDS44", is44P d, true), ("BDS45", is45P d, true), ("BDS50", is50P d, false),
   ("BDS60", is60P ias bits, false)]

theorem commbRules_val (ias : Rat → Int → Rat) (bits : Bits) (h : bits.length = 112) :
    commbRules ias bits = .val (rulesP ias bits) := by
  unfold commbRules
  rw [is10_val bits h, is17_val bits h, is20_val bits h, is30_val bits h, is40_val bits h, is50_val bits h,
    is60_val ias bits h, is44_val bits h, is45_val bits h]
  rfl

/-- `[s]` if the rule holds, nothing otherwise -/
def sel (b : Bool) (s : String) : List String := if b then [s] else []

/-- the labels `infer` joins: fixed order, BDS44/BDS45 only with `mrar` -/
def labelsP (ias : Rat → Int → Rat) (bits : Bits) (mrar : Bool) : List String :=
  let d := mbOf bits
  sel (is10P d) "BDS10" ++ sel (is17P d) "BDS17" ++ sel (is20P d) "BDS20" ++ sel (is30P d) "BDS30" ++
  sel (is40P d) "BDS40" ++ sel (is44P d && mrar) "BDS44" ++ sel (is45P d && mrar) "BDS45" ++
  sel (is50P d) "BDS50" ++ sel (is60P ias bits) "BDS60"

/-- `",".join(l)`, `None` for the empty list -/
def joinLabels (l : List String) : Option String := if l.isEmpty then none else some (",".intercalate l)

theorem filter_map_cons {α} (p : α → Bool) (f : α → String) (x : α) (l : List α) :
    ((x :: l).filter p).map f = sel (p x) (f x) ++ (l.filter p).map f := by
  rw [List.filter_cons]; unfold sel; split <;> simp

theorem labels_of_rules (ias : Rat → Int → Rat) (bits : Bits) (mrar : Bool) :
    ((rulesP ias bits).filter (fun r => r.2.1 && (mrar || !r.2.2))).map (·.1) = labelsP ias bits mrar := by
  unfold rulesP labelsP
  simp only [filter_map_cons, List.filter_nil, List.map_nil, Bool.not_false, Bool.or_true, Bool.and_true,
    Bool.not_true, Bool.or_false, List.append_nil, List.append_assoc]

/-- the DF17 shortcut of `infer`: the register named by the type code, if any -/
def adsbOf (bits : Bits) : Option String :=
  if dfB bits = 17 then (match tcB bits with | some tc => inferAdsb tc | none => none) else none

/-- `infer` as a total function of the frame -/
def inferP (ias : Rat → Int → Rat) (bits : Bits) (mrar : Bool) : Option String :=
  if bin2int (mbOf bits) = 0 then some "EMPTY"
  else match adsbOf bits with
    | some l => some l
    | none => joinLabels (labelsP ias bits mrar)

theorem infer_val (ias : Rat → Int → Rat) (bits : Bits) (mrar : Bool) (h : bits.length = 112) :
    infer ias bits mrar = .val (inferP ias bits mrar) := by
  unfold infer inferP adsbOf joinLabels
  rw [allzerosB_val bits h, commbRules_val ias bits h]
  simp only [Res.bind_val, Res.pure_eq, decide_eq_true_eq, labels_of_rules]
  generalize (if dfB bits = 17 then (match tcB bits with | some tc => inferAdsb tc | none => none) else none) = A
  split
  · rfl
  · cases A <;> simp only [ite_val]

/-! ### the fixed order is the sorted order -/

def allLabels : List String := ["BDS10", "BDS17", "BDS20", "BDS30", "BDS40", "BDS44", "BDS45", "BDS50", "BDS60"]

/-- the order in which `infer` lists the registers is strictly increasing for `String.<` -/
theorem labels_sorted : List.Pairwise (· < ·) allLabels := by decide

theorem sel_sublist (b : Bool) (s : String) : (sel b s).Sublist [s] := by
  unfold sel; cases b <;> simp

/-- whatever the nine results are, the labels selected are a sublist of the fixed order -/
theorem sel_append_sublist (b10 b17 b20 b30 b40 b44 b45 b50 b60 : Bool) :
    (sel b10 "BDS10" ++ sel b17 "BDS17" ++ sel b20 "BDS20" ++ sel b30 "BDS30" ++ sel b40 "BDS40" ++
      sel b44 "BDS44" ++ sel b45 "BDS45" ++ sel b50 "BDS50" ++ sel b60 "BDS60").Sublist allLabels :=
  ((((((((sel_sublist b10 _).append (sel_sublist b17 _)).append (sel_sublist b20 _)).append
    (sel_sublist b30 _)).append (sel_sublist b40 _)).append (sel_sublist b44 _)).append
    (sel_sublist b45 _)).append (sel_sublist b50 _)).append (sel_sublist b60 _)

theorem labelsP_sublist (ias : Rat → Int → Rat) (bits : Bits) (mrar : Bool) :
    (labelsP ias bits mrar).Sublist allLabels :=
  sel_append_sublist _ _ _ _ _ _ _ _ _

/-- whatever the rules say, the joined labels are strictly increasing: Python's `sorted` is the identity on them,
    and no label occurs twice -/
theorem labelsP_sorted (ias : Rat → Int → Rat) (bits : Bits) (mrar : Bool) :
    List.Pairwise (· < ·) (labelsP ias bits mrar) :=
  List.Pairwise.sublist (labelsP_sublist ias bits mrar) labels_sorted

theorem mem_sel {b : Bool} {s x : String} : x ∈ sel b s ↔ (b = true ∧ x = s) := by
  unfold sel; cases b <;> simp

end PyModeS.Infer
