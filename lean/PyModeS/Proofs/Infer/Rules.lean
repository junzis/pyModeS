/-
  Each Comm-B format rule `isXX` of bds.infer, on a 112-bit frame, is a value (no exception) and
  equals an explicit Boolean function `isXXP` of the 56-bit MB field.
-/
import PyModeS.Proofs.Infer.Base
namespace PyModeS.Infer
open PyModeS

/-! ### BDS 1,0 -/

def is10P (d : Bits) : Bool :=
  if bin2int d = 0 then false
  else if slice 0 8 d ≠ natToBits 8 0x10 then false
  else if fld d 9 14 ≠ 0 then false
  else if bitAt d 14 = true ∧ fld d 16 23 < 5 then false
  else if bitAt d 14 = false ∧ fld d 16 23 > 4 then false
  else true

theorem is10_val (bits : Bits) (h : bits.length = 112) : is10 bits = .val (is10P (mbOf bits)) := by
  have hd := mbOf_length bits h
  unfold is10
  rw [allzerosB_val bits h, dataR_val bits h]
  generalize mbOf bits = d at hd ⊢
  simp only [Res.bind_val, Res.pure_eq, ite_val, decide_eq_true_eq, idxR_val d 14 (by omega),
    bin2intR_slice_val d 9 14 (by omega) (by omega), bin2intR_slice_val d 16 23 (by omega) (by omega)]
  rfl

/-! ### BDS 1,7 -/

theorem cap17All_length : Tables.cap17All.length = 24 := by decide

def cap17P (d : Bits) : List String :=
  ((List.range (d.take 24).length).filter (fun i => (d.take 24).getD i false)).map
    (fun i => "BDS" ++ Tables.cap17All.getD i "")

theorem cap17_val (bits : Bits) (h : bits.length = 112) : cap17 bits = .val (cap17P (mbOf bits)) := by
  have hd := mbOf_length bits h
  unfold cap17
  rw [dataR_val bits h]
  generalize mbOf bits = d at hd ⊢
  simp only [Res.bind_val]
  apply mapM_val
  intro i hi
  have hi' : i < 24 := by
    have := (List.mem_filter.mp hi).1
    rw [List.mem_range, List.length_take] at this
    omega
  rw [idxR_getD Tables.cap17All i "" (by rw [cap17All_length]; exact hi')]
  rfl

def is17P (d : Bits) : Bool :=
  if bin2int d = 0 then false
  else if fld d 24 56 ≠ 0 then false
  else (cap17P d).contains "BDS20"

theorem is17_val (bits : Bits) (h : bits.length = 112) : is17 bits = .val (is17P (mbOf bits)) := by
  have hd := mbOf_length bits h
  unfold is17
  rw [allzerosB_val bits h, dataR_val bits h, cap17_val bits h]
  generalize mbOf bits = d at hd ⊢
  simp only [Res.bind_val, Res.pure_eq, ite_val, decide_eq_true_eq, bin2intR_slice_val d 24 56 (by omega) (by omega)]
  rfl

/-! ### BDS 2,0 -/

/-- table facts the Comm-B text decoders rely on (break when the source tables change) -/
theorem cs20Chars_length : Tables.cs20Chars.length = 64 := by decide +kernel

def chars8P (chars : List Char) (cs : Bits) : List Char :=
  (List.range 8).map (fun i => chars.getD (fld cs (6 * i) (6 * i + 6)) '#')

theorem chars8_val (chars : List Char) (cs : Bits) (hc : chars.length = 64) (hl : cs.length = 48) :
    chars8 chars cs = .val (chars8P chars cs) := by
  unfold chars8 chars8P
  apply mapM_val
  intro i hi
  have hi' : i < 8 := List.mem_range.mp hi
  rw [bin2intR_slice_val cs _ _ (by omega) (by omega)]
  simp only [Res.bind_val]
  apply idxR_getD
  have := fld_lt cs (6 * i) (6 * i + 6)
  have e : 6 * i + 6 - 6 * i = 6 := by omega
  rw [e] at this
  omega

def cs20P (d : Bits) : List Char := chars8P Tables.cs20Chars (slice 8 56 d)

theorem cs20_val (bits : Bits) (h : bits.length = 112) : cs20 bits = .val (cs20P (mbOf bits)) := by
  have hd := mbOf_length bits h
  unfold cs20
  rw [dataR_val bits h]
  simp only [Res.bind_val]
  exact chars8_val _ _ cs20Chars_length (by rw [slice_length]; omega)

def is20P (d : Bits) : Bool :=
  if bin2int d = 0 then false
  else if slice 0 8 d ≠ natToBits 8 0x20 then false
  else if fld d 8 56 = 0 then true
  else !(cs20P d).contains '#'

theorem is20_val (bits : Bits) (h : bits.length = 112) : is20 bits = .val (is20P (mbOf bits)) := by
  have hd := mbOf_length bits h
  unfold is20
  rw [allzerosB_val bits h, dataR_val bits h, cs20_val bits h]
  generalize mbOf bits = d at hd ⊢
  simp only [Res.bind_val, Res.pure_eq, ite_val, decide_eq_true_eq, bin2intR_slice_val d 8 56 (by omega) (by omega)]
  rfl

/-! ### BDS 3,0 -/

def is30P (d : Bits) : Bool :=
  if bin2int d = 0 then false
  else if slice 0 8 d ≠ natToBits 8 0x30 then false
  else if slice 28 30 d = [true, true] then false
  else decide (fld d 15 22 < 48)

theorem is30_val (bits : Bits) (h : bits.length = 112) : is30 bits = .val (is30P (mbOf bits)) := by
  have hd := mbOf_length bits h
  unfold is30
  rw [allzerosB_val bits h, dataR_val bits h]
  generalize mbOf bits = d at hd ⊢
  simp only [Res.bind_val, Res.pure_eq, ite_val, decide_eq_true_eq, bin2intR_slice_val d 15 22 (by omega) (by omega)]
  rfl

/-! ### BDS 4,0 -/

def rules40 : List (Nat × Nat × Nat) := [(1, 2, 13), (14, 15, 26), (27, 28, 39), (48, 49, 51), (54, 55, 56)]

def is40P (d : Bits) : Bool :=
  if bin2int d = 0 then false
  else if (!statusP d rules40) = true then false
  else if fld d 39 47 ≠ 0 then false
  else decide (fld d 51 53 = 0)

theorem rules_inrange (d : Bits) (hd : d.length = 56) (l : List (Nat × Nat × Nat))
    (hl : l.all (fun t => decide (t.1 - 1 < 56 ∧ t.2.1 - 1 < t.2.2 ∧ t.2.1 - 1 < 56)) = true) :
    ∀ t ∈ l, t.1 - 1 < d.length ∧ t.2.1 - 1 < t.2.2 ∧ t.2.1 - 1 < d.length := by
  intro t ht
  rw [List.all_eq_true] at hl
  have := hl t ht
  rw [hd]
  simpa using this

theorem is40_val (bits : Bits) (h : bits.length = 112) : is40 bits = .val (is40P (mbOf bits)) := by
  have hd := mbOf_length bits h
  unfold is40
  rw [allzerosB_val bits h, dataR_val bits h]
  generalize mbOf bits = d at hd ⊢
  simp only [Res.bind_val]
  rw [statusOk_val d _ (rules_inrange d hd _ (by decide))]
  simp only [Res.bind_val, Res.pure_eq, ite_val, decide_eq_true_eq, bin2intR_slice_val d 39 47 (by omega) (by omega),
    bin2intR_slice_val d 51 53 (by omega) (by omega)]
  rfl

/-! ### BDS 4,4 -/

def rules44 : List (Nat × Nat × Nat) := [(5, 6, 23), (35, 36, 46), (47, 48, 49), (50, 51, 56)]

def wind44P (d : Bits) : Option (Nat × Rat) :=
  if bitAt d 4 = false then none else some (fld d 5 14, (fld d 14 23 : Rat) * 180 / 256)

def temp44V (d : Bits) : Int := if bitAt d 23 then (fld d 24 34 : Int) - 1024 else (fld d 24 34 : Int)

def temp44P (d : Bits) : Rat × Rat := ((temp44V d : Rat) / 4, (temp44V d : Rat) / 8)

theorem wind44_val (bits : Bits) (h : bits.length = 112) : wind44 bits = .val (wind44P (mbOf bits)) := by
  have hd := mbOf_length bits h
  unfold wind44
  rw [dataR_val bits h]
  generalize mbOf bits = d at hd ⊢
  simp only [Res.bind_val, Res.pure_eq, ite_val, idxR_val d 4 (by omega),
    bin2intR_slice_val d 5 14 (by omega) (by omega), bin2intR_slice_val d 14 23 (by omega) (by omega)]
  rfl

theorem temp44_val (bits : Bits) (h : bits.length = 112) : temp44 bits = .val (temp44P (mbOf bits)) := by
  have hd := mbOf_length bits h
  unfold temp44
  rw [dataR_val bits h]
  generalize mbOf bits = d at hd ⊢
  simp only [Res.bind_val, Res.pure_eq, idxR_val d 23 (by omega), bin2intR_slice_val d 24 34 (by omega) (by omega)]
  rfl

def is44P (d : Bits) : Bool :=
  if bin2int d = 0 then false
  else if (!statusP d rules44) = true then false
  else if fld d 0 4 > 4 then false
  else if (match wind44P d with | some (vw, _) => decide (vw > 250) | none => false) = true then false
  else if min (temp44P d).1 (temp44P d).2 > 60 ∨ max (temp44P d).1 (temp44P d).2 < -80 then false
  else true

theorem is44_val (bits : Bits) (h : bits.length = 112) : is44 bits = .val (is44P (mbOf bits)) := by
  have hd := mbOf_length bits h
  unfold is44
  rw [allzerosB_val bits h, dataR_val bits h, wind44_val bits h, temp44_val bits h]
  generalize mbOf bits = d at hd ⊢
  simp only [Res.bind_val]
  rw [statusOk_val d _ (rules_inrange d hd _ (by decide))]
  simp only [Res.bind_val, Res.pure_eq, ite_val, decide_eq_true_eq, bin2intR_slice_val d 0 4 (by omega) (by omega)]
  rfl

/-! ### BDS 4,5 -/

def rules45 : List (Nat × Nat × Nat) :=
  [(1, 2, 3), (4, 5, 6), (7, 8, 9), (10, 11, 12), (13, 14, 15), (16, 17, 26), (27, 28, 38), (39, 40, 51)]

def temp45V (d : Bits) : Int := if bitAt d 16 then (fld d 17 26 : Int) - 512 else (fld d 17 26 : Int)
def temp45P (d : Bits) : Rat := (temp45V d : Rat) / 4

theorem temp45_val (bits : Bits) (h : bits.length = 112) : temp45 bits = .val (temp45P (mbOf bits)) := by
  have hd := mbOf_length bits h
  unfold temp45
  rw [dataR_val bits h]
  generalize mbOf bits = d at hd ⊢
  simp only [Res.bind_val, Res.pure_eq, idxR_val d 16 (by omega), bin2intR_slice_val d 17 26 (by omega) (by omega)]
  rfl

def is45P (d : Bits) : Bool :=
  if bin2int d = 0 then false
  else if (!statusP d rules45) = true then false
  else if fld d 51 56 ≠ 0 then false
  else if temp45P d ≠ 0 ∧ (temp45P d > 60 ∨ temp45P d < -80) then false
  else true

theorem is45_val (bits : Bits) (h : bits.length = 112) : is45 bits = .val (is45P (mbOf bits)) := by
  have hd := mbOf_length bits h
  unfold is45
  rw [allzerosB_val bits h, dataR_val bits h, temp45_val bits h]
  generalize mbOf bits = d at hd ⊢
  simp only [Res.bind_val]
  rw [statusOk_val d _ (rules_inrange d hd _ (by decide))]
  simp only [Res.bind_val, Res.pure_eq, ite_val, decide_eq_true_eq, bin2intR_slice_val d 51 56 (by omega) (by omega)]
  rfl

/-! ### BDS 5,0 -/

def rules50 : List (Nat × Nat × Nat) := [(1, 2, 11), (12, 13, 23), (24, 25, 34), (35, 36, 45), (46, 47, 56)]

def roll50P (d : Bits) : Option Rat := sfieldP d 0 1 2 11 ((45 : Rat) / 256)
def gs50P (d : Bits) : Option Rat := ufieldP d 23 24 34 2 0
def tas50P (d : Bits) : Option Rat := ufieldP d 45 46 56 2 0

theorem roll50_val (bits : Bits) (h : bits.length = 112) : roll50 bits = .val (roll50P (mbOf bits)) :=
  sfield_frame bits h _ _ _ _ _ (by decide) (by decide) (by decide) (by decide)

theorem gs50_val (bits : Bits) (h : bits.length = 112) : gs50 bits = .val (gs50P (mbOf bits)) :=
  ufield_frame bits h _ _ _ _ _ (by decide) (by decide) (by decide)

theorem tas50_val (bits : Bits) (h : bits.length = 112) : tas50 bits = .val (tas50P (mbOf bits)) :=
  ufield_frame bits h _ _ _ _ _ (by decide) (by decide) (by decide)

def is50P (d : Bits) : Bool :=
  if bin2int d = 0 then false
  else if (!statusP d rules50) = true then false
  else if optAbsGt (roll50P d) 50 = true then false
  else if optGt (gs50P d) 600 = true then false
  else if optGt (tas50P d) 600 = true then false
  else match gs50P d, tas50P d with
    | some g, some t => !decide (rabs (t - g) > 200)
    | _, _ => true

theorem is50_val (bits : Bits) (h : bits.length = 112) : is50 bits = .val (is50P (mbOf bits)) := by
  have hd := mbOf_length bits h
  unfold is50
  rw [allzerosB_val bits h, dataR_val bits h, roll50_val bits h, gs50_val bits h, tas50_val bits h]
  generalize mbOf bits = d at hd ⊢
  simp only [Res.bind_val]
  rw [statusOk_val d _ (rules_inrange d hd _ (by decide))]
  simp only [Res.bind_val, Res.pure_eq, decide_eq_true_eq]
  unfold is50P
  simp only [rules50]
  generalize gs50P d = g
  generalize tas50P d = t
  cases g <;> cases t <;> simp only [ite_val]

/-! ### BDS 6,0 -/

def rules60 : List (Nat × Nat × Nat) := [(1, 2, 12), (13, 14, 23), (24, 25, 34), (35, 36, 45), (46, 47, 56)]

def ias60P (d : Bits) : Option Rat := ufieldP d 12 13 23 1 0
def mach60P (d : Bits) : Option Rat := ufieldP d 23 24 34 ((2048 : Rat) / 1000 / 512) 0
def vr60baroP (d : Bits) : Option Rat := sfieldP d 34 35 36 45 32
def vr60insP (d : Bits) : Option Rat := sfieldP d 45 46 47 56 32

theorem ias60_val (bits : Bits) (h : bits.length = 112) : ias60 bits = .val (ias60P (mbOf bits)) :=
  ufield_frame bits h _ _ _ _ _ (by decide) (by decide) (by decide)

theorem mach60_val (bits : Bits) (h : bits.length = 112) : mach60 bits = .val (mach60P (mbOf bits)) :=
  ufield_frame bits h _ _ _ _ _ (by decide) (by decide) (by decide)

theorem vr60baro_val (bits : Bits) (h : bits.length = 112) : vr60baro bits = .val (vr60baroP (mbOf bits)) :=
  sfield_frame bits h _ _ _ _ _ (by decide) (by decide) (by decide) (by decide)

theorem vr60ins_val (bits : Bits) (h : bits.length = 112) : vr60ins bits = .val (vr60insP (mbOf bits)) :=
  sfield_frame bits h _ _ _ _ _ (by decide) (by decide) (by decide) (by decide)

def is60CoreP (d : Bits) : Bool :=
  if bin2int d = 0 then false
  else if (!statusP d rules60) = true then false
  else if optGt (ias60P d) 500 = true then false
  else if optGt (mach60P d) 1 = true then false
  else if optAbsGt (vr60baroP d) 6000 = true then false
  else if optAbsGt (vr60insP d) 6000 = true then false
  else true

theorem is60Core_val (bits : Bits) (h : bits.length = 112) : is60Core bits = .val (is60CoreP (mbOf bits)) := by
  have hd := mbOf_length bits h
  unfold is60Core
  rw [allzerosB_val bits h, dataR_val bits h, ias60_val bits h, mach60_val bits h, vr60baro_val bits h,
    vr60ins_val bits h]
  generalize mbOf bits = d at hd ⊢
  simp only [Res.bind_val]
  rw [statusOk_val d _ (rules_inrange d hd _ (by decide))]
  simp only [Res.bind_val, Res.pure_eq, ite_val, decide_eq_true_eq]
  rfl

/-- the altitude cross-check of is60 as a Boolean -/
def is60AltP (iasOfMach : Rat → Int → Rat) (bits : Bits) : Bool :=
  match mach60P (mbOf bits), ias60P (mbOf bits) with
  | some m, some i =>
    if dfB bits = 20 then
      match alt13P (slice 19 32 bits) with
      | some a => !decide (rabs (i - iasOfMach m a) > 20)
      | none => true
    else true
  | _, _ => true

theorem is60AltCheck_val (ias : Rat → Int → Rat) (bits : Bits) (h : bits.length = 112) :
    is60AltCheck ias bits = .val (is60AltP ias bits) := by
  unfold is60AltCheck is60AltP
  rw [ias60_val bits h, mach60_val bits h, altitude13_val (slice 19 32 bits) (by rw [slice_length]; omega)]
  simp only [Res.bind_val]
  generalize mach60P (mbOf bits) = m
  generalize ias60P (mbOf bits) = i
  generalize alt13P (slice 19 32 bits) = a
  cases m <;> cases i <;> cases a <;> simp only [Res.pure_eq, ite_val]

def is60P (ias : Rat → Int → Rat) (bits : Bits) : Bool :=
  if (!is60CoreP (mbOf bits)) = true then false else is60AltP ias bits

theorem is60_val (ias : Rat → Int → Rat) (bits : Bits) (h : bits.length = 112) :
    is60 ias bits = .val (is60P ias bits) := by
  unfold is60 is60P
  rw [is60Core_val bits h, is60AltCheck_val ias bits h]
  simp only [Res.bind_val, Res.pure_eq, ite_val]

/-! ### BDS 5,3 (not consulted by `infer`) -/

def rules53 : List (Nat × Nat × Nat) := [(1, 3, 12), (13, 14, 23), (24, 25, 33), (34, 35, 46), (47, 49, 56)]

def is53P (d : Bits) : Bool :=
  if bin2int d = 0 then false
  else if (!statusP d rules53) = true then false
  else if optGt (ufieldP d 12 13 23 1 0) 500 = true then false
  else if optGt (ufieldP d 23 24 33 ((8 : Rat) / 1000) 0) 1 = true then false
  else if optGt (ufieldP d 33 34 46 ((1 : Rat) / 2) 0) 500 = true then false
  else if optAbsGt (sfieldP d 46 47 48 56 64) 8000 = true then false
  else true

theorem is53_val (bits : Bits) (h : bits.length = 112) : is53 bits = .val (is53P (mbOf bits)) := by
  have hd := mbOf_length bits h
  have e1 : ias53 bits = .val _ := ufield_frame bits h _ _ _ _ _ (by decide) (by decide) (by decide)
  have e2 : mach53 bits = .val _ := ufield_frame bits h _ _ _ _ _ (by decide) (by decide) (by decide)
  have e3 : tas53 bits = .val _ := ufield_frame bits h _ _ _ _ _ (by decide) (by decide) (by decide)
  have e4 : vr53 bits = .val _ := sfield_frame bits h _ _ _ _ _ (by decide) (by decide) (by decide) (by decide)
  unfold is53
  rw [allzerosB_val bits h, dataR_val bits h, e1, e2, e3, e4]
  generalize mbOf bits = d at hd ⊢
  simp only [Res.bind_val]
  rw [statusOk_val d _ (rules_inrange d hd _ (by decide))]
  simp only [Res.bind_val, Res.pure_eq, ite_val, decide_eq_true_eq]
  rfl

end PyModeS.Infer
