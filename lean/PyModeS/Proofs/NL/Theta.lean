/-
  The DO-260B transition latitude
    `theta n = (180/π) · arccos √( (1 − cos(π/30)) / (1 − cos(2π/n)) )`
  and a Boolean certificate in ℚ (`rowCert`) that implies `lo ≤ theta n · 10¹² ≤ hi`.

  Reduction (arccos antitone, cos antitone on [0, π], everything non-negative):
    `L ≤ arccos √(A/B)  ⇐  0 ≤ cos L ∧ A ≤ cos² L · B`       (0 ≤ L ≤ π)
    `arccos √(A/B) ≤ H  ⇐  cos² H · B ≤ A`                    (0 ≤ H ≤ π/2)
  with `A = 1 − cos(π/30)`, `B = 1 − cos(2π/n) > 0`, `L = lo·10⁻¹²·π/180`, `H = hi·10⁻¹²·π/180`,
  the cosines being enclosed by partial sums of the series (`cosQ`) at rational multiples of `piLo`,
  `piHi`.
-/
import PyModeS.Proofs.NL.CosQ

namespace PyModeS.NL

open Real

/-- NL transition latitude θ_n in degrees (DO-260B, NZ = 15) -/
noncomputable def theta (n : ℕ) : ℝ :=
  180 / π * arccos (sqrt ((1 - cos (π / 30)) / (1 - cos (2 * π / (n : ℝ)))))

theorem le_arccos_sqrt (A B L : ℝ) (hB : 0 < B) (hL0 : 0 ≤ L) (hLpi : L ≤ π)
    (hc : 0 ≤ cos L) (h : A ≤ cos L ^ 2 * B) : L ≤ arccos (sqrt (A / B)) := by
  have h1 : sqrt (A / B) ≤ cos L := by
    rw [sqrt_le_iff]
    exact ⟨hc, (div_le_iff₀ hB).mpr h⟩
  have h2 := antitone_arccos h1
  rwa [arccos_cos hL0 hLpi] at h2

theorem arccos_sqrt_le (A B H : ℝ) (hB : 0 < B) (hH0 : 0 ≤ H) (hHpi : H ≤ π)
    (h : cos H ^ 2 * B ≤ A) : arccos (sqrt (A / B)) ≤ H := by
  have h1 : cos H ≤ sqrt (A / B) := by
    have : cos H ^ 2 ≤ A / B := (le_div_iff₀ hB).mpr h
    exact le_trans (le_abs_self _) (abs_le_sqrt this)
  have h2 := antitone_arccos h1
  rwa [arccos_cos hH0 hHpi] at h2

/-- `theta n` lies in `[180·qL, 180·qH]` degrees once the two inequalities of the reduction hold
    at the angles `qL·π` and `qH·π` -/
theorem theta_enclosed (n : ℕ) (qL qH : ℚ) (hL0 : 0 ≤ qL) (hL1 : qL ≤ 1) (hH0 : 0 ≤ qH) (hH1 : qH ≤ 1)
    (hB : 0 < 1 - cos (2 * π / (n : ℝ))) (hcL : 0 ≤ cos ((qL : ℝ) * π))
    (hlow : 1 - cos (π / 30) ≤ cos ((qL : ℝ) * π) ^ 2 * (1 - cos (2 * π / (n : ℝ))))
    (hupp : cos ((qH : ℝ) * π) ^ 2 * (1 - cos (2 * π / (n : ℝ))) ≤ 1 - cos (π / 30)) :
    180 * (qL : ℝ) ≤ theta n ∧ theta n ≤ 180 * (qH : ℝ) := by
  have hπ := pi_pos
  have hl := le_arccos_sqrt _ _ _ hB (mul_nonneg (by exact_mod_cast hL0) hπ.le)
    (mul_le_of_le_one_left hπ.le (by exact_mod_cast hL1)) hcL hlow
  have hu := arccos_sqrt_le _ _ _ hB (mul_nonneg (by exact_mod_cast hH0) hπ.le)
    (mul_le_of_le_one_left hπ.le (by exact_mod_cast hH1)) hupp
  have e : ∀ q : ℝ, 180 * q = 180 / π * (q * π) := fun q => by field_simp
  have hk : (0 : ℝ) ≤ 180 / π := by positivity
  unfold theta
  rw [e, e]
  exact ⟨mul_le_mul_of_nonneg_left hl hk, mul_le_mul_of_nonneg_left hu hk⟩

/-- the two inequalities of the reduction from rational enclosures of the four cosines -/
theorem reduction_of_enclosures {cA cB cL cH : ℝ} {a1 a2 b1 b2 l1 h2 : ℚ}
    (ha1 : (a1 : ℝ) ≤ cA) (ha2 : cA ≤ (a2 : ℝ)) (hb1 : (b1 : ℝ) ≤ cB) (hb2 : cB ≤ (b2 : ℝ))
    (hl : (l1 : ℝ) ≤ cL) (hh : cH ≤ (h2 : ℝ)) (hH0 : 0 ≤ cH) (hl0 : 0 ≤ l1) (hb : 0 < 1 - b2)
    (hlow : 1 - a1 ≤ l1 * l1 * (1 - b2)) (hupp : h2 * h2 * (1 - b1) ≤ 1 - a2) :
    1 - cA ≤ cL ^ 2 * (1 - cB) ∧ cH ^ 2 * (1 - cB) ≤ 1 - cA := by
  have hl0' : (0 : ℝ) ≤ (l1 : ℝ) := by exact_mod_cast hl0
  have hb' : (0 : ℝ) < 1 - (b2 : ℝ) := by exact_mod_cast hb
  have hlow' : 1 - (a1 : ℝ) ≤ (l1 : ℝ) ^ 2 * (1 - (b2 : ℝ)) := by rw [sq]; exact_mod_cast hlow
  have hupp' : (h2 : ℝ) ^ 2 * (1 - (b1 : ℝ)) ≤ 1 - (a2 : ℝ) := by rw [sq]; exact_mod_cast hupp
  have hB : 1 - (b2 : ℝ) ≤ 1 - cB := sub_le_sub_left hb2 1
  exact ⟨le_trans (sub_le_sub_left ha1 1) (le_trans hlow'
      (mul_le_mul (pow_le_pow_left₀ hl0' hl 2) hB hb'.le (sq_nonneg _))),
    le_trans (mul_le_mul (pow_le_pow_left₀ hH0 hh 2) (sub_le_sub_left hb1 1) (le_trans hb'.le hB)
      (sq_nonneg _)) (le_trans hupp' (sub_le_sub_left ha2 1))⟩

/-- 26-digit enclosure of `cos (π/30)` -/
def cosA_lo : ℚ := 99452189536827333692266631 / 100000000000000000000000000
def cosA_hi : ℚ := 99452189536827333692270116 / 100000000000000000000000000

theorem cosA_bounds : ((cosA_lo : ℚ) : ℝ) ≤ cos (π / 30) ∧ cos (π / 30) ≤ ((cosA_hi : ℚ) : ℝ) := by
  have h : cosA_lo ≤ cosLower (1 / 30 * piHi) ∧ cosUpper (1 / 30 * piLo) ≤ cosA_hi := by
    decide +kernel
  have h1 := cosLower_pi_le (1 / 30) (by norm_num) (by unfold piHi; norm_num)
  have h2 := le_cosUpper_pi (1 / 30) (by norm_num) (by unfold piHi; norm_num)
  have e : (((1 / 30 : ℚ)) : ℝ) * π = π / 30 := by push_cast; ring
  rw [e] at h1 h2
  exact ⟨le_trans (by exact_mod_cast h.1) h1, le_trans h2 (by exact_mod_cast h.2)⟩

/-- Boolean certificate for one row `(n, lo, hi)`, exact rational arithmetic; 12 / 13 terms of the
    cosine series are enough for the 12 decimals of the table -/
def rowCert (r : ℕ × ℕ × ℕ) : Bool :=
  let qn : ℚ := 2 / (r.1 : ℚ)
  let qL : ℚ := (r.2.1 : ℚ) / 180000000000000
  let qH : ℚ := (r.2.2 : ℚ) / 180000000000000
  let b1 : ℚ := cosQ 12 (qn * piHi)
  let b2 : ℚ := cosQ 13 (qn * piLo)
  let cL : ℚ := cosQ 12 (qL * piHi)
  let cH : ℚ := cosQ 13 (qH * piLo)
  decide (0 < r.1) && decide (qn * piHi ≤ 3) && decide (qL * piHi ≤ 3) && decide (qH ≤ 1 / 2) &&
    decide (0 ≤ cL) && decide (0 < 1 - b2) && decide (1 - cosA_lo ≤ cL * cL * (1 - b2)) &&
    decide (cH * cH * (1 - b1) ≤ 1 - cosA_hi)

theorem le_one_of_mul_piHi_le {q : ℚ} (h : q * piHi ≤ 3) : q ≤ 1 := by
  unfold piHi at h; linarith

theorem mul_piHi_le_of_le_half {q : ℚ} (h : q ≤ 1 / 2) : q * piHi ≤ 3 := by
  unfold piHi; linarith

theorem rowCert_sound (r : ℕ × ℕ × ℕ) (h : rowCert r = true) :
    (r.2.1 : ℝ) ≤ theta r.1 * 10 ^ 12 ∧ theta r.1 * 10 ^ 12 ≤ (r.2.2 : ℝ) := by
  obtain ⟨n, lo, hi⟩ := r
  simp only [rowCert, Bool.and_eq_true, decide_eq_true_eq] at h
  obtain ⟨⟨⟨⟨⟨⟨⟨_, hqn3⟩, hqL3⟩, hqH⟩, hcL⟩, hb⟩, hlow⟩, hupp⟩ := h
  have hπ := pi_pos
  have hqn0 : (0 : ℚ) ≤ 2 / (n : ℚ) := by positivity
  have hqL0 : (0 : ℚ) ≤ (lo : ℚ) / 180000000000000 := by positivity
  have hqH0 : (0 : ℚ) ≤ (hi : ℚ) / 180000000000000 := by positivity
  have hb1 := cosQ_even_pi_le 5 _ hqn0 hqn3
  have hb2 := le_cosQ_odd_pi 6 _ hqn0 hqn3
  have eB : ((2 / (n : ℚ) : ℚ) : ℝ) * π = 2 * π / (n : ℝ) := by push_cast; ring
  rw [eB] at hb1 hb2
  have hl := cosQ_even_pi_le 5 _ hqL0 hqL3
  have hh := le_cosQ_odd_pi 6 _ hqH0 (mul_piHi_le_of_le_half hqH)
  -- `hi·10⁻¹²° ≤ 90°`, where the cosine is still non-negative
  have hH0 : 0 ≤ cos ((((hi : ℚ) / 180000000000000 : ℚ) : ℝ) * π) := by
    apply cos_nonneg_of_neg_pi_div_two_le_of_le
    · exact le_trans (neg_nonpos.mpr (div_nonneg hπ.le zero_le_two))
        (mul_nonneg (Rat.cast_nonneg.mpr hqH0) hπ.le)
    · calc _ ≤ ((1 / 2 : ℚ) : ℝ) * π := mul_le_mul_of_nonneg_right (Rat.cast_le.mpr hqH) hπ.le
        _ = π / 2 := by push_cast; ring
  obtain ⟨h1, h2⟩ := reduction_of_enclosures cosA_bounds.1 cosA_bounds.2 hb1 hb2 hl hh hH0 hcL hb
    hlow hupp
  obtain ⟨hlo, hhi⟩ := theta_enclosed n _ _ hqL0 (le_one_of_mul_piHi_le hqL3) hqH0
    (le_trans hqH (by norm_num)) (lt_of_lt_of_le (by exact_mod_cast hb) (sub_le_sub_left hb2 1))
    (le_trans (by exact_mod_cast hcL) hl) h1 h2
  have e : ∀ k : ℕ, (k : ℝ) = 180 * (((k : ℚ) / 180000000000000 : ℚ) : ℝ) * 10 ^ 12 := fun k => by
    push_cast; ring
  show (lo : ℝ) ≤ theta n * 10 ^ 12 ∧ theta n * 10 ^ 12 ≤ (hi : ℝ)
  rw [e lo, e hi]
  exact ⟨mul_le_mul_of_nonneg_right hlo (by positivity), mul_le_mul_of_nonneg_right hhi (by positivity)⟩

end PyModeS.NL
