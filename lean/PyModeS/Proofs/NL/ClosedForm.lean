/-
  The closed form coded in `py_common.cprNL`,
    `⌊ 2π / arccos(1 − (1 − cos(π/(2·15))) / cos²(π/180·|lat|)) ⌋`,
  over the reals, versus the transition latitudes `theta`.

  For `0 < |lat| < 87`:   closed form = n   ⇔   theta (n+1) < |lat| ≤ theta n      (2 ≤ n ≤ 59)
  (note the closed end: AT a transition latitude the exact closed form still gives the larger
  value `n`, whereas the DO-260B table / `nlStair` switch to `n − 1` there.  The transition
  latitudes are not CPR grid points, see `grid_avoids_transitions_8069`.)
-/
import PyModeS.Proofs.NL.ThetaMono

namespace PyModeS.NL

open Real

/-- the closed form of `py_common.cprNL` (after its three short-cuts), over ℝ -/
noncomputable def nlClosed (lat : ℝ) : ℤ :=
  ⌊2 * π / arccos (1 - (1 - cos (π / (2 * 15))) / cos (π / 180 * |lat|) ^ 2)⌋

theorem arccos_le_iff_cos_le {u t : ℝ} (hu : u ∈ Set.Icc (-1 : ℝ) 1) (ht0 : 0 ≤ t) (htpi : t ≤ π) :
    arccos u ≤ t ↔ cos t ≤ u := by
  have hc : cos t ∈ Set.Icc (-1 : ℝ) 1 := ⟨neg_one_le_cos t, cos_le_one t⟩
  have := strictAntiOn_arccos.le_iff_ge hu hc
  rw [arccos_cos ht0 htpi] at this
  exact this

/-- facts about `c = cos(π/180·x)` for `0 < x < 87` -/
theorem cos_lat_facts (x : ℝ) (hx0 : 0 < x) (hx87 : x < 87) :
    0 < π / 180 * x ∧ π / 180 * x < π / 2 ∧ sin (π / 60) < cos (π / 180 * x) := by
  have hpi := pi_pos
  have h1 : 0 < π / 180 * x := mul_pos (by positivity) hx0
  have h2 : π / 180 * x < π / 2 - π / 60 :=
    lt_of_lt_of_eq (mul_lt_mul_of_pos_left hx87 (by positivity)) (by ring)
  refine ⟨h1, by linarith, ?_⟩
  rw [← cos_pi_div_two_sub]
  exact cos_lt_cos_of_nonneg_of_le_pi h1.le (by linarith) h2

/-- the argument of the outer `arccos` lies in `[-1, 1)` -/
theorem arg_range (x : ℝ) (hx0 : 0 < x) (hx87 : x < 87) :
    (1 - (1 - cos (π / 30)) / cos (π / 180 * x) ^ 2) ∈ Set.Icc (-1 : ℝ) 1 ∧
      (1 - (1 - cos (π / 30)) / cos (π / 180 * x) ^ 2) < 1 := by
  obtain ⟨_, _, hc⟩ := cos_lat_facts x hx0 hx87
  have hs := sin_pi60_pos
  have hc2 : 0 < cos (π / 180 * x) ^ 2 := pow_pos (lt_trans hs hc) 2
  have hq : 0 < (1 - cos (π / 30)) / cos (π / 180 * x) ^ 2 := div_pos A_pos hc2
  have hq2 : (1 - cos (π / 30)) / cos (π / 180 * x) ^ 2 ≤ 2 := by
    rw [div_le_iff₀ hc2, A_eq]
    exact mul_le_mul_of_nonneg_left (pow_le_pow_left₀ hs.le hc.le 2) (by norm_num)
  generalize (1 - cos (π / 30)) / cos (π / 180 * x) ^ 2 = q at hq hq2
  exact ⟨⟨by linarith, by linarith⟩, by linarith⟩

theorem le_arccos_iff_le_cos {u t : ℝ} (hu : u ∈ Set.Icc (-1 : ℝ) 1) (ht0 : 0 ≤ t) (htpi : t ≤ π) :
    t ≤ arccos u ↔ u ≤ cos t := by
  have hc : cos t ∈ Set.Icc (-1 : ℝ) 1 := ⟨neg_one_le_cos t, cos_le_one t⟩
  have := strictAntiOn_arccos.le_iff_ge hc hu
  rw [arccos_cos ht0 htpi] at this
  exact this

/-- degrees against radians -/
theorem le_deg_iff (x a : ℝ) : x ≤ 180 / π * a ↔ π / 180 * x ≤ a := by
  have h : π / 180 * (180 / π) = 1 := by
    rw [div_mul_div_comm, mul_comm, div_self (mul_ne_zero (by norm_num) pi_ne_zero)]
  rw [← mul_le_mul_iff_right₀ (show 0 < π / 180 by positivity), ← mul_assoc, h, one_mul]

/-- the outer `arccos` is at most `2π/k` exactly up to the transition latitude `theta k`: both
    sides say `A ≤ c²·B` with `A = 1 − cos(π/30)`, `B = 1 − cos(2π/k)`, `c = cos(π/180·x)` -/
theorem arccos_le_iff_le_theta (x : ℝ) (hx0 : 0 < x) (hx87 : x < 87) (k : ℕ) (hk : 2 ≤ k)
    (hk' : k ≤ 60) :
    arccos (1 - (1 - cos (π / 30)) / cos (π / 180 * x) ^ 2) ≤ 2 * π / (k : ℝ) ↔ x ≤ theta k := by
  obtain ⟨hφ0, hφ2, hc⟩ := cos_lat_facts x hx0 hx87
  obtain ⟨hu, _⟩ := arg_range x hx0 hx87
  obtain ⟨ha0, hapi⟩ := angle_range k hk
  have hc0 : 0 < cos (π / 180 * x) := lt_trans sin_pi60_pos hc
  obtain ⟨_, hr1⟩ := ratio_range k hk hk'
  have hB : 0 < 1 - cos (2 * π / (k : ℝ)) := lt_of_lt_of_le A_pos (A_le_B k hk hk')
  have hsq : sqrt ((1 - cos (π / 30)) / (1 - cos (2 * π / (k : ℝ)))) ∈ Set.Icc (-1 : ℝ) 1 :=
    ⟨le_trans (by norm_num) (sqrt_nonneg _), sqrt_le_one.mpr hr1⟩
  rw [arccos_le_iff_cos_le hu ha0.le hapi, le_sub_comm, div_le_iff₀ (pow_pos hc0 2), theta,
    le_deg_iff, le_arccos_iff_le_cos hsq hφ0.le (by linarith [pi_pos]), sqrt_le_left hc0.le,
    div_le_iff₀ hB, mul_comm]

/-- **closed_form_eq_staircase** (exact real arithmetic): for `0 < |lat| < 87` and `2 ≤ n ≤ 59`
    the closed form is `n` exactly on `theta (n+1) < |lat| ≤ theta n`  (`theta 60 = 0`) -/
theorem closed_form_eq_staircase (lat : ℝ) (n : ℕ) (hn : 2 ≤ n) (hn' : n ≤ 59)
    (h0 : 0 < |lat|) (h87 : |lat| < 87) :
    nlClosed lat = (n : ℤ) ↔ theta (n + 1) < |lat| ∧ |lat| ≤ theta n := by
  have e15 : π / (2 * 15) = π / 30 := by ring
  unfold nlClosed
  rw [e15]
  obtain ⟨_, hu1⟩ := arg_range |lat| h0 h87
  set g := arccos (1 - (1 - cos (π / 30)) / cos (π / 180 * |lat|) ^ 2) with hg
  have hg0 : 0 < g := arccos_pos.mpr hu1
  have k1 := arccos_le_iff_le_theta |lat| h0 h87 n hn (by omega)
  have k2 := arccos_le_iff_le_theta |lat| h0 h87 (n + 1) (by omega) (by omega)
  rw [← hg] at k1 k2
  have hn0 : (0 : ℝ) < (n : ℝ) := by exact_mod_cast (by omega : 0 < n)
  have hn1 : (0 : ℝ) < ((n + 1 : ℕ) : ℝ) := by positivity
  rw [Int.floor_eq_iff, Int.cast_natCast, ← Nat.cast_succ, and_comm]
  refine and_congr ?_ ?_
  · rw [show theta (n + 1) < |lat| ↔ ¬ |lat| ≤ theta (n + 1) from not_le.symm, ← k2, not_le,
      div_lt_iff₀ hg0, div_lt_iff₀' hn1]
  · rw [← k1, le_div_iff₀ hg0, le_div_iff₀' hn0]

/-- the closed form takes values in `2 … 59` on `0 < |lat| < 87` -/
theorem nlClosed_range (lat : ℝ) (h0 : 0 < |lat|) (h87 : |lat| < 87) :
    ∃ n : ℕ, 2 ≤ n ∧ n ≤ 59 ∧ nlClosed lat = (n : ℤ) := by
  have h2 : |lat| ≤ theta 2 := by rw [theta_two]; exact h87.le
  have h60 : ¬ |lat| ≤ theta 60 := by rw [theta_sixty]; exact not_le.mpr h0
  -- walk up from k = 2 until the first k with theta (k+1) < |lat|
  have key : ∀ d : ℕ, |lat| ≤ theta (2 + d) ∨
      ∃ n : ℕ, 2 ≤ n ∧ n < 2 + d ∧ theta (n + 1) < |lat| ∧ |lat| ≤ theta n := by
    intro d
    induction d with
    | zero => exact Or.inl h2
    | succ d ih =>
      rcases ih with h | ⟨n, hn2, hnd, hlt, hle⟩
      · by_cases hnext : |lat| ≤ theta (2 + (d + 1))
        · exact Or.inl hnext
        · exact Or.inr ⟨2 + d, by omega, by omega, not_le.mp hnext, h⟩
      · exact Or.inr ⟨n, hn2, by omega, hlt, hle⟩
  rcases key 58 with h | ⟨n, hn2, hnd, hlt, hle⟩
  · exact absurd h h60
  · exact ⟨n, hn2, by omega,
      (closed_form_eq_staircase lat n hn2 (by omega) h0 h87).mpr ⟨hlt, hle⟩⟩

end PyModeS.NL
