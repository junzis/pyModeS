/-
  The four CPR latitude grids never come close to an NL transition latitude.

  A CPR latitude (what an encoder can carry, what a decoder can output) is an integer multiple of
  `Dlat / 2^17` with `Dlat ∈ {6, 360/59, 3/2, 90/59}`.  In units of `10⁻¹²° / (59·2¹⁸)` the grid
  point number `a` is the integer `a · c · 10¹²` with `c = 2·59·Dlat ∈ {708, 720, 177, 180}` and
  an enclosure end `lo` is `lo · 59·2¹⁸`; the certificate is evaluated in ℕ by the kernel and
  lifted to every grid index by monotonicity of `a ↦ a·C`.
-/
import PyModeS.Proofs.CPR.NL

namespace PyModeS.NL

/-- the four latitude grids of CPR -/
inductive LatGrid
  | airEven | airOdd | surfEven | surfOdd
  deriving DecidableEq, Repr

/-- latitude zone size `Dlat` (degrees) -/
def LatGrid.dLat : LatGrid → ℚ
  | .airEven => 6
  | .airOdd => 360 / 59
  | .surfEven => 3 / 2
  | .surfOdd => 90 / 59

/-- `2 · 59 · Dlat` -/
def LatGrid.c : LatGrid → ℕ
  | .airEven => 708
  | .airOdd => 720
  | .surfEven => 177
  | .surfOdd => 180

/-- grid step in units of `10⁻¹²° / (59·2¹⁸)` -/
def LatGrid.C (g : LatGrid) : ℕ := g.c * 1000000000000

/-- common denominator `59 · 2¹⁸` -/
def KK : ℕ := 15466496

/-- the grid latitude number `m`: `m · Dlat / 2¹⁷` -/
def gridLat (g : LatGrid) (m : ℤ) : ℚ := g.dLat * (m : ℚ) / 131072

theorem dLat_eq (g : LatGrid) : g.dLat = (g.c : ℚ) / 118 := by
  cases g <;> norm_num [LatGrid.dLat, LatGrid.c]

/-- `Dlat · (k + y / 2¹⁷)` (zone index `k`, 17-bit field `y`) is the grid latitude number
    `k · 2¹⁷ + y`; conversely every grid index is of this form with `0 ≤ y < 2¹⁷`. -/
theorem gridLat_zone (g : LatGrid) (k y : ℤ) :
    g.dLat * ((k : ℚ) + (y : ℚ) / 131072) = gridLat g (k * 131072 + y) := by
  unfold gridLat; push_cast; ring

theorem gridLat_zone' (g : LatGrid) (m : ℤ) :
    gridLat g m = g.dLat * (((m / 131072 : ℤ) : ℚ) + ((m % 131072 : ℤ) : ℚ) / 131072) ∧
      0 ≤ m % 131072 ∧ m % 131072 < 131072 := by
  refine ⟨?_, Int.emod_nonneg _ (by norm_num), Int.emod_lt_of_pos _ (by norm_num)⟩
  rw [gridLat_zone]
  congr 1
  have := Int.emod_add_mul_ediv m 131072
  linarith

theorem gridLat_neg (g : LatGrid) (m : ℤ) : gridLat g (-m) = -gridLat g m := by
  unfold gridLat; push_cast; ring

theorem dLat_pos (g : LatGrid) : 0 < g.dLat := by
  cases g <;> norm_num [LatGrid.dLat]

/-- `|grid latitude| · 10¹²` as a quotient of naturals -/
theorem abs_gridLat_scaled (g : LatGrid) (m : ℤ) :
    |gridLat g m| * 1000000000000 = ((m.natAbs * g.C : ℕ) : ℚ) / (KK : ℚ) := by
  unfold gridLat
  rw [abs_div, abs_mul, abs_of_pos (dLat_pos g), abs_of_pos (by norm_num : (0 : ℚ) < 131072),
    dLat_eq]
  have h : |(m : ℚ)| = ((m.natAbs : ℕ) : ℚ) := by
    rw [Nat.cast_natAbs, Int.cast_abs]
  rw [h]
  unfold LatGrid.C KK
  push_cast
  ring

/-! ### the Boolean certificate over ℕ -/

/-- row `(n, lo, hi)`: with `m0 = ⌊lo·K / C⌋`, grid point `m0` is more than `margin` below `lo`
    and grid point `m0 + 1` more than `margin` above `hi` -/
def rowOK (margin C K : ℕ) (r : ℕ × ℕ × ℕ) : Bool :=
  let m0 := r.2.1 * K / C
  decide (m0 * C + margin * K < r.2.1 * K) && decide ((r.2.2 + margin) * K < (m0 + 1) * C)

theorem rowOK_sound (margin C K : ℕ) (r : ℕ × ℕ × ℕ) (h : rowOK margin C K r = true) (a : ℕ) :
    a * C + margin * K < r.2.1 * K ∨ (r.2.2 + margin) * K < a * C := by
  simp only [rowOK, Bool.and_eq_true, decide_eq_true_eq] at h
  obtain ⟨h1, h2⟩ := h
  by_cases ha : a ≤ r.2.1 * K / C
  · left
    have := Nat.mul_le_mul_right C ha
    omega
  · right
    have ha' : r.2.1 * K / C + 1 ≤ a := by omega
    have := Nat.mul_le_mul_right C ha'
    omega

/-- a value `T` that the grid may hit exactly: either it is not hit and the two neighbours are
    more than `margin` away, or it is hit and the grid step exceeds `margin` -/
def hitOK (margin C K T : ℕ) : Bool :=
  if (T * K / C) * C = T * K then decide (margin * K < C) else rowOK margin C K (0, T, T)

theorem hitOK_sound (margin C K T : ℕ) (h : hitOK margin C K T = true) (a : ℕ) :
    a * C = T * K ∨ a * C + margin * K < T * K ∨ (T + margin) * K < a * C := by
  unfold hitOK at h
  split_ifs at h with h0
  · simp only [decide_eq_true_eq] at h
    rcases Nat.lt_trichotomy a (T * K / C) with hlt | heq | hgt
    · right; left
      have h1 : a + 1 ≤ T * K / C := hlt
      have h2 := Nat.mul_le_mul_right C h1
      have h3 : (a + 1) * C = a * C + C := by ring
      omega
    · left; rw [heq]; exact h0
    · right; right
      have h1 : T * K / C + 1 ≤ a := hgt
      have h2 := Nat.mul_le_mul_right C h1
      have h3 : (T * K / C + 1) * C = T * K / C * C + C := by ring
      have h4 : (T + margin) * K = T * K + margin * K := by ring
      omega
  · right
    exact rowOK_sound margin C K (0, T, T) h a

/-- rows with `n ≥ 3` (θ₂ = 87 is treated separately: the even grids contain 87) -/
def rows3 : List (ℕ × ℕ × ℕ) := Spec.nlTable.filter (fun r => decide (3 ≤ r.1))

/-! the certificate on the four grids, with the sharpest integer margin: 8069 units of 10⁻¹²°
    (closest approach ≈ 8.0699e-9°, at θ₄₂ on the surface-odd grid) -/
theorem cert_airEven : rows3.all (rowOK 8069 LatGrid.airEven.C KK) = true := by decide +kernel
theorem cert_airOdd : rows3.all (rowOK 8069 LatGrid.airOdd.C KK) = true := by decide +kernel
theorem cert_surfEven : rows3.all (rowOK 8069 LatGrid.surfEven.C KK) = true := by decide +kernel
theorem cert_surfOdd : rows3.all (rowOK 8069 LatGrid.surfOdd.C KK) = true := by decide +kernel

theorem cert (g : LatGrid) : rows3.all (rowOK 8069 g.C KK) = true := by
  cases g
  · exact cert_airEven
  · exact cert_airOdd
  · exact cert_surfEven
  · exact cert_surfOdd

/-- 8069 is sharp: with 8070 the certificate fails at θ₄₂ on the surface-odd grid -/
theorem cert_sharp : rowOK 8070 LatGrid.surfOdd.C KK (42, 45546267226602, 45546267226603) = false := by
  decide +kernel

theorem cert87 (g : LatGrid) : hitOK 8069 g.C KK 87000000000000 = true := by
  cases g <;> decide +kernel

theorem tbl_lo_le_hi : ∀ r ∈ Spec.nlTable, r.2.1 ≤ r.2.2 := by decide +kernel

/-! ### lifting to ℚ -/

theorem scaled_lt (a C K margin lo : ℕ) (hK : 0 < K) (h : a * C + margin * K < lo * K) :
    ((a * C : ℕ) : ℚ) / (K : ℚ) < (lo : ℚ) - (margin : ℚ) := by
  have hK' : (0 : ℚ) < (K : ℚ) := by exact_mod_cast hK
  rw [div_lt_iff₀ hK']
  have : ((a * C + margin * K : ℕ) : ℚ) < ((lo * K : ℕ) : ℚ) := by exact_mod_cast h
  push_cast at this ⊢
  linarith

theorem scaled_gt (a C K margin hi : ℕ) (hK : 0 < K) (h : (hi + margin) * K < a * C) :
    (hi : ℚ) + (margin : ℚ) < ((a * C : ℕ) : ℚ) / (K : ℚ) := by
  have hK' : (0 : ℚ) < (K : ℚ) := by exact_mod_cast hK
  rw [lt_div_iff₀ hK']
  have : (((hi + margin) * K : ℕ) : ℚ) < ((a * C : ℕ) : ℚ) := by exact_mod_cast h
  push_cast at this ⊢
  linarith

/-- every latitude of every CPR grid stays more than
    8069·10⁻¹²° away from the enclosure `[lo, hi]·10⁻¹²°` of every transition latitude θ₃ … θ₅₉ -/
theorem grid_avoids_transitions_8069 (g : LatGrid) (m : ℤ) (r : ℕ × ℕ × ℕ)
    (hr : r ∈ Spec.nlTable) (h3 : 3 ≤ r.1) :
    |gridLat g m| * 10 ^ 12 < (r.2.1 : ℚ) - 8069 ∨ (r.2.2 : ℚ) + 8069 < |gridLat g m| * 10 ^ 12 := by
  have hmem : r ∈ rows3 := by
    unfold rows3; rw [List.mem_filter]; exact ⟨hr, by simpa using h3⟩
  have hc := List.all_eq_true.mp (cert g) r hmem
  rw [CPR.e12, abs_gridLat_scaled]
  rcases rowOK_sound 8069 g.C KK r hc m.natAbs with h | h
  · left; exact_mod_cast scaled_lt _ _ _ _ _ (by decide) h
  · right; exact_mod_cast scaled_gt _ _ _ _ _ (by decide) h

/-- the grids and 87°: a grid latitude is 87° exactly or more than 8069·10⁻¹²° away -/
theorem grid_avoids_87 (g : LatGrid) (m : ℤ) :
    |gridLat g m| = 87 ∨ |gridLat g m| * 10 ^ 12 < 87000000000000 - 8069 ∨
      87000000000000 + 8069 < |gridLat g m| * 10 ^ 12 := by
  rcases hitOK_sound 8069 g.C KK 87000000000000 (cert87 g) m.natAbs with h | h | h
  · left
    have h1 := abs_gridLat_scaled g m
    have h2 : ((m.natAbs * g.C : ℕ) : ℚ) = ((87000000000000 * KK : ℕ) : ℚ) := by exact_mod_cast h
    rw [h2] at h1
    have hK : ((KK : ℕ) : ℚ) ≠ 0 := by unfold KK; norm_num
    rw [Nat.cast_mul, mul_div_assoc, div_self hK] at h1
    push_cast at h1
    linarith
  · right; left
    rw [CPR.e12, abs_gridLat_scaled]
    exact_mod_cast scaled_lt _ _ _ 8069 87000000000000 (by decide) h
  · right; right
    rw [CPR.e12, abs_gridLat_scaled]
    exact_mod_cast scaled_gt _ _ _ 8069 87000000000000 (by decide) h

/-- a grid whose step does not divide `87·10¹²·KK` never hits 87° -/
theorem gridLat_ne_87 (g : LatGrid) (hg : (87 * 1000000000000 * KK) % g.C ≠ 0) (m : ℤ) :
    |gridLat g m| ≠ 87 := by
  intro h
  have h1 := abs_gridLat_scaled g m
  rw [h] at h1
  have hK : ((KK : ℕ) : ℚ) ≠ 0 := by unfold KK; norm_num
  rw [eq_div_iff hK] at h1
  have h2 : (87 * 1000000000000 * KK : ℕ) = m.natAbs * g.C := by exact_mod_cast h1
  exact hg (by rw [h2]; exact Nat.mul_mod_left _ _)

/-! ### stability of the staircase -/

/-- core of the robustness statement: `x ≥ 0`-free formulation on an abstract point `x` that
    avoids every enclosure and 87 by more than `ε·10¹²` -/
theorem nlStair_stable (x y ε : ℚ) (hxy : |x - y| ≤ ε)
    (h87 : x * 1000000000000 < 87000000000000 - ε * 1000000000000 ∨
      87000000000000 + ε * 1000000000000 < x * 1000000000000)
    (hrows : ∀ r ∈ Spec.nlTable, 3 ≤ r.1 →
      x * 1000000000000 < (r.2.1 : ℚ) - ε * 1000000000000 ∨
        (r.2.2 : ℚ) + ε * 1000000000000 < x * 1000000000000) :
    nlStair x = nlStair y := by
  rw [abs_le] at hxy
  obtain ⟨hl, hu⟩ := hxy
  have hε : 0 ≤ ε := by linarith only [hl, hu]
  -- `x` and `y` lie on the same side of every value `t` that `x` avoids by more than `ε`
  have side : ∀ t : ℚ, x * 1000000000000 < t - ε * 1000000000000 ∨
      t + ε * 1000000000000 < x * 1000000000000 →
      (x * 1000000000000 < t ↔ y * 1000000000000 < t) := by
    rintro t (h | h)
    · exact ⟨fun _ => by linarith only [h, hl], fun _ => by linarith only [h, hε]⟩
    · exact ⟨fun h' => by linarith only [h, h', hε], fun h' => by linarith only [h, h', hu]⟩
  apply CPR.nlStairAux_congr
  · rcases h87 with h | h
    · exact ⟨fun _ => by linarith only [h, hl], fun _ => by linarith only [h, hε]⟩
    · exact ⟨fun h' => by linarith only [h, h', hε], fun h' => by linarith only [h, h', hu]⟩
  · intro r hr
    rcases CPR.tbl_row_cases r hr with h3 | h2
    · rcases hrows r hr h3 with h | h
      · exact side _ (Or.inl (by linarith only [h]))
      · have hle : (r.2.1 : ℚ) ≤ (r.2.2 : ℚ) := by exact_mod_cast tbl_lo_le_hi r hr
        exact side _ (Or.inr (by linarith only [h, hle]))
    · subst h2
      exact_mod_cast side 87000000000000 h87

end PyModeS.NL
