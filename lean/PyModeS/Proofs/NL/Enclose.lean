/-
  Every row of the committed table `Spec.nlTable` encloses the DO-260B transition
  latitude: `lo ≤ theta n · 10¹² ≤ hi`.  Rows n = 59 … 3 by the rational certificate `rowCert`
  (exact ℚ arithmetic, checked by the kernel), row n = 2 by `theta 2 = 87`.
-/
import PyModeS.Proofs.NL.ThetaMono
import PyModeS.Proofs.CPR.NL

namespace PyModeS.NL

/-- the 57 rows `n = 59 … 3` all pass the certificate -/
theorem cert_rows : (Spec.nlTable.filter (fun r => decide (3 ≤ r.1))).all rowCert = true := by
  decide +kernel

theorem nlTable_encloses_ge3 : ∀ row ∈ Spec.nlTable, row.1 ≥ 3 →
    (row.2.1 : ℝ) ≤ theta row.1 * 10 ^ 12 ∧ theta row.1 * 10 ^ 12 ≤ (row.2.2 : ℝ) := by
  intro row hrow h3
  apply rowCert_sound
  apply List.all_eq_true.mp cert_rows row
  rw [List.mem_filter]
  exact ⟨hrow, by simpa using h3⟩

/-- all 58 rows, `n = 2` included -/
theorem nlTable_encloses_all : ∀ row ∈ Spec.nlTable,
    (row.2.1 : ℝ) ≤ theta row.1 * 10 ^ 12 ∧ theta row.1 * 10 ^ 12 ≤ (row.2.2 : ℝ) := by
  intro row hrow
  rcases CPR.tbl_row_cases row hrow with h3 | h2
  · exact nlTable_encloses_ge3 row hrow h3
  · subst h2
    simp only [theta_two]
    norm_num

end PyModeS.NL
