/-
  Qualitative facts about `theta`: `theta 2 = 87` exactly, `theta 60 = 0`, and
  `theta` is strictly decreasing on `2 ≤ n ≤ 60`.
-/
import PyModeS.Proofs.NL.Theta

namespace PyModeS.NL

open Real

/-- `A = 1 − cos(π/30) = 2 sin²(π/60)` -/
theorem A_eq : 1 - cos (π / 30) = 2 * sin (π / 60) ^ 2 := by
  rw [sin_sq_eq_half_sub]
  have : 2 * (π / 60) = π / 30 := by ring
  rw [this]; ring

theorem sin_pi60_pos : 0 < sin (π / 60) :=
  sin_pos_of_pos_of_lt_pi (by positivity) (by linarith [pi_pos])

theorem A_pos : 0 < 1 - cos (π / 30) := by
  rw [A_eq]; have := sin_pi60_pos; positivity

/-- for `n ≥ 2` the angle `2π/n` lies in `(0, π]` -/
theorem angle_range (n : ℕ) (hn : 2 ≤ n) : 0 < 2 * π / (n : ℝ) ∧ 2 * π / (n : ℝ) ≤ π := by
  have h2 : (2 : ℝ) ≤ (n : ℝ) := by exact_mod_cast hn
  have hn0 : (0 : ℝ) < (n : ℝ) := by linarith
  refine ⟨by positivity, ?_⟩
  rw [div_le_iff₀ hn0, mul_comm]
  exact mul_le_mul_of_nonneg_left h2 pi_pos.le

/-- `m < n` gives `2π/n < 2π/m` -/
theorem angle_lt (m n : ℕ) (hm : 2 ≤ m) (hmn : m < n) :
    2 * π / (n : ℝ) < 2 * π / (m : ℝ) := by
  have h2 : (2 : ℝ) ≤ (m : ℝ) := by exact_mod_cast hm
  have hm0 : (0 : ℝ) < (m : ℝ) := by linarith
  have hlt : (m : ℝ) < (n : ℝ) := by exact_mod_cast hmn
  exact div_lt_div_of_pos_left (by positivity) hm0 hlt

/-- `B_n = 1 − cos(2π/n) ≥ A` for `2 ≤ n ≤ 60` -/
theorem A_le_B (n : ℕ) (hn : 2 ≤ n) (hn' : n ≤ 60) :
    1 - cos (π / 30) ≤ 1 - cos (2 * π / (n : ℝ)) := by
  have h2 : (2 : ℝ) ≤ (n : ℝ) := by exact_mod_cast hn
  have hn0 : (0 : ℝ) < (n : ℝ) := by linarith
  have h60 : (n : ℝ) ≤ 60 := by exact_mod_cast hn'
  have hle : π / 30 ≤ 2 * π / (n : ℝ) := by
    rw [le_div_iff₀ hn0]
    exact le_of_le_of_eq (mul_le_mul_of_nonneg_left h60 (by positivity)) (by ring)
  have := cos_le_cos_of_nonneg_of_le_pi (by positivity) (angle_range n hn).2 hle
  linarith

theorem B_strictAnti (m n : ℕ) (hm : 2 ≤ m) (hmn : m < n) :
    1 - cos (2 * π / (n : ℝ)) < 1 - cos (2 * π / (m : ℝ)) := by
  have hn : 2 ≤ n := by omega
  have := cos_lt_cos_of_nonneg_of_le_pi (angle_range n hn).1.le (angle_range m hm).2
    (angle_lt m n hm hmn)
  linarith

/-- **θ₂ = 87° exactly** -/
theorem theta_two : theta 2 = 87 := by
  unfold theta
  have h1 : (2 : ℝ) * π / ((2 : ℕ) : ℝ) = π := by push_cast; field_simp
  rw [h1, cos_pi, A_eq]
  have h2 : 2 * sin (π / 60) ^ 2 / (1 - -1) = sin (π / 60) ^ 2 := by ring
  rw [h2, sqrt_sq sin_pi60_pos.le, ← cos_pi_div_two_sub,
    arccos_cos (by linarith [pi_pos]) (by linarith [pi_pos]),
    show π / 2 - π / 60 = π * (29 / 60) by ring, ← mul_assoc, div_mul_cancel₀ _ pi_ne_zero]
  norm_num

/-- at `n = 60` the quotient is 1 and the transition latitude degenerates to 0 (the equator) -/
theorem theta_sixty : theta 60 = 0 := by
  unfold theta
  have h1 : (2 : ℝ) * π / ((60 : ℕ) : ℝ) = π / 30 := by push_cast; ring
  rw [h1, div_self (ne_of_gt A_pos), sqrt_one, arccos_one, mul_zero]

/-- the quotient under the root lies in `(0, 1]` for `2 ≤ n ≤ 60` -/
theorem ratio_range (n : ℕ) (hn : 2 ≤ n) (hn' : n ≤ 60) :
    0 < (1 - cos (π / 30)) / (1 - cos (2 * π / (n : ℝ))) ∧
      (1 - cos (π / 30)) / (1 - cos (2 * π / (n : ℝ))) ≤ 1 := by
  have hAB := A_le_B n hn hn'
  have hB : 0 < 1 - cos (2 * π / (n : ℝ)) := lt_of_lt_of_le A_pos hAB
  exact ⟨div_pos A_pos hB, (div_le_one hB).mpr hAB⟩

/-- **θ is strictly decreasing** on `2 ≤ m < n ≤ 60` -/
theorem theta_strictAnti (m n : ℕ) (hm : 2 ≤ m) (hmn : m < n) (hn : n ≤ 60) :
    theta n < theta m := by
  have hn2 : 2 ≤ n := by omega
  have hm60 : m ≤ 60 := by omega
  obtain ⟨hrm0, hrm1⟩ := ratio_range m hm hm60
  obtain ⟨hrn0, hrn1⟩ := ratio_range n hn2 hn
  have hBn : 0 < 1 - cos (2 * π / (n : ℝ)) := lt_of_lt_of_le A_pos (A_le_B n hn2 hn)
  have hlt : (1 - cos (π / 30)) / (1 - cos (2 * π / (m : ℝ))) <
      (1 - cos (π / 30)) / (1 - cos (2 * π / (n : ℝ))) :=
    div_lt_div_of_pos_left A_pos hBn (B_strictAnti m n hm hmn)
  have hs := sqrt_lt_sqrt hrm0.le hlt
  have hsm : sqrt ((1 - cos (π / 30)) / (1 - cos (2 * π / (m : ℝ)))) ∈ Set.Icc (-1 : ℝ) 1 :=
    ⟨le_trans (by norm_num) (sqrt_nonneg _), sqrt_le_one.mpr hrm1⟩
  have hsn : sqrt ((1 - cos (π / 30)) / (1 - cos (2 * π / (n : ℝ)))) ∈ Set.Icc (-1 : ℝ) 1 :=
    ⟨le_trans (by norm_num) (sqrt_nonneg _), sqrt_le_one.mpr hrn1⟩
  have ha := strictAntiOn_arccos hsm hsn hs
  unfold theta
  exact mul_lt_mul_of_pos_left ha (by positivity)

end PyModeS.NL
