/-
  Proofs/NL: the table staircase `nlStair` of the model agrees with the closed form coded in
  `py_common.cprNL`, taken over ℝ, on every latitude CPR can carry.  (Proofs/CPR/NL.lean is the other
  half: what `nlStair` computes, by list induction on the table, with no real number in it.)

  The argument, and where each step is:
  * `theta n`, the DO-260B transition latitudes, and a rational certificate `rowCert` implying
    `lo ≤ theta n · 10¹² ≤ hi` (Theta.lean), resting on Taylor bounds for `cos` on `x ≥ 0`
    (CosTaylor.lean) evaluated in ℚ at rational multiples of enclosures of π (CosQ.lean);
  * `theta 2 = 87`, `theta 60 = 0`, `theta` strictly decreasing (ThetaMono.lean);
  * every row `(n, lo, hi)` of `Spec.nlTable` encloses `theta n`: kernel evaluation of `rowCert` on
    rows 59 … 3, `theta 2 = 87` for the last (Enclose.lean);
  * over ℝ the closed form is `n` exactly on `theta (n+1) < |lat| ≤ theta n` (ClosedForm.lean);
  * the four CPR latitude grids stay more than 8069·10⁻¹²° away from every `[lo, hi]`, by an integer
    certificate, and `nlStair` is constant across such a gap (Grid.lean);
  * this file: where a real `y` and a rational `x` lie on the same side of every `[lo, hi]`, the
    closed form at `y` equals `nlStair x`; in particular on, and within 8.069e-9° of, every grid
    latitude.
-/
import PyModeS.Proofs.NL.Grid
import PyModeS.Proofs.NL.Enclose
import PyModeS.Proofs.NL.ClosedForm

namespace PyModeS.NL

open Real

/-- row `i` of the table has zone number `59 − i` -/
theorem tbl_row_index : ∀ i, i < 58 → ∃ r, Spec.nlTable[i]? = some r ∧ r.1 = 59 - i := by
  have h : (List.range 58).all (fun i =>
      match Spec.nlTable[i]? with
      | some r => r.1 == 59 - i
      | none => false) = true := by decide +kernel
  intro i hi
  have := List.all_eq_true.mp h i (List.mem_range.mpr hi)
  split at this
  · rename_i r hr
    exact ⟨r, hr, by simpa using this⟩
  · exact absurd this (by simp)

/-- the row with zone number `n` -/
theorem tbl_row_of_zone (n : ℕ) (hn : 2 ≤ n) (hn' : n ≤ 59) :
    ∃ r, Spec.nlTable[59 - n]? = some r ∧ r.1 = n ∧ r ∈ Spec.nlTable := by
  obtain ⟨r, hr, h1⟩ := tbl_row_index (59 - n) (by omega)
  exact ⟨r, hr, by omega, List.mem_of_getElem? hr⟩

/-- **closed form = staircase** whenever `|y|` (real) and `x` (rational, `x ≤ 87`) are on the same
    side of every enclosure of θ₃ … θ₅₉ -/
theorem nlClosed_eq_nlStair (y : ℝ) (x : ℚ) (hy0 : 0 < |y|) (hy87 : |y| < 87) (hx87 : x ≤ 87)
    (hsame : ∀ r ∈ Spec.nlTable, 3 ≤ r.1 →
      (|y| * 1000000000000 < (r.2.1 : ℝ) ∧ x * 1000000000000 < (r.2.1 : ℚ)) ∨
      ((r.2.2 : ℝ) < |y| * 1000000000000 ∧ (r.2.2 : ℚ) < x * 1000000000000)) :
    nlClosed y = (nlStair x : ℤ) := by
  obtain ⟨n, hn2, hn59, hcl⟩ := nlClosed_range y hy0 hy87
  obtain ⟨hlt, hle⟩ := (closed_form_eq_staircase y n hn2 hn59 hy0 hy87).mp hcl
  rw [hcl]
  have h1012 : (10 : ℝ) ^ 12 = 1000000000000 := by norm_num
  -- upper side: x below the threshold of row n (n ≥ 3)
  have hup : ∀ r, r ∈ Spec.nlTable → r.1 = n → 3 ≤ n → x * 1000000000000 < (r.2.1 : ℚ) := by
    intro r hr hrn h3
    have henc := (nlTable_encloses_all r hr).2
    rw [hrn, h1012] at henc
    rcases hsame r hr (by omega) with h | h
    · exact h.2
    · exact absurd (lt_of_le_of_lt (le_trans (mul_le_mul_of_nonneg_right hle (by norm_num)) henc) h.1)
        (lt_irrefl _)
  -- lower side: x at or above the threshold of row n + 1
  have hlow : ∀ r, r ∈ Spec.nlTable → r.1 = n + 1 → (r.2.1 : ℚ) ≤ x * 1000000000000 := by
    intro r hr hrn
    have henc := nlTable_encloses_all r hr
    rw [hrn, h1012] at henc
    have hlh : (r.2.1 : ℚ) ≤ (r.2.2 : ℚ) := by exact_mod_cast tbl_lo_le_hi r hr
    rcases hsame r hr (by omega) with h | h
    · exact absurd (lt_of_le_of_lt henc.1 (lt_trans (mul_lt_mul_of_pos_right hlt (by norm_num)) h.1))
        (lt_irrefl _)
    · exact le_trans hlh h.2.le
  congr 1
  symm
  by_cases h59 : n = 59
  · -- below θ₅₉
    subst h59
    obtain ⟨r, hr, hr1, hmem⟩ := tbl_row_of_zone 59 (by omega) (by omega)
    have hr0 : r = (59, 10470471299968, 10470471299969) := by
      have : Spec.nlTable[59 - 59]? = some (59, 10470471299968, 10470471299969) := rfl
      rw [this] at hr; exact (Option.some.inj hr).symm
    have := hup r hmem hr1 (by omega)
    rw [hr0] at this
    exact CPR.nlStair_59 x (by exact_mod_cast this)
  · obtain ⟨a, ha, ha1, hamem⟩ := tbl_row_of_zone (n + 1) (by omega) (by omega)
    have hla := hlow a hamem ha1
    by_cases h2 : n = 2
    · subst h2
      have ha0 : a = (3, 86535369975121, 86535369975122) := by
        have : Spec.nlTable[59 - (2 + 1)]? = some (3, 86535369975121, 86535369975122) := rfl
        rw [this] at ha; exact (Option.some.inj ha).symm
      rw [ha0] at hla
      exact CPR.nlStair_two x (by exact_mod_cast hla) hx87
    · obtain ⟨b, hb, hb1, hbmem⟩ := tbl_row_of_zone n hn2 hn59
      have hub := hup b hbmem hb1 (by omega)
      have e1 : 59 - (n + 1) = 58 - n := by omega
      have e2 : 59 - n = (58 - n) + 1 := by omega
      rw [e1] at ha
      rw [e2] at hb
      have := CPR.nlStair_row x (58 - n) a b ha hb hla hub
      rw [this, hb1]

/-- on the closed 8.069e-9°-neighbourhood of a grid latitude the exact closed form over ℝ is the
    table staircase (= `cprNL`) at the grid latitude: real perturbations of the argument do not
    change the exact value -/
theorem nlClosed_near_grid (g : LatGrid) (m : ℤ) (y : ℝ) (hy0 : 0 < |y|) (hy87 : |y| < 87)
    (hy : |y - ((gridLat g m : ℚ) : ℝ)| ≤ 8069 / 10 ^ 12) :
    nlClosed y = (nlStair |gridLat g m| : ℤ) := by
  have habs := le_trans (abs_abs_sub_abs_le_abs_sub y _) hy
  rw [← Rat.cast_abs, show (8069 : ℝ) / 10 ^ 12 = 8069 / 1000000000000 by norm_num, abs_le] at habs
  have h87 := grid_avoids_87 g m
  have hT := grid_avoids_transitions_8069 g m
  rw [show (10 : ℚ) ^ 12 = 1000000000000 by norm_num] at h87 hT
  generalize |gridLat g m| = x at habs h87 hT ⊢
  obtain ⟨hl, hu⟩ := habs
  apply nlClosed_eq_nlStair y x hy0 hy87
  · rcases h87 with h | h | h
    · exact h.le
    · linarith only [h]
    · have h' := Rat.cast_lt (K := ℝ) |>.mpr h
      push_cast at h'
      linarith only [h', hl, hy87]
  · intro r hr h3
    rcases hT r hr h3 with h | h
    · have h' := Rat.cast_lt (K := ℝ) |>.mpr h
      push_cast at h'
      exact Or.inl ⟨by linarith only [h', hu], by linarith only [h]⟩
    · have h' := Rat.cast_lt (K := ℝ) |>.mpr h
      push_cast at h'
      exact Or.inr ⟨by linarith only [h', hl], by linarith only [h]⟩

/-- in particular on the grid latitudes themselves, strictly between 0 and ±87° -/
theorem nlClosed_on_grid (g : LatGrid) (m : ℤ) (h0 : gridLat g m ≠ 0) (h87 : |gridLat g m| < 87) :
    nlClosed ((gridLat g m : ℚ) : ℝ) = (nlStair |gridLat g m| : ℤ) := by
  apply nlClosed_near_grid g m
  · rw [← Rat.cast_abs]; exact_mod_cast abs_pos.mpr h0
  · rw [← Rat.cast_abs]; exact_mod_cast h87
  · rw [sub_self, abs_zero]; positivity

end PyModeS.NL
