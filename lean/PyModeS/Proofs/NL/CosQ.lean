/-
  Rational lower / upper bounds for `cos` at rational points and at
  rational multiples of π.
    `cosLower q ≤ cos q ≤ cosUpper q`                       for `0 ≤ q`
    `cosLower (q·piHi) ≤ cos (q·π) ≤ cosUpper (q·piLo)`     for `0 ≤ q`, `q·piHi ≤ 3`
  `cosLower` / `cosUpper` are the Taylor sums with 16 / 17 terms (degree 30 / 32), evaluated by a
  kernel-friendly accumulator loop on core `Rat`.
-/
import PyModeS.Proofs.NL.CosTaylor

namespace PyModeS.NL

open Real

/-- accumulator loop: `fuel` further terms, `k` terms already summed in `s`, `t` the next term -/
def cosLoop (x2 : ℚ) : ℕ → ℕ → ℚ → ℚ → ℚ
  | 0, _, s, _ => s
  | f + 1, k, s, t => cosLoop x2 f (k + 1) (s + t) (-t * x2 / (((2 * k + 1) * (2 * k + 2) : ℕ) : ℚ))

/-- sum of the first `K` terms of the cosine series at `q` -/
def cosQ (K : ℕ) (q : ℚ) : ℚ := cosLoop (q * q) K 0 0 1

/-- the recurrence of the series terms that `cosLoop` steps through -/
theorem cosTerm_succ (k : ℕ) (x : ℝ) :
    (-1 : ℝ) ^ (k + 1) * x ^ (2 * (k + 1)) / ((2 * (k + 1)).factorial : ℝ) =
      -((-1) ^ k * x ^ (2 * k) / ((2 * k).factorial : ℝ)) * (x * x) /
        (((2 * k + 1) * (2 * k + 2) : ℕ) : ℝ) := by
  have hf : ((2 * (k + 1)).factorial : ℝ) =
      ((2 * k).factorial : ℝ) * (((2 * k + 1) * (2 * k + 2) : ℕ) : ℝ) := by
    rw [show 2 * (k + 1) = 2 * k + 1 + 1 from rfl, Nat.factorial_succ, Nat.factorial_succ]
    push_cast; ring
  rw [hf]; ring

theorem cosLoop_cast (x : ℚ) : ∀ (f k : ℕ) (s t : ℚ), ((s : ℚ) : ℝ) = cosT k (x : ℝ) →
    ((t : ℚ) : ℝ) = (-1) ^ k * (x : ℝ) ^ (2 * k) / ((2 * k).factorial : ℝ) →
    ((cosLoop (x * x) f k s t : ℚ) : ℝ) = cosT (k + f) (x : ℝ)
  | 0, k, s, t, hs, _ => hs
  | f + 1, k, s, t, hs, ht => by
    rw [cosLoop, show k + (f + 1) = (k + 1) + f by omega]
    apply cosLoop_cast x f (k + 1)
    · rw [Rat.cast_add, hs, ht]; rfl
    · rw [Rat.cast_div, Rat.cast_mul, Rat.cast_neg, Rat.cast_mul, Rat.cast_natCast, ht,
        cosTerm_succ]

theorem cosQ_cast (K : ℕ) (q : ℚ) : ((cosQ K q : ℚ) : ℝ) = cosT K (q : ℝ) := by
  have := cosLoop_cast q K 0 0 1 (by simp [cosT]) (by simp)
  simpa [cosQ] using this

/-- an even number (≥ 2) of terms bounds `cos q` from below, an odd number from above (`q ≥ 0`) -/
theorem cosQ_even_le (j : ℕ) (q : ℚ) (hq : 0 ≤ q) : ((cosQ (2 * j + 2) q : ℚ) : ℝ) ≤ cos (q : ℝ) := by
  rw [cosQ_cast]
  exact cosT_even_le j (q : ℝ) (by exact_mod_cast hq)

theorem le_cosQ_odd (j : ℕ) (q : ℚ) (hq : 0 ≤ q) : cos (q : ℝ) ≤ ((cosQ (2 * j + 1) q : ℚ) : ℝ) := by
  rw [cosQ_cast]
  exact le_cosT_odd j (q : ℝ) (by exact_mod_cast hq)

/-- 20-digit enclosure of π (Mathlib `Real.pi_gt_d20`, `Real.pi_lt_d20`) -/
def piLo : ℚ := 314159265358979323846 / 100000000000000000000
def piHi : ℚ := 314159265358979323847 / 100000000000000000000

theorem piLo_lt : ((piLo : ℚ) : ℝ) < π := by
  have := pi_gt_d20
  unfold piLo; push_cast; norm_num at this ⊢; linarith

theorem lt_piHi : π < ((piHi : ℚ) : ℝ) := by
  have := pi_lt_d20
  unfold piHi; push_cast; norm_num at this ⊢; linarith

/-- `q·piLo ≤ q·π ≤ q·piHi ≤ 3 < π`, where `cos` is decreasing -/
theorem mul_pi_facts (q : ℚ) (hq : 0 ≤ q) (h3 : q * piHi ≤ 3) :
    0 ≤ ((q * piLo : ℚ) : ℝ) ∧ ((q * piLo : ℚ) : ℝ) ≤ (q : ℝ) * π ∧
      (q : ℝ) * π ≤ ((q * piHi : ℚ) : ℝ) ∧ ((q * piHi : ℚ) : ℝ) ≤ π := by
  have hq' : (0 : ℝ) ≤ (q : ℝ) := by exact_mod_cast hq
  have h0 : 0 ≤ q * piLo := mul_nonneg hq (by unfold piLo; norm_num)
  refine ⟨by exact_mod_cast h0, ?_, ?_, le_trans (by exact_mod_cast h3) pi_gt_three.le⟩
  · push_cast; exact mul_le_mul_of_nonneg_left piLo_lt.le hq'
  · push_cast; exact mul_le_mul_of_nonneg_left lt_piHi.le hq'

/-- interval version: `cos (q·π)` from below -/
theorem cosQ_even_pi_le (j : ℕ) (q : ℚ) (hq : 0 ≤ q) (h3 : q * piHi ≤ 3) :
    ((cosQ (2 * j + 2) (q * piHi) : ℚ) : ℝ) ≤ cos ((q : ℝ) * π) := by
  obtain ⟨_, _, h2, h4⟩ := mul_pi_facts q hq h3
  exact le_trans (cosQ_even_le j _ (mul_nonneg hq (by unfold piHi; norm_num)))
    (cos_le_cos_of_nonneg_of_le_pi (mul_nonneg (by exact_mod_cast hq) pi_pos.le) h4 h2)

/-- interval version: `cos (q·π)` from above -/
theorem le_cosQ_odd_pi (j : ℕ) (q : ℚ) (hq : 0 ≤ q) (h3 : q * piHi ≤ 3) :
    cos ((q : ℝ) * π) ≤ ((cosQ (2 * j + 1) (q * piLo) : ℚ) : ℝ) := by
  obtain ⟨h0, h1, h2, h4⟩ := mul_pi_facts q hq h3
  exact le_trans (cos_le_cos_of_nonneg_of_le_pi h0 (le_trans h2 h4) h1)
    (le_cosQ_odd j _ (mul_nonneg hq (by unfold piLo; norm_num)))

/-- rational lower bound of `cos q`, `q ≥ 0`: 16 terms (degree 30) -/
def cosLower (q : ℚ) : ℚ := cosQ 16 q

/-- rational upper bound of `cos q`, `q ≥ 0`: 17 terms (degree 32) -/
def cosUpper (q : ℚ) : ℚ := cosQ 17 q

theorem cosLower_le (q : ℚ) (hq : 0 ≤ q) : ((cosLower q : ℚ) : ℝ) ≤ cos (q : ℝ) :=
  cosQ_even_le 7 q hq

theorem le_cosUpper (q : ℚ) (hq : 0 ≤ q) : cos (q : ℝ) ≤ ((cosUpper q : ℚ) : ℝ) :=
  le_cosQ_odd 8 q hq

theorem cosLower_pi_le (q : ℚ) (hq : 0 ≤ q) (h3 : q * piHi ≤ 3) :
    ((cosLower (q * piHi) : ℚ) : ℝ) ≤ cos ((q : ℝ) * π) :=
  cosQ_even_pi_le 7 q hq h3

theorem le_cosUpper_pi (q : ℚ) (hq : 0 ≤ q) (h3 : q * piHi ≤ 3) :
    cos ((q : ℝ) * π) ≤ ((cosUpper (q * piLo) : ℚ) : ℝ) :=
  le_cosQ_odd_pi 8 q hq h3

/-! sanity: the two bounds of `cos 1` agree to 1e-30 and bracket 0.5403023058681397… -/
example : cosLower 1 ≤ cosUpper 1 ∧ cosUpper 1 - cosLower 1 < 1 / 10 ^ 30 ∧
    (5403023058681397 : ℚ) / 10 ^ 16 < cosLower 1 ∧ cosUpper 1 < 5403023058681398 / 10 ^ 16 := by
  decide +kernel

end PyModeS.NL
