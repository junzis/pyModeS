/-
  Alternating Taylor bounds for `cos` and `sin` on `x ≥ 0` (any order, no smallness
  condition), proved by induction through derivatives:
    `cosT (2j) x ≤ cos x ≤ cosT (2j+1) x`,  `sinT (2j) x ≤ sin x ≤ sinT (2j+1) x`   (j ≥ 1 / any)
  where `cosT K`, `sinT K` are the sums of the first `K` terms of the series.
-/
import Mathlib.Analysis.Real.Pi.Bounds
import Mathlib.Analysis.SpecialFunctions.Trigonometric.Inverse

namespace PyModeS.NL

open Real

/-- first `K` terms of the cosine series -/
noncomputable def cosT : ℕ → ℝ → ℝ
  | 0, _ => 0
  | K + 1, x => cosT K x + (-1) ^ K * x ^ (2 * K) / ((2 * K).factorial : ℝ)

/-- first `K` terms of the sine series -/
noncomputable def sinT : ℕ → ℝ → ℝ
  | 0, _ => 0
  | K + 1, x => sinT K x + (-1) ^ K * x ^ (2 * K + 1) / ((2 * K + 1).factorial : ℝ)

theorem cosT_succ (K : ℕ) :
    cosT (K + 1) = fun x => cosT K x + (-1) ^ K * x ^ (2 * K) / ((2 * K).factorial : ℝ) := by
  funext x; rfl

theorem sinT_succ (K : ℕ) :
    sinT (K + 1) = fun x => sinT K x + (-1) ^ K * x ^ (2 * K + 1) / ((2 * K + 1).factorial : ℝ) := by
  funext x; rfl

theorem cosT_zero_fun : cosT 0 = fun _ => 0 := by funext x; rfl
theorem sinT_zero_fun : sinT 0 = fun _ => 0 := by funext x; rfl

theorem sinT_at_zero (K : ℕ) : sinT K 0 = 0 := by
  induction K with
  | zero => rfl
  | succ K ih => rw [sinT, ih, zero_pow (by omega), mul_zero, zero_div, add_zero]

theorem cosT_at_zero (K : ℕ) : cosT (K + 1) 0 = 1 := by
  induction K with
  | zero => rw [cosT_succ]; simp [cosT]
  | succ K ih => rw [cosT, ih, zero_pow (by omega), mul_zero, zero_div, add_zero]

theorem hasDerivAt_sinT (K : ℕ) (x : ℝ) : HasDerivAt (sinT K) (cosT K x) x := by
  induction K with
  | zero => rw [sinT_zero_fun]; exact hasDerivAt_const x 0
  | succ K ih =>
    rw [sinT_succ, cosT_succ]
    have h := ((hasDerivAt_pow (2 * K + 1) x).const_mul ((-1 : ℝ) ^ K)).div_const
      ((2 * K + 1).factorial : ℝ)
    refine (ih.add h).congr_deriv ?_
    have hf : ((2 * K + 1).factorial : ℝ) = ((2 * K + 1 : ℕ) : ℝ) * ((2 * K).factorial : ℝ) := by
      rw [Nat.factorial_succ]; push_cast; ring
    have h1 : ((2 * K + 1 : ℕ) : ℝ) ≠ 0 := by positivity
    rw [hf, Nat.add_sub_cancel, mul_div_assoc, mul_div_mul_left _ _ h1, ← mul_div_assoc]

theorem hasDerivAt_cosT (K : ℕ) (x : ℝ) : HasDerivAt (cosT (K + 1)) (-(sinT K x)) x := by
  induction K with
  | zero =>
    rw [cosT_succ, cosT_zero_fun]
    simp only [sinT, neg_zero, Nat.mul_zero, pow_zero]
    exact hasDerivAt_const x _
  | succ K ih =>
    rw [cosT_succ (K + 1), sinT_succ]
    have h := ((hasDerivAt_pow (2 * (K + 1)) x).const_mul ((-1 : ℝ) ^ (K + 1))).div_const
      ((2 * (K + 1)).factorial : ℝ)
    refine (ih.add h).congr_deriv ?_
    have e : 2 * (K + 1) = (2 * K + 1) + 1 := by ring
    have hf : ((2 * (K + 1)).factorial : ℝ) =
        ((2 * K + 1 + 1 : ℕ) : ℝ) * ((2 * K + 1).factorial : ℝ) := by
      rw [e, Nat.factorial_succ]; push_cast; ring
    have h1 : ((2 * K + 1 + 1 : ℕ) : ℝ) ≠ 0 := by positivity
    rw [hf, show 2 * (K + 1) - 1 = 2 * K + 1 by omega, e, mul_div_assoc, mul_div_mul_left _ _ h1,
      pow_succ (-1 : ℝ) K]
    ring

/-- a function vanishing at 0 with non-negative derivative on `[0, ∞)` is non-negative there -/
theorem nonneg_of_hasDerivAt {f f' : ℝ → ℝ} (h0 : f 0 = 0)
    (hd : ∀ x, HasDerivAt f (f' x) x) (hpos : ∀ x, 0 ≤ x → 0 ≤ f' x) :
    ∀ x, 0 ≤ x → 0 ≤ f x := by
  intro x hx
  have hmono : MonotoneOn f (Set.Ici 0) := by
    apply monotoneOn_of_deriv_nonneg (convex_Ici 0)
    · exact (fun y _ => (hd y).continuousAt.continuousWithinAt)
    · exact fun y _ => (hd y).differentiableAt.differentiableWithinAt
    · intro y hy
      rw [interior_Ici] at hy
      rw [(hd y).deriv]
      exact hpos y (le_of_lt hy)
  have := hmono (Set.mem_Ici.mpr (le_refl 0)) (Set.mem_Ici.mpr hx) hx
  rw [h0] at this
  exact this

/-- the signed remainders are non-negative on `x ≥ 0` -/
theorem alt_bounds (K : ℕ) :
    (∀ x : ℝ, 0 ≤ x → 0 ≤ (-1 : ℝ) ^ K * (cosT (K + 1) x - cos x)) ∧
    (∀ x : ℝ, 0 ≤ x → 0 ≤ (-1 : ℝ) ^ K * (sinT (K + 1) x - sin x)) := by
  induction K with
  | zero =>
    have hA : ∀ x : ℝ, 0 ≤ x → 0 ≤ (-1 : ℝ) ^ 0 * (cosT (0 + 1) x - cos x) := by
      intro x _
      have : cosT (0 + 1) x = 1 := by simp [cosT]
      rw [this, pow_zero, one_mul]
      linarith [cos_le_one x]
    refine ⟨hA, ?_⟩
    apply nonneg_of_hasDerivAt (f' := fun x => (-1 : ℝ) ^ 0 * (cosT (0 + 1) x - cos x))
    · simp [sinT_at_zero]
    · intro x
      exact ((hasDerivAt_sinT (0 + 1) x).sub (hasDerivAt_sin x)).const_mul _
    · exact hA
  | succ K ih =>
    obtain ⟨_, hB⟩ := ih
    have hA : ∀ x : ℝ, 0 ≤ x → 0 ≤ (-1 : ℝ) ^ (K + 1) * (cosT (K + 1 + 1) x - cos x) := by
      apply nonneg_of_hasDerivAt (f' := fun x => (-1 : ℝ) ^ K * (sinT (K + 1) x - sin x))
      · rw [cosT_at_zero]; simp
      · intro x
        have h := ((hasDerivAt_cosT (K + 1) x).sub (hasDerivAt_cos x)).const_mul
          ((-1 : ℝ) ^ (K + 1))
        refine h.congr_deriv ?_
        rw [pow_succ]; ring
      · exact hB
    refine ⟨hA, ?_⟩
    apply nonneg_of_hasDerivAt (f' := fun x => (-1 : ℝ) ^ (K + 1) * (cosT (K + 1 + 1) x - cos x))
    · simp [sinT_at_zero]
    · intro x
      exact ((hasDerivAt_sinT (K + 1 + 1) x).sub (hasDerivAt_sin x)).const_mul _
    · exact hA

/-- an even number (≥ 2) of terms is a lower bound of `cos` on `x ≥ 0` -/
theorem cosT_even_le (j : ℕ) (x : ℝ) (hx : 0 ≤ x) : cosT (2 * j + 2) x ≤ cos x := by
  have h := (alt_bounds (2 * j + 1)).1 x hx
  have hodd : (-1 : ℝ) ^ (2 * j + 1) = -1 := Odd.neg_one_pow ⟨j, rfl⟩
  rw [hodd] at h
  linarith

/-- an odd number of terms is an upper bound of `cos` on `x ≥ 0` -/
theorem le_cosT_odd (j : ℕ) (x : ℝ) (hx : 0 ≤ x) : cos x ≤ cosT (2 * j + 1) x := by
  have h := (alt_bounds (2 * j)).1 x hx
  have hev : (-1 : ℝ) ^ (2 * j) = 1 := Even.neg_one_pow ⟨j, by ring⟩
  rw [hev] at h
  linarith

theorem sinT_even_le (j : ℕ) (x : ℝ) (hx : 0 ≤ x) : sinT (2 * j + 2) x ≤ sin x := by
  have h := (alt_bounds (2 * j + 1)).2 x hx
  have hodd : (-1 : ℝ) ^ (2 * j + 1) = -1 := Odd.neg_one_pow ⟨j, rfl⟩
  rw [hodd] at h
  linarith

theorem le_sinT_odd (j : ℕ) (x : ℝ) (hx : 0 ≤ x) : sin x ≤ sinT (2 * j + 1) x := by
  have h := (alt_bounds (2 * j)).2 x hx
  have hev : (-1 : ℝ) ^ (2 * j) = 1 := Even.neg_one_pow ⟨j, by ring⟩
  rw [hev] at h
  linarith

end PyModeS.NL
