/-
  The altitude code by argument.  `altitude13` and `Spec.alt13` take the same 13 bits apart and agree on the M = 1 and
  Q = 1 branches by definition; what is left is the Gillham branch, where the model un-Grays by XOR shifts
  (`gray2int`) and the spec bit by bit (`ungrayBits`), and the encoder side, where `gray` must be undone.  Those are
  checked on the 256 words of the 500-ft field and the 8 patterns of the 100-ft field; nothing else is enumerated.
-/
import PyModeS.Proofs.Fields.Frame
import PyModeS.Spec.Altitude
namespace PyModeS.C07
open Spec

/-! ### Gray code: model against spec -/

theorem gray2int_eq_ungrayBits : ∀ g0 g1 g2 g3 g4 g5 g6 g7 : Bool,
    gray2int [g0, g1, g2, g3, g4, g5, g6, g7] = bin2int (ungrayBits false [g0, g1, g2, g3, g4, g5, g6, g7]) := by
  decide +kernel

theorem ungray8_bin2int (g : Bits) (h : g.length = 8) : ungray8 (bin2int g) = bin2int (ungrayBits false g) := by
  unfold ungray8; rw [natToBits_bin2int_of_length h]

theorem ungray8_gray : ∀ n, n < 256 → ungray8 (gray n) = n := by decide +kernel

theorem gray_lt {n : Nat} (h : n < 256) : gray n < 256 :=
  Nat.xor_lt_two_pow (n := 8) h (Nat.lt_of_le_of_lt (Nat.shiftRight_le n 1) h)

/-- the 100-ft count 1 … 5 that `kOf` reads from a C1 C2 C4 pattern -/
def c100 (c3 : Nat) : Nat := match c3 with | 1 => 1 | 3 => 2 | 2 => 3 | 6 => 4 | _ => 5

theorem kOf_eq (g c : Nat) :
    kOf g c = ungray8 g * 5 + ((if ungray8 g % 2 = 1 then 6 - c100 c else c100 c) - 1) := rfl

theorem c100_bounds (c : Nat) : 1 ≤ c100 c ∧ c100 c ≤ 5 := by
  unfold c100; split <;> omega

/-- the model's reading of C1 C2 C4 (Gray value, 0/5/6 rejected, 7 standing for 5) is the spec's -/
theorem gray2int_c100 : ∀ C1 C2 C4 : Bool,
    let m := gray2int [C1, C2, C4]
    let c := bin2int [C1, C2, C4]
    if legalC c then ¬ (m = 0 ∨ m = 5 ∨ m = 6) ∧ (if m = 7 then 5 else m) = c100 c
    else m = 0 ∨ m = 5 ∨ m = 6 := by
  decide

/-- `gray2alt` counts from -1300 ft with the 100-ft count 1 … 5, `kOf` from -1200 ft with 0 … 4 -/
theorem gillham_arith (n500 n : Nat) (h1 : 1 ≤ n) (h5 : n ≤ 5) :
    ((n500 : Int) * 500 + (if n500 % 2 = 1 then 6 - (n : Int) else (n : Int)) * 100) - 1300 =
      ((n500 * 5 + ((if n500 % 2 = 1 then 6 - n else n) - 1) : Nat) : Int) * 100 - 1200 := by
  split <;> omega

theorem gray2alt_spec (D2 D4 A1 A2 A4 B1 B2 B4 C1 C2 C4 : Bool) :
    gray2alt [D2, D4, A1, A2, A4, B1, B2, B4, C1, C2, C4] =
      if legalC (bin2int [C1, C2, C4])
      then some ((kOf (bin2int [D2, D4, A1, A2, A4, B1, B2, B4]) (bin2int [C1, C2, C4]) : Int) * 100 - 1200)
      else none := by
  have ht := gray2int_c100 C1 C2 C4
  have e8 : slice 0 8 [D2, D4, A1, A2, A4, B1, B2, B4, C1, C2, C4] = [D2, D4, A1, A2, A4, B1, B2, B4] := rfl
  have e3 : List.drop 8 [D2, D4, A1, A2, A4, B1, B2, B4, C1, C2, C4] = [C1, C2, C4] := rfl
  unfold gray2alt
  rw [kOf_eq, ungray8_bin2int _ rfl, ← gray2int_eq_ungrayBits, e8, e3]
  generalize gray2int [D2, D4, A1, A2, A4, B1, B2, B4] = n500
  generalize gray2int [C1, C2, C4] = m at ht ⊢
  generalize bin2int [C1, C2, C4] = c at ht ⊢
  simp only at ht ⊢
  by_cases hl : legalC c = true
  · rw [if_pos hl] at ht ⊢
    rw [if_neg ht.1, ht.2]
    exact congrArg some (gillham_arith n500 (c100 c) (c100_bounds c).1 (c100_bounds c).2)
  · rw [if_neg hl] at ht ⊢
    rw [if_pos ht]

/-! ### the Gillham encoder -/

/-- `kOf` inverts `gillhamFields`: `gray` is undone on the 500-ft count, and each of the five 100-ft codes, read
    forwards or (odd 500-ft count) backwards, gives back its count -/
theorem kOf_gillhamFields (k : Nat) (h : k < 1280) :
    kOf (gillhamFields k).1 (gillhamFields k).2 = k ∧ legalC (gillhamFields k).2 = true := by
  unfold gillhamFields
  simp only
  rw [kOf_eq, ungray8_gray _ (by omega)]
  have h5 : k % 5 < 5 := Nat.mod_lt _ (by omega)
  generalize hr : k % 5 = r at h5
  have hk : k = k / 5 * 5 + r := by omega
  generalize k / 5 = q at hk ⊢
  subst hk
  have hr5 : r = 0 ∨ r = 1 ∨ r = 2 ∨ r = 3 ∨ r = 4 := by omega
  by_cases hq : q % 2 = 1
  · simp only [hq, if_true]
    rcases hr5 with rfl | rfl | rfl | rfl | rfl <;> exact ⟨rfl, rfl⟩
  · simp only [hq, if_false]
    rcases hr5 with rfl | rfl | rfl | rfl | rfl <;> exact ⟨rfl, rfl⟩

/-- `kOf` inverts the encoder on legal patterns -/
theorem kOf_enum : (List.range 1280).all
    (fun k => decide (kOf (gillhamFields k).1 (gillhamFields k).2 = k ∧ legalC (gillhamFields k).2 = true)) = true := by
  rw [List.all_eq_true]
  intro k hk
  exact decide_eq_true (kOf_gillhamFields k (List.mem_range.mp hk))

/-- the spec on an encoded Gillham field: an all-zero field has the illegal C pattern 000, so the zero test of `alt13`
    changes nothing -/
theorem alt13_gillham (g c : Nat) (hg : g < 256) (hc : c < 8) :
    alt13 (bin2int (ac13OfGillham g c)) = if legalC c then some ((kOf g c : Int) * 100 - 1200) else none := by
  obtain ⟨D2, D4, A1, A2, A4, B1, B2, B4, e8⟩ :
    ∃ D2 D4 A1 A2 A4 B1 B2 B4, natToBits 8 g = [D2, D4, A1, A2, A4, B1, B2, B4] := ⟨_, _, _, _, _, _, _, _, rfl⟩
  obtain ⟨C1, C2, C4, e3⟩ : ∃ C1 C2 C4, natToBits 3 c = [C1, C2, C4] := ⟨_, _, _, rfl⟩
  have hg' := bin2int_natToBits_of_lt (w := 8) hg
  have hc' := bin2int_natToBits_of_lt (w := 3) hc
  rw [e8] at hg'
  rw [e3] at hc'
  have hb := natToBits_bin2int_of_length (l := ac13OfGillham g c) (w := 13) rfl
  have e : ac13OfGillham g c = [C1, A1, C2, A2, C4, A4, false, B1, false, B2, D2, B4, D4] := by
    unfold ac13OfGillham; rw [e8, e3]; rfl
  rw [e] at hb ⊢
  unfold alt13
  rw [hb]
  simp only [hg', hc', Bool.false_eq_true, if_false]
  by_cases h0 : bin2int [C1, A1, C2, A2, C4, A4, false, B1, false, B2, D2, B4, D4] = 0
  · have := bin2int_eq_zero h0
    simp only [List.mem_cons, forall_eq_or_imp] at this
    obtain ⟨rfl, -, rfl, -, rfl, -⟩ := this
    subst hc'
    rw [if_pos h0]
    rfl
  · rw [if_neg h0]

/-! ### the metric encoder -/

/-- M = 1 (no lower bound on `n` is needed: the M bit makes the code non-zero) -/
theorem altitude13_metric (n : Nat) (h : n < 4096) :
    altitude13 (ac13OfMetric n) = .val (some (((n * 328084 / 100000 : Nat) : Int))) := by
  obtain ⟨b0, b1, b2, b3, b4, b5, b6, b7, b8, b9, b10, b11, e⟩ :
    ∃ b0 b1 b2 b3 b4 b5 b6 b7 b8 b9 b10 b11, natToBits 12 n = [b0, b1, b2, b3, b4, b5, b6, b7, b8, b9, b10, b11] :=
    ⟨_, _, _, _, _, _, _, _, _, _, _, _, rfl⟩
  have hn := bin2int_natToBits_of_lt (w := 12) h
  rw [e] at hn
  have e' : ac13OfMetric n = [b0, b1, b2, b3, b4, b5, true, b6, b7, b8, b9, b10, b11] := by
    unfold ac13OfMetric; rw [e]; rfl
  rw [e']
  unfold altitude13
  simp only
  rw [if_neg (bin2int_ne_zero (by simp)), hn]
  rfl

/-- `bds05.altitude` on a 112-bit frame with type code `tc`: the 12-bit field is ME bits 9–20,
    read with the M bit re-inserted as 0 (TC 9–18) or as a number of metres (TC 20–22) -/
theorem altitude05_frame (bits : Bits) (h : bits.length = 112) (tc : Nat) (htc : tcB bits = some tc) :
    altitude05 bits =
      if tc < 9 ∨ tc = 19 ∨ tc > 22 then .rte
      else if tc < 19 then
        altitude13 (slice 40 46 bits ++ [false] ++ slice 46 52 bits) >>= fun a => pure (optIntToRat a)
      else .val (some ((bin2int (slice 40 52 bits) : Rat) * 328084 / 100000)) := by
  have hs : slice 8 20 (bits.drop 32) = slice 40 52 bits := slice_drop 8 20 32 bits
  have h1 : slice 0 6 (slice 40 52 bits) = slice 40 46 bits := slice_slice 0 6 40 52 bits (by omega)
  have h2 : (slice 40 52 bits).drop 6 = slice 46 52 bits := by
    simp only [slice, List.drop_take, List.drop_drop]
  unfold altitude05
  rw [htc]
  simp only [hs, h1, h2]
  rw [Fields.bin2intR_slice h 40 52 (by omega) (by omega)]
  rfl

end PyModeS.C07
