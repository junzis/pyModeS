/-
  Helper lemmas for the field decoders of `decoder/uplink.py` (`uf`, `bds`, `pr`, `ic`, `lockout`,
  `uplink_fields`): every byte-mask expression of the model is the value of a bit slice of the
  frame (0-based, half-open `slice a b bits`, MSB first).

  Route: every mask / shift expression on a byte is a bit field of the byte (`byteField`: `shr_and_mask`,
  `and_mask_shr`, the literal masks being `2^k - 1` and `(2^k - 1) << s`); a bit field of byte `i` is a slice of
  the frame (`byteField_byteAt`); a field that straddles two bytes is two adjacent slices (`bin2int_slice_add`).
-/
import PyModeS.Proofs.Bits
import PyModeS.Model.Misc
namespace PyModeS.Uplink
open PyModeS

theorem isRollCall_iff (u : Nat) : isRollCall u = true ↔ u = 4 ∨ u = 5 ∨ u = 20 ∨ u = 21 :=
  decide_eq_true_iff

/-! ### single bits -/

theorem bit_set_iff (bits : Bits) (i : Nat) (hi : i < bits.length) :
    bin2int (slice i (i + 1) bits) = 1 ↔ bits[i]? = some true := by
  rw [slice_one bits i]
  simp only [List.getD, List.getElem?_eq_getElem hi, Option.getD_some, Option.some.injEq]
  cases bits[i] <;> simp

/-! ### masks and shifts of a byte are bit fields of the byte -/

/-- bits `c .. d-1` of a byte, numbered from the most significant bit like the frame -/
def byteField (x c d : Nat) : Nat := x / 2 ^ (8 - d) % 2 ^ (d - c)

/-- `(x >> s) & (2^k - 1)`: the `k` bits above the lowest `s` -/
theorem shr_and_mask (x : Nat) {s k : Nat} (h : s + k ≤ 8) :
    (x >>> s) &&& (2 ^ k - 1) = byteField x (8 - s - k) (8 - s) := by
  rw [byteField, Nat.and_two_pow_sub_one_eq_mod, Nat.shiftRight_eq_div_pow,
    show 8 - (8 - s) = s by omega, show 8 - s - (8 - s - k) = k by omega]

/-- `(x & ((2^k - 1) << s)) >> s`: the same bits, selected before the shift -/
theorem and_mask_shr (x : Nat) {s k : Nat} (h : s + k ≤ 8) :
    (x &&& ((2 ^ k - 1) <<< s)) >>> s = byteField x (8 - s - k) (8 - s) := by
  rw [Nat.shiftRight_and_distrib, Nat.shiftLeft_shiftRight, shr_and_mask x h]

/-- `|` of a value shifted by `k` and a `k`-bit value is their sum -/
theorem mul_pow_or (a : Nat) {c k : Nat} (hc : c < 2 ^ k) : a * 2 ^ k ||| c = a * 2 ^ k + c := by
  rw [← Nat.shiftLeft_eq]; exact (Nat.shiftLeft_add_eq_or_of_lt hc a).symm

/-! ### the bytes of the model -/

theorem byteAt_lt (bits : Bits) (i : Nat) : byteAt bits i < 256 := by
  have := bin2int_slice_lt bits (8 * i) (8 * i + 8)
  rwa [Nat.add_sub_cancel_left] at this

/-- a bit field of byte `i` is a slice of the frame -/
theorem byteField_byteAt (bits : Bits) (i c d : Nat) (hcd : c ≤ d) (hd : d ≤ 8) (h : 8 * i + 8 ≤ bits.length) :
    byteField (byteAt bits i) c d = bin2int (slice (8 * i + c) (8 * i + d) bits) := by
  have hl : (slice (8 * i) (8 * i + 8) bits).length = 8 := by rw [slice_length_of_le h]; omega
  rw [← slice_slice c d (8 * i) (8 * i + 8) bits (by omega), bin2int_slice _ c d hcd (by omega), hl]
  rfl

/-! ### each mask expression of `uplink.py` is a bit field (Annex 10 numbering minus one)

  `h16`/`h32`: the frame has at least 16 / 32 bits (56- and 112-bit interrogations do). -/

section fields
variable (bits : Bits)

/-- DI (roll-call) / CL (UF 11): bits 13–15 -/
theorem di_eq_field (h : 16 ≤ bits.length) : byteAt bits 1 &&& 0x7 = bin2int (slice 13 16 bits) :=
  (shr_and_mask (byteAt bits 1) (s := 0) (k := 3) (by decide)).trans
    (byteField_byteAt bits 1 5 8 (by decide) (by decide) h)

/-- RR: bits 8–12 -/
theorem rr_eq_field (h : 16 ≤ bits.length) :
    (byteAt bits 1 >>> 3) &&& 0x1F = bin2int (slice 8 13 bits) :=
  (shr_and_mask (byteAt bits 1) (s := 3) (k := 5) (by decide)).trans
    (byteField_byteAt bits 1 0 5 (by decide) (by decide) h)

/-- IC field of UF 11: bits 9–12 -/
theorem ic11_eq_field (h : 16 ≤ bits.length) :
    (byteAt bits 1 >>> 3) &&& 0xF = bin2int (slice 9 13 bits) :=
  (shr_and_mask (byteAt bits 1) (s := 3) (k := 4) (by decide)).trans
    (byteField_byteAt bits 1 1 5 (by decide) (by decide) h)

/-- PR of UF 11: bits 5–8 (straddles bytes 0 and 1) -/
theorem pr_eq_field (h : 16 ≤ bits.length) :
    ((byteAt bits 0 &&& 0x7) <<< 1) ||| ((byteAt bits 1 &&& 0x80) >>> 7) = bin2int (slice 5 9 bits) := by
  have h0 : byteAt bits 0 &&& 0x7 = bin2int (slice 5 8 bits) :=
    (shr_and_mask (byteAt bits 0) (s := 0) (k := 3) (by decide)).trans
      (byteField_byteAt bits 0 5 8 (by decide) (by decide) (by omega))
  have h1 : (byteAt bits 1 &&& 0x80) >>> 7 = bin2int (slice 8 9 bits) :=
    (and_mask_shr (byteAt bits 1) (s := 7) (k := 1) (by decide)).trans
      (byteField_byteAt bits 1 0 1 (by decide) (by decide) h)
  have l1 : bin2int (slice 8 9 bits) < 2 ^ 1 := bin2int_slice_lt bits 8 9
  rw [h0, h1, Nat.shiftLeft_eq, mul_pow_or _ l1]
  exact bin2int_slice_add bits 5 8 1 (by decide) (by omega)

/-- RRS when DI = 7: bits 20–23 -/
theorem rrs7_eq_field (h : 32 ≤ bits.length) : byteAt bits 2 &&& 0x0F = bin2int (slice 20 24 bits) :=
  (shr_and_mask (byteAt bits 2) (s := 0) (k := 4) (by decide)).trans
    (byteField_byteAt bits 2 4 8 (by decide) (by decide) (by omega))

/-- RRS when DI = 3: bits 23–26 (straddles bytes 2 and 3) -/
theorem rrs3_eq_field (h : 32 ≤ bits.length) :
    ((byteAt bits 2 &&& 0x1) <<< 3) ||| ((byteAt bits 3 &&& 0xE0) >>> 5) = bin2int (slice 23 27 bits) := by
  have h2 : byteAt bits 2 &&& 0x1 = bin2int (slice 23 24 bits) :=
    (shr_and_mask (byteAt bits 2) (s := 0) (k := 1) (by decide)).trans
      (byteField_byteAt bits 2 7 8 (by decide) (by decide) (by omega))
  have h3 : (byteAt bits 3 &&& 0xE0) >>> 5 = bin2int (slice 24 27 bits) :=
    (and_mask_shr (byteAt bits 3) (s := 5) (k := 3) (by decide)).trans
      (byteField_byteAt bits 3 0 3 (by decide) (by decide) h)
  have l3 : bin2int (slice 24 27 bits) < 2 ^ 3 := bin2int_slice_lt bits 24 27
  rw [h2, h3, Nat.shiftLeft_eq, mul_pow_or _ l3]
  exact bin2int_slice_add bits 23 24 3 (by decide) (by omega)

/-- IIS (DI = 0, 1, 7): bits 16–19 -/
theorem iis_eq_field (h : 32 ≤ bits.length) :
    (byteAt bits 2 >>> 4) &&& 0xF = bin2int (slice 16 20 bits) :=
  (shr_and_mask (byteAt bits 2) (s := 4) (k := 4) (by decide)).trans
    (byteField_byteAt bits 2 0 4 (by decide) (by decide) (by omega))

/-- SIS (DI = 3): bits 16–21 -/
theorem sis_eq_field (h : 32 ≤ bits.length) :
    (byteAt bits 2 >>> 2) &&& 0x3F = bin2int (slice 16 22 bits) :=
  (shr_and_mask (byteAt bits 2) (s := 2) (k := 6) (by decide)).trans
    (byteField_byteAt bits 2 0 6 (by decide) (by decide) (by omega))

/-- LOS (DI = 1, 7): bit 25 -/
theorem los_eq_field (h : 32 ≤ bits.length) :
    (byteAt bits 3 &&& 0x40) >>> 6 = bin2int (slice 25 26 bits) :=
  (and_mask_shr (byteAt bits 3) (s := 6) (k := 1) (by decide)).trans
    (byteField_byteAt bits 3 1 2 (by decide) (by decide) h)

/-- LSS (DI = 3): bit 22 -/
theorem lss_eq_field (h : 32 ≤ bits.length) :
    (byteAt bits 2 &&& 0x2) >>> 1 = bin2int (slice 22 23 bits) :=
  (and_mask_shr (byteAt bits 2) (s := 1) (k := 1) (by decide)).trans
    (byteField_byteAt bits 2 6 7 (by decide) (by decide) (by omega))

theorem los_iff_bit (h : 32 ≤ bits.length) :
    (byteAt bits 3 &&& 0x40) >>> 6 = 1 ↔ bits[25]? = some true := by
  rw [los_eq_field bits h]; exact bit_set_iff bits 25 (by omega)

theorem lss_iff_bit (h : 32 ≤ bits.length) :
    (byteAt bits 2 &&& 0x2) >>> 1 = 1 ↔ bits[22]? = some true := by
  rw [lss_eq_field bits h]; exact bit_set_iff bits 22 (by omega)

theorem los_decide (h : 32 ≤ bits.length) :
    decide ((byteAt bits 3 &&& 0x40) >>> 6 = 1) = bits.getD 25 false := by
  rw [los_eq_field bits h, slice_one bits 25]
  cases bits.getD 25 false <;> simp

theorem lss_decide (h : 32 ≤ bits.length) :
    decide ((byteAt bits 2 &&& 0x2) >>> 1 = 1) = bits.getD 22 false := by
  rw [lss_eq_field bits h, slice_one bits 22]
  cases bits.getD 22 false <;> simp

end fields

end PyModeS.Uplink
