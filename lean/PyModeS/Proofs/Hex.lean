/- `hex2binM` commutes with slicing: string-level functions of py_common agree with their
   bit-level forms (`df`, `typecode`, `altcode`, `idcode`); the DF guards of `surv.py` / `allcall.py` read positively. -/
import PyModeS.Proofs.Bits
import PyModeS.Model.Misc
namespace PyModeS

theorem takeLast_append {α} (a b : List α) : takeLast b.length (a ++ b) = b := by
  simp [takeLast]

theorem dropLast_append_length {α} (a b : List α) : dropLast b.length (a ++ b) = a := by
  simp [dropLast]

theorem dropLast_map {α β} (f : α → β) (k : Nat) (l : List α) : dropLast k (l.map f) = (dropLast k l).map f := by
  simp [dropLast, List.map_take]

theorem takeLast_map {α β} (f : α → β) (k : Nat) (l : List α) : takeLast k (l.map f) = (takeLast k l).map f := by
  simp [takeLast, List.map_drop]

theorem flatMap_const_length {α β} (f : α → List β) (c : Nat) (hf : ∀ x, (f x).length = c) (l : List α) :
    (l.flatMap f).length = c * l.length := by
  induction l with
  | nil => simp
  | cons a l ih => simp [List.flatMap_cons, hf, ih, Nat.mul_succ]; omega

theorem flatMap_take_const {α β} (f : α → List β) (c : Nat) (hf : ∀ x, (f x).length = c) (l : List α) (k : Nat) :
    (l.take k).flatMap f = (l.flatMap f).take (c * k) := by
  induction l generalizing k with
  | nil => simp
  | cons a l ih =>
    cases k with
    | zero => simp
    | succ k =>
      simp only [List.take_succ_cons, List.flatMap_cons]
      rw [ih k, List.take_append, hf a]
      have h1 : c * (k + 1) - c = c * k := by rw [Nat.mul_succ]; omega
      rw [h1]
      have h2 : List.take (c * (k + 1)) (f a) = f a := by
        apply List.take_of_length_le; rw [hf a, Nat.mul_succ]; omega
      rw [h2]

theorem flatMap_drop_const {α β} (f : α → List β) (c : Nat) (hf : ∀ x, (f x).length = c) (l : List α) (k : Nat) :
    (l.drop k).flatMap f = (l.flatMap f).drop (c * k) := by
  induction l generalizing k with
  | nil => simp
  | cons a l ih =>
    cases k with
    | zero => simp
    | succ k =>
      simp only [List.drop_succ_cons, List.flatMap_cons]
      rw [ih k, List.drop_append, hf a]
      have h1 : c * (k + 1) - c = c * k := by rw [Nat.mul_succ]; omega
      rw [h1]
      have h2 : List.drop (c * (k + 1)) (f a) = [] := by
        apply List.drop_eq_nil_of_le; rw [hf a, Nat.mul_succ]; omega
      rw [h2]; simp

theorem hex2binM_length (m : Msg) : (hex2binM m).length = 4 * m.length :=
  flatMap_const_length _ 4 (fun _ => natToBits_length 4 _) m

theorem hex2binM_take (m : Msg) (k : Nat) : hex2binM (m.take k) = (hex2binM m).take (4 * k) :=
  flatMap_take_const _ 4 (fun _ => natToBits_length 4 _) m k

theorem hex2binM_drop (m : Msg) (k : Nat) : hex2binM (m.drop k) = (hex2binM m).drop (4 * k) :=
  flatMap_drop_const _ 4 (fun _ => natToBits_length 4 _) m k

theorem hex2binM_slice (m : Msg) (a b : Nat) : hex2binM (slice a b m) = slice (4 * a) (4 * b) (hex2binM m) := by
  unfold slice
  rw [hex2binM_take, hex2binM_drop, Nat.mul_sub]

theorem hex2binM_zeros6 : hex2binM "000000".toList = List.replicate 24 false := by decide

theorem slice_slice_zero {α} (a b : Nat) (l : List α) (h : a ≤ b) : slice 0 a (l.take b) = slice 0 a l := by
  simp [slice, List.take_take, Nat.min_eq_left h]

/-- py_common.df on the hex string = the DF field of the bit string -/
theorem df_eq (m : Msg) : df m = dfB (hex2binM m) := by
  unfold df dfB
  rw [hex2binM_take]
  rw [slice_slice_zero 5 8 _ (by omega)]

/-- py_common.typecode on the hex string = TC field of the bit string -/
theorem typecode_eq (m : Msg) : typecode m = tcB (hex2binM m) := by
  unfold typecode tcB
  rw [df_eq, hex2binM_slice]
  have : slice 0 5 (slice (4 * 8) (4 * 10) (hex2binM m)) = slice 32 37 (hex2binM m) := by
    simp only [slice, List.drop_zero, List.take_take]
    congr 1
  rw [this]

theorem altcode_eq (m : Msg) : altcode m = altcodeB (hex2binM m) := by
  unfold altcode altcodeB; rw [df_eq]

theorem idcode_eq (m : Msg) : idcode m = idcodeB (hex2binM m) := by
  unfold idcode idcodeB; rw [df_eq]

/-- `common.altitude` and `common.squawk` raise RuntimeError unless the field has 13 bits -/
theorem altitude13_of_length_ne {b : Bits} (h : b.length ≠ 13) : altitude13 b = .rte := by
  unfold altitude13
  split
  · simp at h
  · rfl

theorem squawk_of_length_ne {b : Bits} (h : b.length ≠ 13) : squawk b = .rte := by
  unfold squawk
  split
  · simp at h
  · rfl

namespace Fields

/-- a guard "RuntimeError unless …", read positively -/
theorem rte_unless {α} {p q : Prop} [Decidable p] [Decidable q] (h : p ↔ ¬ q) (f : Res α) :
    (if p then .rte else f) = if q then f else .rte := by
  by_cases hq : q
  · rw [if_pos hq, if_neg (fun hp => h.mp hp hq)]
  · rw [if_neg hq, if_pos (h.mpr hq)]

theorem survGuard_eq {α} (bits : Bits) (f : Res α) :
    survGuard bits f = if dfB bits = 4 ∨ dfB bits = 5 then f else .rte :=
  rte_unless (by simp only [not_or]) f

theorem allcallGuard_eq {α} (bits : Bits) (f : Res α) :
    allcallGuard bits f = if dfB bits = 11 then f else .rte :=
  rte_unless Iff.rfl f

theorem bits_ge (m : Msg) {k : Nat} (hl : k ≤ m.length) : 4 * k ≤ (hex2binM m).length := by
  rw [hex2binM_length]; omega

/-- a type code is a 5-bit number -/
theorem tcB_lt {bits : Bits} {tc : Nat} (h : tcB bits = some tc) : tc < 32 := by
  unfold tcB at h
  simp only at h
  split at h
  · have := bin2int_slice_lt bits 32 37
    simp only [Option.some.injEq] at h
    omega
  · simp at h

end Fields

end PyModeS
