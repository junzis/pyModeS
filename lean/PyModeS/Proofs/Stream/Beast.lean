/-
  Beast framer: the scan restarted on the retained raw suffix continues exactly where the
  whole-stream scan would be (two-chunk lemma for `readBeast`), for ARBITRARY byte content.
-/
import PyModeS.Model.Stream

namespace PyModeS.Stream

/-! ### one-step unfoldings -/

theorem beastScan_nil (msg : List Byte) (out : List (List Byte)) (st : List Byte) :
    beastScan [] msg out st = (out.reverse, st) := by
  simp [beastScan]

theorem beastScan_lone (msg : List Byte) (out : List (List Byte)) (st : List Byte) :
    beastScan [0x1A] msg out st = (out.reverse, st) := by
  simp [beastScan]

theorem beastScan_esc (rest msg : List Byte) (out : List (List Byte)) (st : List Byte) :
    beastScan (0x1A :: 0x1A :: rest) msg out st = beastScan rest (msg ++ [0x1A]) out st := by
  simp [beastScan]

theorem beastScan_div (c : Byte) (rest msg : List Byte) (out : List (List Byte)) (st : List Byte)
    (hc : c ≠ 0x1A) :
    beastScan (0x1A :: c :: rest) msg out st
      = beastScan (c :: rest) [] (if msg.isEmpty then out else msg :: out) (0x1A :: c :: rest) := by
  simp [beastScan, hc]

/-- an ordinary byte, whatever follows -/
theorem beastScan_ord' (b : Byte) (y msg : List Byte) (out : List (List Byte)) (st : List Byte)
    (hb : b ≠ 0x1A) :
    beastScan (b :: y) msg out st = beastScan y (msg ++ [b]) out st := by
  cases y with
  | nil => simp [beastScan, hb]
  | cons c rest => simp [beastScan, hb]

/-- an ordinary byte followed by at least one more byte -/
theorem beastScan_ord (b : Byte) (y msg : List Byte) (out : List (List Byte)) (st : List Byte)
    (hb : b ≠ 0x1A) (hy : y ≠ []) :
    beastScan (b :: y) msg out st = beastScan y (msg ++ [b]) out st :=
  beastScan_ord' b y msg out st hb

/-! ### `out` is a pure accumulator -/

theorem beastScan_acc' (x msg : List Byte) (out o0 : List (List Byte)) (st : List Byte) :
    beastScan x msg (out ++ o0) st
      = (o0.reverse ++ (beastScan x msg out st).1, (beastScan x msg out st).2) := by
  fun_induction beastScan x msg out st with
  | case1 msg out st => simp [beastScan_nil]
  | case2 msg out st => simp [beastScan_lone]
  | case3 b msg out st hb ih =>
    rw [beastScan_ord' b [] msg _ st hb]; exact ih
  | case4 b c rest msg out st h ih =>
    obtain ⟨rfl, rfl⟩ := h
    rw [beastScan_esc]; exact ih
  | case5 c rest msg out st h ih =>
    have hc : c ≠ 0x1A := fun hc => h ⟨rfl, hc⟩
    rw [beastScan_div c rest msg _ _ hc, ← ih]
    by_cases hm : msg.isEmpty <;> simp [hm]
  | case6 b c rest msg out st h hb ih =>
    rw [beastScan_ord' b (c :: rest) msg _ st hb]; exact ih

theorem beastScan_acc (x msg : List Byte) (out : List (List Byte)) (st : List Byte) :
    beastScan x msg out st
      = (out.reverse ++ (beastScan x msg [] st).1, (beastScan x msg [] st).2) := by
  simpa using beastScan_acc' x msg [] out st

/-! ### the restart lemma -/

/-- `Resume st x msg`: scanning the retained suffix `st` from scratch reaches the state
    "remaining bytes `x`, open message `msg`", whatever bytes `e` arrive later. -/
def Resume (st x msg : List Byte) : Prop :=
  ∀ (e : List Byte) (out : List (List Byte)),
    beastScan (st ++ e) [] out (st ++ e) = beastScan (x ++ e) msg out (st ++ e)

theorem Resume.init (x : List Byte) : Resume x x [] := fun _ _ => rfl

/-- Main lemma: the whole-stream scan of `x ++ e` equals the scan of `x`, followed by a fresh scan of
    (retained suffix ++ `e`). -/
theorem beastScan_append (x msg : List Byte) (out : List (List Byte)) (st : List Byte)
    (hres : Resume st x msg) (e : List Byte) :
    beastScan (x ++ e) msg out (st ++ e)
      = ((beastScan x msg out st).1
            ++ (beastScan ((beastScan x msg out st).2 ++ e) [] [] ((beastScan x msg out st).2 ++ e)).1,
         (beastScan ((beastScan x msg out st).2 ++ e) [] [] ((beastScan x msg out st).2 ++ e)).2) := by
  fun_induction beastScan x msg out st with
  | case1 msg out st =>
    have h := hres e []
    simp only [List.nil_append] at h ⊢
    rw [h, beastScan_acc e msg out]
  | case2 msg out st =>
    have h := hres e []
    rw [h, beastScan_acc ([26] ++ e) msg out]
  | case3 b msg out st hb ih =>
    have hstep : ∀ e' out', beastScan ([b] ++ e') msg out' (st ++ e')
        = beastScan ([] ++ e') (msg ++ [b]) out' (st ++ e') := by
      intro e' out'
      exact beastScan_ord' b e' msg out' _ hb
    have hres' : Resume st [] (msg ++ [b]) := fun e' out' => by
      rw [hres e' out', hstep]
    rw [hstep e out]
    exact ih hres'
  | case4 b c rest msg out st h ih =>
    obtain ⟨rfl, rfl⟩ := h
    have hres' : Resume st rest (msg ++ [0x1A]) := fun e' out' => by
      rw [hres e' out']; exact beastScan_esc _ _ _ _
    have := ih hres'
    rw [← this]; exact beastScan_esc _ _ _ _
  | case5 c rest msg out st h ih =>
    have hc : c ≠ 0x1A := fun hc => h ⟨rfl, hc⟩
    have hres' : Resume (0x1A :: c :: rest) (c :: rest) [] := fun e' out' => by
      have := beastScan_div c (rest ++ e') [] out' (0x1A :: c :: rest ++ e') hc
      simpa using this
    have := ih hres'
    rw [← this]
    exact beastScan_div c (rest ++ e) msg out _ hc
  | case6 b c rest msg out st h hb ih =>
    have hres' : Resume st (c :: rest) (msg ++ [b]) := fun e' out' => by
      rw [hres e' out']; exact beastScan_ord' b _ msg out' _ hb
    have := ih hres'
    rw [← this]
    exact beastScan_ord' b _ msg out _ hb

/-- Two-chunk lemma for the Beast reader, arbitrary bytes. -/
theorem readBeast_append (a b : List Byte) :
    readBeast (a ++ b)
      = ((readBeast a).1 ++ (readBeast ((readBeast a).2 ++ b)).1,
         (readBeast ((readBeast a).2 ++ b)).2) := by
  have h := beastScan_append a [] [] a (Resume.init a) b
  simp only [readBeast]
  rw [h]
  simp [List.filterMap_append]

theorem readBeast_nil : readBeast [] = ([], []) := by
  simp [readBeast, beastScan_nil]

end PyModeS.Stream
