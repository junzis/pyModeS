/-
  NetSource.handle_messages: the `for` loop appends the long DF17/18 messages to `adsb` and the long
  DF20/21 messages to `commb`, in order; closed form of one call.
-/
import PyModeS.Model.Stream

namespace PyModeS.Stream

/-- long ADS-B / TIS-B message (what goes to the `adsb` buffer) -/
def isAdsb (m : Msg) : Bool := decide (m.length ≥ 28 ∧ (df m = 17 ∨ df m = 18))
/-- long Comm-B message (what goes to the `commb` buffer) -/
def isCommb (m : Msg) : Bool := decide (m.length ≥ 28 ∧ (df m = 20 ∨ df m = 21))

/-- the body of the `for` loop -/
def nsStep (s : NetSrc) (m : Msg) : NetSrc :=
  if m.length < 28 then s else
  let d := df m
  if d = 17 ∨ d = 18 then { s with adsb := s.adsb ++ [m] }
  else if d = 20 ∨ d = 21 then { s with commb := s.commb ++ [m] }
  else s

theorem nsStep_eq (s : NetSrc) (m : Msg) :
    nsStep s m = ⟨s.adsb ++ [m].filter isAdsb, s.commb ++ [m].filter isCommb⟩ := by
  unfold nsStep isAdsb isCommb
  by_cases hl : m.length < 28
  · have : ¬ m.length ≥ 28 := by omega
    simp [hl, this]
  · have hl' : m.length ≥ 28 := by omega
    by_cases h1 : df m = 17 ∨ df m = 18
    · have h2 : ¬ (df m = 20 ∨ df m = 21) := by omega
      simp [hl, hl', h1, h2]
    · by_cases h2 : df m = 20 ∨ df m = 21
      · simp [hl, hl', h1, h2]
      · simp [hl, hl', h1, h2]

theorem nsFold_eq (msgs : List Msg) : ∀ s : NetSrc,
    msgs.foldl nsStep s = ⟨s.adsb ++ msgs.filter isAdsb, s.commb ++ msgs.filter isCommb⟩ := by
  induction msgs with
  | nil => intro s; simp
  | cons m ms ih =>
    intro s
    rw [List.foldl_cons, ih, nsStep_eq]
    have e : m :: ms = [m] ++ ms := rfl
    rw [e, List.filter_append, List.filter_append]
    simp [List.append_assoc]

/-- one call is the loop `nsStep` over the messages, then the send / reset -/
theorem nsHandle_fold (s : NetSrc) (msgs : List Msg) :
    nsHandle s msgs =
      if (msgs.foldl nsStep s).adsb.length > 1 then
        (⟨[], []⟩, some ((msgs.foldl nsStep s).adsb, (msgs.foldl nsStep s).commb))
      else (msgs.foldl nsStep s, none) := rfl

/-- closed form of one call of `handle_messages` -/
theorem nsHandle_eq (s : NetSrc) (msgs : List Msg) :
    nsHandle s msgs =
      if (s.adsb ++ msgs.filter isAdsb).length > 1 then
        (⟨[], []⟩, some (s.adsb ++ msgs.filter isAdsb, s.commb ++ msgs.filter isCommb))
      else (⟨s.adsb ++ msgs.filter isAdsb, s.commb ++ msgs.filter isCommb⟩, none) := by
  rw [nsHandle_fold, nsFold_eq]

end PyModeS.Stream
