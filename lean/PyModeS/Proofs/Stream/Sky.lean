/-
  Skysense framer.  The loop is studied once over any item function `g` (`skyG`: the hand model emits the message
  text, the source `[text, ts]`): fuel sufficiency, fuel-free recursion equation, two-chunk lemma for arbitrary bytes
  when `g` looks only at the first 24 bytes.  `readSky` is the instance `g = skyPayload`.
-/
import PyModeS.Proofs.Bits
import PyModeS.Model.Stream

namespace PyModeS.C16Gen
open PyModeS

def skyG {α} (g : List Byte → α) : Nat → List Byte → List α → List α × List Byte
  | 0, buf, out => (out.reverse, buf)
  | fuel + 1, buf, out =>
    if buf.length ≤ 24 then (out.reverse, buf)
    else if buf.getD 0 0 = 0x24 ∧ buf.getD 24 0 = 0x24 then skyG g fuel (buf.drop 24) (g buf :: out)
    else skyG g fuel (buf.drop 1) out

theorem skyG_zero {α} (g : List Byte → α) (buf : List Byte) (out : List α) : skyG g 0 buf out = (out.reverse, buf) := rfl

theorem skyG_succ {α} (g : List Byte → α) (fuel : Nat) (buf : List Byte) (out : List α) :
    skyG g (fuel + 1) buf out =
      if buf.length ≤ 24 then (out.reverse, buf)
      else if buf.getD 0 0 = 0x24 ∧ buf.getD 24 0 = 0x24 then skyG g fuel (buf.drop 24) (g buf :: out)
      else skyG g fuel (buf.drop 1) out := rfl

/-- a projection of the items commutes with the loop (the message texts of the `[text, ts]` items) -/
theorem skyG_map {α β} (f : α → β) (g : List Byte → α) (n : Nat) : ∀ (buf : List Byte) (out : List α),
    skyG (fun b => f (g b)) n buf (out.map f) = ((skyG g n buf out).1.map f, (skyG g n buf out).2) := by
  induction n with
  | zero => intro buf out; rw [skyG_zero, skyG_zero, List.map_reverse]
  | succ n ih =>
    intro buf out
    rw [skyG_succ, skyG_succ]
    split
    · rw [List.map_reverse]
    · split
      · exact ih _ (g buf :: out)
      · exact ih _ out

theorem skyG_fuel {α} (g : List Byte → α) (f1 : Nat) : ∀ (f2 : Nat) (buf : List Byte) (out : List α),
    buf.length ≤ f1 → buf.length ≤ f2 → skyG g f1 buf out = skyG g f2 buf out := by
  induction f1 with
  | zero =>
    intro f2 buf out h1 _
    have hb : buf = [] := List.eq_nil_of_length_eq_zero (by omega)
    subst hb
    cases f2 with
    | zero => rfl
    | succ m => simp [skyG_zero, skyG_succ]
  | succ n ih =>
    intro f2 buf out h1 h2
    cases f2 with
    | zero =>
      have hb : buf = [] := List.eq_nil_of_length_eq_zero (by omega)
      subst hb
      simp [skyG_zero, skyG_succ]
    | succ m =>
      rw [skyG_succ, skyG_succ]
      by_cases hl : buf.length ≤ 24
      · simp [hl]
      · simp only [hl, if_false]
        have hd24 : (buf.drop 24).length ≤ n ∧ (buf.drop 24).length ≤ m := by
          simp only [List.length_drop]; omega
        have hd1 : (buf.drop 1).length ≤ n ∧ (buf.drop 1).length ≤ m := by
          simp only [List.length_drop]; omega
        rw [ih m (buf.drop 24) _ hd24.1 hd24.2, ih m (buf.drop 1) _ hd1.1 hd1.2]

/-- fuel-free form -/
def skyRunG {α} (g : List Byte → α) (buf : List Byte) (out : List α) : List α × List Byte :=
  skyG g buf.length buf out

theorem skyRunG_short {α} (g : List Byte → α) (buf : List Byte) (out : List α) (h : buf.length ≤ 24) :
    skyRunG g buf out = (out.reverse, buf) := by
  unfold skyRunG
  cases hn : buf.length with
  | zero => simp [skyG_zero]
  | succ n => rw [skyG_succ]; simp [h]

theorem skyRunG_long {α} (g : List Byte → α) (buf : List Byte) (out : List α) (h : ¬ buf.length ≤ 24) :
    skyRunG g buf out =
      if buf.getD 0 0 = 0x24 ∧ buf.getD 24 0 = 0x24 then skyRunG g (buf.drop 24) (g buf :: out)
      else skyRunG g (buf.drop 1) out := by
  unfold skyRunG
  cases hn : buf.length with
  | zero => omega
  | succ n =>
    rw [skyG_succ]
    simp only [h, if_false]
    have h24 : (buf.drop 24).length ≤ n := by simp only [List.length_drop]; omega
    have h1 : (buf.drop 1).length ≤ n := by simp only [List.length_drop]; omega
    rw [skyG_fuel g n (buf.drop 24).length (buf.drop 24) _ h24 (Nat.le_refl _),
        skyG_fuel g n (buf.drop 1).length (buf.drop 1) _ h1 (Nat.le_refl _)]

theorem skyRunG_acc {α} (g : List Byte → α) (n : Nat) : ∀ (buf : List Byte) (out : List α), buf.length ≤ n →
    skyRunG g buf out = (out.reverse ++ (skyRunG g buf []).1, (skyRunG g buf []).2) := by
  induction n with
  | zero =>
    intro buf out h
    rw [skyRunG_short g buf out (by omega), skyRunG_short g buf [] (by omega)]; simp
  | succ n ih =>
    intro buf out h
    by_cases hl : buf.length ≤ 24
    · rw [skyRunG_short g buf out hl, skyRunG_short g buf [] hl]; simp
    · rw [skyRunG_long g buf out hl, skyRunG_long g buf [] hl]
      have h24 : (buf.drop 24).length ≤ n := by simp only [List.length_drop]; omega
      have h1 : (buf.drop 1).length ≤ n := by simp only [List.length_drop]; omega
      split
      · rw [ih _ (g buf :: out) h24, ih _ [g buf] h24]; simp
      · exact ih _ out h1

theorem getD_append_left (x e : List Byte) (i : Nat) (hi : i < x.length) : (x ++ e).getD i 0 = x.getD i 0 := by
  simp [List.getD_eq_getElem?_getD, List.getElem?_append_left hi]

/-- restart lemma, for an item function that looks only at the first 24 bytes -/
theorem skyRunG_append {α} (g : List Byte → α) (hg : ∀ x e, ¬ x.length ≤ 24 → g (x ++ e) = g x)
    (e : List Byte) (n : Nat) : ∀ (x : List Byte) (out : List α), x.length ≤ n →
    skyRunG g (x ++ e) out
      = ((skyRunG g x out).1 ++ (skyRunG g ((skyRunG g x out).2 ++ e) []).1,
         (skyRunG g ((skyRunG g x out).2 ++ e) []).2) := by
  induction n with
  | zero =>
    intro x out h
    rw [skyRunG_short g x out (by omega)]
    exact skyRunG_acc g _ _ out (Nat.le_refl _)
  | succ n ih =>
    intro x out h
    by_cases hl : x.length ≤ 24
    · rw [skyRunG_short g x out hl]
      exact skyRunG_acc g _ _ out (Nat.le_refl _)
    · have hl' : ¬ (x ++ e).length ≤ 24 := by simp only [List.length_append]; omega
      rw [skyRunG_long g (x ++ e) out hl', skyRunG_long g x out hl, getD_append_left x e 0 (by omega),
        getD_append_left x e 24 (by omega), hg x e hl]
      have h24 : (x.drop 24).length ≤ n := by simp only [List.length_drop]; omega
      have h1 : (x.drop 1).length ≤ n := by simp only [List.length_drop]; omega
      rw [List.drop_append_of_le_length (by omega), List.drop_append_of_le_length (by omega)]
      split
      · exact ih _ _ h24
      · exact ih _ _ h1

theorem skyG_suffix {α} (g : List Byte → α) (n : Nat) : ∀ (buf : List Byte) (out : List α),
    (skyG g n buf out).2 <:+ buf := by
  induction n with
  | zero => intro buf out; exact List.suffix_refl _
  | succ n ih =>
    intro buf out
    rw [skyG_succ]
    split
    · exact List.suffix_refl _
    · split
      · exact (ih _ _).trans (List.drop_suffix _ _)
      · exact (ih _ _).trans (List.drop_suffix _ _)

end PyModeS.C16Gen

namespace PyModeS.Stream
open PyModeS.C16Gen

/-- the message emitted when a frame is recognised at the head of `buf` -/
def skyPayload (buf : List Byte) : Msg :=
  hexOfBytes (if buf.getD 1 0 >>> 7 ≠ 0 then slice 1 15 buf else slice 1 8 buf)

theorem skyLoop_zero (buf : List Byte) (out : List Msg) : skyLoop 0 buf out = (out.reverse, buf) := by
  simp [skyLoop]

theorem skyLoop_succ (fuel : Nat) (buf : List Byte) (out : List Msg) :
    skyLoop (fuel + 1) buf out =
      if buf.length ≤ 24 then (out.reverse, buf)
      else if buf.getD 0 0 = 0x24 ∧ buf.getD 24 0 = 0x24 then
        skyLoop fuel (buf.drop 24) (skyPayload buf :: out)
      else skyLoop fuel (buf.drop 1) out := by
  simp [skyLoop, skyPayload]

theorem skyLoop_eq (n : Nat) : ∀ (buf : List Byte) (out : List Msg), skyLoop n buf out = skyG skyPayload n buf out := by
  induction n with
  | zero => intro buf out; rfl
  | succ n ih => intro buf out; rw [skyLoop_succ, skyG_succ, ih, ih]

/-- fuel-free form of the loop -/
def skyRun (buf : List Byte) (out : List Msg) : List Msg × List Byte := skyLoop buf.length buf out

theorem readSky_eq (buf : List Byte) : readSky buf = skyRun buf [] := rfl

/-- the payload is read from bytes 1 … 14 of a buffer longer than 24 bytes -/
theorem skyPayload_local (x e : List Byte) (h : ¬ x.length ≤ 24) : skyPayload (x ++ e) = skyPayload x := by
  unfold skyPayload
  rw [getD_append_left x e 1 (by omega), slice_append_left x e 1 15 (by omega), slice_append_left x e 1 8 (by omega)]

/-- Two-chunk lemma for the Skysense reader, arbitrary bytes. -/
theorem readSky_append (a b : List Byte) :
    readSky (a ++ b)
      = ((readSky a).1 ++ (readSky ((readSky a).2 ++ b)).1,
         (readSky ((readSky a).2 ++ b)).2) := by
  simp only [readSky, skyLoop_eq]
  exact skyRunG_append skyPayload skyPayload_local b a.length a [] (Nat.le_refl _)

theorem readSky_nil : readSky [] = ([], []) := by
  simp [readSky, skyLoop_zero]

end PyModeS.Stream
