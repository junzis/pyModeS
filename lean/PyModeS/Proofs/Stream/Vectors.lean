/-
  The Beast and Skysense byte streams and the NetSource call sequence that `Properties/C16.lean` uses as
  examples, each with the result of running the model on it, evaluated once; and `nsRun`, the iteration
  of `handle_messages` over successive calls, in which the NetSource statements are written.
-/
import PyModeS.Model.Stream
namespace PyModeS.C16

/-- iterate `handle_messages` over successive calls: final local buffers and, per call, what was
    put on the pipe (`none`: nothing sent) -/
def nsRun : NetSrc → List (List Msg) → NetSrc × List (Option (List Msg × List Msg))
  | s, [] => (s, [])
  | s, c :: cs => ((nsRun (nsHandle s c).1 cs).1, (nsHandle s c).2 :: (nsRun (nsHandle s c).1 cs).2)

/-- all ADS-B messages put on the pipe, in order -/
def sentAdsb (os : List (Option (List Msg × List Msg))) : List Msg :=
  os.flatMap (fun o => match o with | none => [] | some (a, _) => a)

/-- all Comm-B messages put on the pipe, in order -/
def sentCommb (os : List (Option (List Msg × List Msg))) : List Msg :=
  os.flatMap (fun o => match o with | none => [] | some (_, c) => c)


/-! Example: two Beast frames — a long DF17 frame whose timestamp contains `0x1A` (escaped) and a
    short DF11 frame whose signal byte is `0x1A` (escaped) — followed by the start `1A 33` of a third.
    Cuts: inside the first escape pair, inside the second escape pair, right after the last divider
    (lone trailing `0x1A`), plus an empty chunk. -/
def exBeast : List (List Byte) :=
  [ [0x1A, 0x33, 0x00, 0x1A],
    [0x1A, 0x02, 0x03, 0x04, 0x05, 0x50, 0x8D, 0x48, 0x40, 0xD6, 0x20, 0x2C, 0xC3, 0x71, 0xC3, 0x2C,
      0xE0, 0x57, 0x60, 0x98, 0x1A, 0x32, 0x01, 0x02, 0x03, 0x04, 0x05, 0x06, 0x1A],
    [0x1A, 0x5D, 0x48, 0x4B, 0xA8, 0x98, 0xF8, 0xC6, 0x1A],
    [],
    [0x33] ]

theorem exBeast_feed : feedAll .beast exBeast [] []
    = (["8D4840D6202CC371C32CE0576098".toList, "5D484BA898F8C6".toList], [0x1A, 0x33]) := by decide +kernel

/-! Example: one garbage byte, a long frame, a short frame, and the `$` of a third frame; cut inside
    the frames and delivered partly byte by byte. -/
def exSky : List (List Byte) :=
  [ [0xFF, 0x24, 0x8D], [0x48], [0x40, 0xD6, 0x20, 0x2C, 0xC3, 0x71, 0xC3, 0x2C, 0xE0, 0x57, 0x60, 0x98,
      0x80, 0, 0, 0, 0, 1, 1, 2], [3], [0x24], [],
    [0x5D, 0x48, 0x4B, 0xA8, 0x98, 0xF8, 0xC6, 0, 0, 0, 0, 0, 0, 0, 0x80, 0, 0, 0, 0, 2, 4, 5, 6],
    [0x24] ]

theorem exSky_feed : feedAll .skysense exSky [] []
    = (["8D4840D6202CC371C32CE0576098".toList, "5D484BA898F8C6".toList], [0x24]) := by decide +kernel

/-! Example: five calls — (DF17, short DF11), (DF20), (DF17, DF21, DF18), (), (DF4 long-looking junk, DF18).
    The third call is the only one after which two ADS-B messages wait: it sends
    `([a17, a17, a18], [b20, b21])`; at the end one DF18 is pending. -/
def a17 : Msg := "8D4840D6202CC371C32CE0576098".toList
def a18 : Msg := "904840D6202CC371C32CE0576098".toList
def b20 : Msg := "A0001838CA3E51F0A8000047A36A".toList
def b21 : Msg := "A8001EBCFFFB23286004A73F6A5B".toList
def s11 : Msg := "5D484BA898F8C6".toList
def exCalls : List (List Msg) := [[a17, s11], [b20], [a17, b21, a18], [], ["20001838CA3E51F0A8000047A36A".toList, a18]]

theorem exCalls_run : nsRun ⟨[], []⟩ exCalls
    = (⟨[a18], []⟩, [none, none, some ([a17, a17, a18], [b20, b21]), none, none]) := by decide +kernel

end PyModeS.C16
