/-
  The message-level functions `crc` and `crcLegacy` of the model, in terms of `Spec.remH`.
-/
import PyModeS.Proofs.CRC.HexStr
import PyModeS.Proofs.CRC.Bytes
namespace PyModeS.CRC
open PyModeS PyModeS.Spec

/-- obligation on the regenerated table: `crc_legacy`'s array is the 25 coefficient bits of G -/
theorem crcLegacyGen_eq : Tables.crcLegacyGen = gen25 := by decide +kernel

theorem crcLegacy_bits (bits : Bits) (h : 24 ≤ bits.length) :
    bin2int (takeLast 24 (crcLegacyLoop Tables.crcLegacyGen bits)) = remH bits := by
  rw [crcLegacyGen_eq, crcLegacyLoop_gen25 bits h]
  have := takeLast_append (zeros (bits.length - 24)) (natToBits 24 (remH bits))
  rw [natToBits_length] at this
  rw [this, bin2int_natToBits_of_lt (remH_lt bits)]

/-- the bit string `crc_legacy` divides -/
def legacyInput (m : Msg) (encode : Bool) : Bits :=
  if encode then dropLast 24 (hex2binM m) ++ List.replicate 24 false else hex2binM m

theorem legacyInput_length (m : Msg) (encode : Bool) (h : 24 ≤ (hex2binM m).length) :
    (legacyInput m encode).length = (hex2binM m).length := by
  unfold legacyInput
  cases encode
  · rfl
  · simp [dropLast]; omega

/-- `C01.crcLegacy_eq_remainder` -/
theorem crcLegacy_eq_remH (m : Msg) (encode : Bool) (h : 24 ≤ (hex2binM m).length) :
    crcLegacy m encode = remH (legacyInput m encode) := by
  have := crcLegacy_bits (legacyInput m encode) (by rw [legacyInput_length m encode h]; exact h)
  rw [← this]
  rfl

/-- the bit string `crc` divides -/
theorem crc_input (m : Msg) (encode : Bool) :
    crc m encode = crcBitsPy (if encode then hex2binM (dropLast 6 m) ++ List.replicate 24 false
      else hex2binM m) := by
  unfold crc
  cases encode
  · rfl
  · simp only [if_true]; rw [hex2binM_append', hex2binM_zeros6]

theorem crc_false_eq_remH (m : Msg) (h6 : 6 ≤ m.length) (h2 : m.length % 2 = 0) :
    crc m false = remH (hex2binM m) := by
  rw [crc_input]
  simp only [Bool.false_eq_true, if_false]
  have := hex2binM_length m
  exact crcBitsPy_eq_remH _ (by omega) (by omega)

/-- behind `C01.crc_encode_ignores_parity`: `encode=True` divides the data bits followed by 24 zeros -/
theorem crc_true_eq_remH (m : Msg) (h6 : 6 ≤ m.length) (h2 : m.length % 2 = 0) :
    crc m true = remH (hex2binM (dropLast 6 m) ++ List.replicate 24 false) := by
  rw [crc_input]
  simp only [if_true]
  have h : (hex2binM (dropLast 6 m) ++ List.replicate 24 false).length = 4 * (m.length - 6) + 24 := by
    rw [List.length_append, hex2binM_length]; simp [dropLast]
  exact crcBitsPy_eq_remH _ (by omega) (by omega)

theorem hex2binM_dropLast (m : Msg) : hex2binM (dropLast 6 m) = dropLast 24 (hex2binM m) := by
  unfold dropLast
  rw [hex2binM_take, hex2binM_length]
  congr 1; omega

theorem hex2binM_takeLast (m : Msg) : hex2binM (takeLast 6 m) = takeLast 24 (hex2binM m) := by
  unfold takeLast
  rw [hex2binM_drop, hex2binM_length]
  congr 1; omega

/-- the two implementations agree -/
theorem crc_eq_crcLegacy (m : Msg) (encode : Bool) (h6 : 6 ≤ m.length) (h2 : m.length % 2 = 0) :
    crc m encode = crcLegacy m encode := by
  have hl := hex2binM_length m
  rw [crcLegacy_eq_remH m encode (by omega)]
  unfold legacyInput
  cases encode
  · exact crc_false_eq_remH m h6 h2
  · rw [crc_true_eq_remH m h6 h2, hex2binM_dropLast]; rfl

end PyModeS.CRC
