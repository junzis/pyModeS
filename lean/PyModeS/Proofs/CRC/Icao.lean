/-
  Address/parity overlay (`remH_append_field` of Proofs/CRC/Detect.lean) at the level of messages: `icao` on AP
  formats, the encoder `encodeAP` (data bits followed by parity XOR address) and its round trip, letter-case
  insensitivity, and the remainder of a frame that carries an interrogator code (`crcBitsPy_code`).
-/
import PyModeS.Proofs.CRC.Model
import PyModeS.Proofs.CRC.Detect
namespace PyModeS.CRC
open PyModeS PyModeS.Spec

theorem xor_xor_cancel (p a : Nat) : p ^^^ (p ^^^ a) = a := by
  rw [← Nat.xor_assoc, Nat.xor_self, Nat.zero_xor]

/-- remainder of a frame = parity(data) xor the last 24 bits -/
theorem remH_frame (bits : Bits) (h : 24 ≤ bits.length) :
    remH bits = remH (dropLast 24 bits ++ zeros 24) ^^^ bin2int (takeLast 24 bits) := by
  have hl : (takeLast 24 bits).length = 24 := by simp [takeLast]; omega
  have e : bits = dropLast 24 bits ++ natToBits 24 (bin2int (takeLast 24 bits)) := by
    have := natToBits_bin2int (takeLast 24 bits)
    rw [hl] at this
    rw [this]; exact (List.take_append_drop _ _).symm
  have hlt : bin2int (takeLast 24 bits) < 2 ^ 24 := by
    have := bin2int_lt (takeLast 24 bits); rwa [hl] at this
  conv => lhs; rw [e]
  exact remH_append_field _ _ hlt

/-! ### icao -/

theorem icao_AP_of (m : Msg) (A : Nat) (h6 : 6 ≤ m.length) (h2 : m.length % 2 = 0)
    (hdf : df m = 0 ∨ df m = 4 ∨ df m = 5 ∨ df m = 16 ∨ df m = 20 ∨ df m = 21)
    (hap : hexToNatM (takeLast 6 m) =
      remH (hex2binM (dropLast 6 m) ++ List.replicate 24 false) ^^^ A) :
    icao m = some (hex6 A) := by
  have h1 : ¬ (df m = 11 ∨ df m = 17 ∨ df m = 18) := by omega
  unfold icao
  simp only [h1, if_false, hdf, if_true]
  rw [crc_true_eq_remH m h6 h2, hap, xor_xor_cancel]

/-- `icao` of a concrete AP-format frame is checked on the remainder, without running the byte-wise divider -/
theorem icao_AP_check {m r : Msg} {A : Nat}
    (h : 6 ≤ m.length ∧ m.length % 2 = 0 ∧
      (df m = 0 ∨ df m = 4 ∨ df m = 5 ∨ df m = 16 ∨ df m = 20 ∨ df m = 21) ∧
      hexToNatM (takeLast 6 m) = remH (hex2binM (dropLast 6 m) ++ List.replicate 24 false) ^^^ A ∧
      hex6 A = r) : icao m = some r :=
  h.2.2.2.2 ▸ icao_AP_of m A h.1 h.2.1 h.2.2.1 h.2.2.2.1

theorem slice_0_5_append (d x : Bits) (h : 5 ≤ d.length) : slice 0 5 (d ++ x) = slice 0 5 d := by
  simp [slice, List.take_append_of_le_length h]

theorem dfB_append (d x : Bits) (h : 5 ≤ d.length) : dfB (d ++ x) = dfB d := by
  unfold dfB; rw [slice_0_5_append d x h]

/-- the downlink AP encoder: data bits followed by `parity xor address`, as a hex string -/
def encodeAP (d : Bits) (A : Nat) : Msg :=
  hexOfBits (d ++ natToBits 24 (remH (d ++ List.replicate 24 false) ^^^ A))

theorem hex2binM_encodeAP (d : Bits) (A : Nat) (h4 : d.length % 4 = 0) :
    hex2binM (encodeAP d A) = d ++ natToBits 24 (remH (d ++ List.replicate 24 false) ^^^ A) :=
  hex2binM_hexOfBits _ (by simp; omega)

theorem encodeAP_length (d : Bits) (A : Nat) : (encodeAP d A).length = (d.length + 24) / 4 := by
  simp [encodeAP, hexOfBits_length]

/-- a frame built as `data ++ (parity xor code)` satisfies the hypothesis of `crcBitsPy_code` -/
theorem frame_field_spec (d : Bits) (code : Nat) (hc : code < 2 ^ 24) :
    let bits := d ++ natToBits 24 (remH (d ++ List.replicate 24 false) ^^^ code)
    dropLast 24 bits = d ∧
    bin2int (takeLast 24 bits) = remH (dropLast 24 bits ++ List.replicate 24 false) ^^^ code := by
  intro bits
  have hx : remH (d ++ List.replicate 24 false) ^^^ code < 2 ^ 24 :=
    Nat.xor_lt_two_pow (remH_lt _) hc
  have h1 : dropLast 24 bits = d := by
    have := dropLast_append_length d (natToBits 24 (remH (d ++ List.replicate 24 false) ^^^ code))
    rwa [natToBits_length] at this
  have h2 : takeLast 24 bits = natToBits 24 (remH (d ++ List.replicate 24 false) ^^^ code) := by
    have := takeLast_append d (natToBits 24 (remH (d ++ List.replicate 24 false) ^^^ code))
    rwa [natToBits_length] at this
  exact ⟨h1, by rw [h1, h2, bin2int_natToBits_of_lt hx]⟩

theorem encodeAP_spec (d : Bits) (A : Nat) (hA : A < 2 ^ 24) (h4 : d.length % 4 = 0) :
    hex2binM (dropLast 6 (encodeAP d A)) = d ∧
    hexToNatM (takeLast 6 (encodeAP d A)) =
      remH (hex2binM (dropLast 6 (encodeAP d A)) ++ List.replicate 24 false) ^^^ A := by
  have hs := frame_field_spec d A hA
  rw [← hex2binM_encodeAP d A h4] at hs
  rw [hex2binM_dropLast, hexToNatM_eq_bin2int, hex2binM_takeLast]
  exact hs

theorem icao_encodeAP (d : Bits) (A : Nat) (hA : A < 2 ^ 24) (h8 : d.length % 8 = 0) (hd : 8 ≤ d.length)
    (hdf : dfB d = 0 ∨ dfB d = 4 ∨ dfB d = 5 ∨ dfB d = 16 ∨ dfB d = 20 ∨ dfB d = 21) :
    icao (encodeAP d A) = some (hex6 A) := by
  have h4 : d.length % 4 = 0 := by omega
  have hl : 6 ≤ (encodeAP d A).length ∧ (encodeAP d A).length % 2 = 0 := by
    rw [encodeAP_length]; omega
  have hdf' : df (encodeAP d A) = dfB d := by
    rw [df_eq, hex2binM_encodeAP d A h4, dfB_append _ _ (Nat.le_trans (by decide) hd)]
  exact icao_AP_of _ A hl.1 hl.2 (hdf' ▸ hdf) (encodeAP_spec d A hA h4).2

/-! ### letter case -/

theorem crc_map (f : Char → Char) (m : Msg) (e : Bool) (hf : ∀ c ∈ m, hexVal (f c) = hexVal c) :
    crc (m.map f) e = crc m e := by
  unfold crc
  cases e
  · simp only [Bool.false_eq_true, if_false]; rw [hex2binM_map f m hf]
  · simp only [if_true]
    rw [hex2binM_append', hex2binM_append', dropLast_map,
      hex2binM_map f (dropLast 6 m) (fun c hc => hf c (List.mem_of_mem_take hc))]

theorem df_map (f : Char → Char) (m : Msg) (hf : ∀ c ∈ m, hexVal (f c) = hexVal c) :
    df (m.map f) = df m := by
  unfold df
  rw [← List.map_take, hex2binM_map f (m.take 2) (fun c hc => hf c (List.mem_of_mem_take hc))]

theorem icao_map (f : Char → Char) (m : Msg)
    (hf : ∀ c ∈ m, hexVal (f c) = hexVal c ∧ (f c).toUpper = c.toUpper) :
    icao (m.map f) = icao m := by
  have hv : ∀ c ∈ m, hexVal (f c) = hexVal c := fun c hc => (hf c hc).1
  unfold icao
  simp only [df_map f m hv, crc_map f m true hv]
  rw [takeLast_map, hexToNatM_map f (takeLast 6 m) (fun c hc => hv c (List.mem_of_mem_drop hc)), slice_map,
    List.map_map]
  have : (slice 2 8 m).map (Char.toUpper ∘ f) = (slice 2 8 m).map Char.toUpper := by
    apply List.map_congr_left
    intro c hc
    exact (hf c (List.mem_of_mem_drop (List.mem_of_mem_take hc))).2
  rw [this]

theorem icao_toLower (m : Msg) (h : IsHex m) : icao (m.map Char.toLower) = icao m :=
  icao_map _ m (isHex_toLower h)

theorem icao_toUpper (m : Msg) (h : IsHex m) : icao (m.map Char.toUpper) = icao m :=
  icao_map _ m (isHex_toUpper h)

/-- DF 11/17/18: the upper-cased AA field is the canonical rendering of its value -/
theorem icao_AA_canonical (m : Msg) (h : IsHex m) (h8 : 8 ≤ m.length)
    (hdf : df m = 11 ∨ df m = 17 ∨ df m = 18) :
    icao m = some (hex6 (hexToNatM (slice 2 8 m))) ∧ hexToNatM (slice 2 8 m) < 2 ^ 24 := by
  have hl : (slice 2 8 m).length = 6 := by rw [slice_length_of_le h8]
  have hlt : hexToNatM (slice 2 8 m) < 2 ^ 24 := by
    have := hexToNatM_lt (slice 2 8 m); rw [hl] at this; exact this
  refine ⟨?_, hlt⟩
  unfold icao
  simp only [hdf, if_true]
  rw [hex6_eq_hexN hlt, map_toUpper_eq_hexN _ (isHex_slice h 2 8), hl]

/-- a frame whose last 24 bits are `parity xor code` (an interrogator code in DF 11 replies, an address elsewhere) -/
theorem crcBitsPy_code (bits : Bits) (code : Nat) (h8 : bits.length % 8 = 0) (h24 : 24 ≤ bits.length)
    (hap : bin2int (takeLast 24 bits) = remH (dropLast 24 bits ++ List.replicate 24 false) ^^^ code) :
    crcBitsPy bits = code := by
  rw [crcBitsPy_eq_remH bits h8 h24, remH_frame bits h24, hap, xor_xor_cancel]

end PyModeS.CRC
