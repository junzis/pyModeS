/-
  All error patterns of weight 1…5 within 112 bits have a non-zero remainder
  (minimum distance of the Mode S code on 112-bit frames is at least 6).
-/
import PyModeS.Proofs.CRC.Syndrome
namespace PyModeS.CRC
open PyModeS PyModeS.Spec

/-- `x^1 … x^111 mod G` -/
abbrev syns : List Nat := orbit 111 2

/-- The one finite fact: `s + t + 1` is not a syndrome for any two syndromes `s`, `t` (6105 pairs), and 1 is
    not a syndrome.  Membership is tested on the low 18 bits, which happen to separate all these values from
    the 111 syndromes. -/
theorem syns_cert : pairwiseB (fun s t => bitClear (sieve (2 ^ 18) syns) (2 ^ 18) (s ^^^ t ^^^ 1)) syns = true ∧
    bitClear (sieve (2 ^ 18) syns) (2 ^ 18) 1 = true := by decide +kernel

theorem syn_mem_syns {k : Nat} (h1 : 1 ≤ k) (h2 : k ≤ 111) : syn k ∈ syns := by
  have := syn_mem_orbit (n := 111) (j := k - 1) (by omega) 1
  rwa [show 1 + (k - 1) = k by omega, show syn 1 = 2 by decide] at this

/-- weights 2 (`y = z`) and 4: `x^z + x^y + 1 ≢ x^x` for exponents in 1 … 111 -/
theorem syn_xor3 {x y z : Nat} (hx : 1 ≤ x ∧ x ≤ 111) (hy : 1 ≤ y ∧ y ≤ 111) (hz : 1 ≤ z ∧ z ≤ 111) :
    syn z ^^^ syn y ^^^ 1 ≠ syn x := by
  intro h
  refine not_mem_of_bitClear (forall_of_pairwiseB ?_ ?_ syns_cert.1 _ (syn_mem_syns hz.1 hz.2) _
    (syn_mem_syns hy.1 hy.2)) (h ▸ syn_mem_syns hx.1 hx.2)
  · intro a b; rw [Nat.xor_comm a b]
  · intro a _; rw [Nat.xor_self]; exact syns_cert.2

/-- the factor `x^a` taken out of an exponent list ending in `a` -/
theorem xorSyn_snoc_eq_zero {l : List Nat} {a : Nat} (h : xorSyn (l ++ [a]) = 0) (hl : ∀ x ∈ l, a ≤ x) :
    xorSyn (l.map (· - a)) = 1 := by
  have e : l ++ [a] = (l.map (· - a) ++ [0]).map (· + a) := by
    rw [List.map_append, List.map_map, List.map_congr_left (g := id), List.map_id]
    · simp
    · intro x hx; exact Nat.sub_add_cancel (hl x hx)
  rw [e, xorSyn_shift_eq_zero_iff, xorSyn_append] at h
  exact (nat_xor_eq_zero h).trans (congrArg (· ^^^ 0) syn_zero)

/-- weights 2 and 4 with the lowest exponent divided out -/
theorem xorSyn_ne_one {l : List Nat} (hl : ∀ k ∈ l, 1 ≤ k ∧ k ≤ 111) (h : l.length = 1 ∨ l.length = 3) :
    xorSyn l ≠ 1 := by
  intro h1
  rcases h with h | h
  · match l, h with
    | [k], _ =>
      have hk := hl k List.mem_cons_self
      rw [xorSyn, xorSyn, Nat.xor_zero] at h1
      exact syn_xor3 hk hk hk (by rw [h1]; rfl)
  · match l, h with
    | [p, q, r], _ =>
      rw [xorSyn, xorSyn, xorSyn, xorSyn, Nat.xor_zero, ← Nat.xor_assoc] at h1
      refine syn_xor3 (hl r (by simp)) (hl q (by simp)) (hl p (by simp)) (nat_xor_eq_zero ?_)
      rw [Nat.xor_assoc, Nat.xor_comm 1, ← Nat.xor_assoc, h1, Nat.xor_self]

theorem remH_ne_zero_of_weight_le5 (e : Bits) (hl : e.length ≤ 112) (h1 : 1 ≤ weight e)
    (h5 : weight e ≤ 5) : remH e ≠ 0 := by
  intro h0
  have hev := even_weight_of_remH_zero h0
  rw [remH_eq_xorSyn] at h0
  have hlen := exps_length e
  have hs := exps_sorted e
  have hb := exps_lt e
  generalize exps e = l' at h0 hlen hs hb
  -- the exponents, decreasing, are `l ++ [a]`; even weight leaves `l` of length 1 or 3; divide by `x^a`
  rcases List.eq_nil_or_concat l' with rfl | ⟨l, a, rfl⟩
  · exact absurd hlen.symm (by simp; omega)
  · rw [List.concat_eq_append] at h0 hlen hs hb
    rw [List.pairwise_append] at hs
    have ha : ∀ x ∈ l, a < x := fun x hx => hs.2.2 x hx a List.mem_cons_self
    refine xorSyn_ne_one (l := l.map (· - a)) ?_ ?_
      (xorSyn_snoc_eq_zero h0 fun x hx => Nat.le_of_lt (ha x hx))
    · intro k hk
      obtain ⟨x, hx, rfl⟩ := List.mem_map.mp hk
      have := hb x (List.mem_append_left _ hx)
      have := ha x hx
      omega
    · rw [List.length_map]
      rw [List.length_append, List.length_singleton] at hlen
      omega

/-- `C01.weight_le5_detected` -/
theorem weight_le5_detected (v e : Bits) (hv : remH v = 0) (hl : v.length ≤ 112)
    (he : e.length = v.length) (h1 : 1 ≤ weight e) (h5 : weight e ≤ 5) :
    remH (xorBits v e) ≠ 0 := by
  rw [remH_xor v e he.symm, hv, Nat.zero_xor]
  exact remH_ne_zero_of_weight_le5 e (by omega) h1 h5

end PyModeS.CRC
