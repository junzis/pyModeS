/-
  The syndromes `x^k mod G`: a remainder is the XOR of the syndromes of its set bits, shifting all exponents,
  the syndromes as the orbit of the shift register; and the two Boolean tools of the weight certificate:
  a bit sieve for list membership and a check over all pairs of a list.
-/
import PyModeS.Proofs.CRC.Detect
namespace PyModeS.CRC
open PyModeS PyModeS.Spec

/-- `x^k mod G` -/
def syn (k : Nat) : Nat := remH (true :: zeros k)

/-- exponents of the set bits, decreasing -/
def exps : Bits → List Nat
  | [] => []
  | b :: t => if b then t.length :: exps t else exps t

def xorSyn : List Nat → Nat
  | [] => 0
  | k :: l => syn k ^^^ xorSyn l

theorem xorSyn_append (a b : List Nat) : xorSyn (a ++ b) = xorSyn a ^^^ xorSyn b := by
  induction a with
  | nil => exact (Nat.zero_xor _).symm
  | cons k a ih => rw [List.cons_append, xorSyn, xorSyn, ih, Nat.xor_assoc]

theorem remH_false_cons (t : Bits) : remH (false :: t) = remH t := remH_zeros_append 1 t

theorem remH_cons (b : Bool) (t : Bits) :
    remH (b :: t) = (if b then syn t.length else 0) ^^^ remH t := by
  have e : b :: t = xorBits (b :: zeros t.length) (false :: t) := by
    simp only [xorBits, zeros_xorBits]; simp
  rw [e, remH_xor _ _ (by simp), remH_false_cons]
  cases b
  · have : remH (false :: zeros t.length) = 0 := remH_zeros (t.length + 1)
    rw [this]; rfl
  · rfl

theorem remH_eq_xorSyn (e : Bits) : remH e = xorSyn (exps e) := by
  induction e with
  | nil => rfl
  | cons b t ih =>
    rw [remH_cons, ih]
    cases b <;> simp [exps, xorSyn]

theorem exps_length (e : Bits) : (exps e).length = weight e := by
  induction e with
  | nil => rfl
  | cons b t ih => cases b <;> simp [exps, weight] at ih ⊢ <;> exact ih

theorem exps_lt (e : Bits) : ∀ x ∈ exps e, x < e.length := by
  induction e with
  | nil => simp [exps]
  | cons b t ih =>
    intro x hx
    cases b
    · simp only [exps, Bool.false_eq_true, if_false] at hx
      have := ih x hx; simp; omega
    · simp only [exps, if_true, List.mem_cons] at hx
      rcases hx with hx | hx
      · subst hx; simp
      · have := ih x hx; simp; omega

theorem exps_sorted (e : Bits) : (exps e).Pairwise (· > ·) := by
  induction e with
  | nil => simp [exps]
  | cons b t ih =>
    cases b
    · simpa [exps] using ih
    · simp only [exps, if_true, List.pairwise_cons]
      exact ⟨fun x hx => exps_lt t x hx, ih⟩

/-! ### shifting all exponents -/

theorem remFrom_zeros_xor (s t j : Nat) :
    remFrom (s ^^^ t) (zeros j) = remFrom s (zeros j) ^^^ remFrom t (zeros j) := by
  have := remFrom_xor (zeros j) (zeros j) rfl s t
  rwa [zeros_xorBits' j _ (List.length_replicate ..)] at this

theorem syn_add (k j : Nat) : syn (k + j) = remFrom (syn k) (zeros j) := by
  unfold syn
  rw [← remH_append]
  simp [zeros, List.replicate_append_replicate]

theorem xorSyn_shift (l : List Nat) (j : Nat) :
    xorSyn (l.map (· + j)) = remFrom (xorSyn l) (zeros j) := by
  induction l with
  | nil => exact (remFrom_zero_zeros j).symm
  | cons k l ih =>
    simp only [List.map_cons, xorSyn]
    rw [remFrom_zeros_xor, ih, syn_add]

theorem xorSyn_shift_eq_zero_iff (l : List Nat) (j : Nat) :
    xorSyn (l.map (· + j)) = 0 ↔ xorSyn l = 0 := by
  rw [xorSyn_shift, remFrom_zeros_eq_zero_iff]

theorem syn_zero : syn 0 = 1 := by decide

/-- `[s, s·x, …, s·x^(n-1)]` modulo G -/
def orbit : Nat → Nat → List Nat
  | 0, _ => []
  | n + 1, s => s :: orbit n (stepH s false)

theorem syn_mem_orbit {n j : Nat} (h : j < n) (k : Nat) : syn (k + j) ∈ orbit n (syn k) := by
  induction n generalizing j k with
  | zero => omega
  | succ n ih =>
    cases j with
    | zero => exact List.mem_cons_self
    | succ j =>
      have := ih (Nat.lt_of_succ_lt_succ h) (k + 1)
      rw [syn_add k 1, Nat.add_right_comm] at this
      exact List.mem_cons_of_mem _ this

/-- the residues `s % m`, `s ∈ l`, as a set of bit positions -/
def sieve (m : Nat) (l : List Nat) : Nat := l.foldl (fun B s => B ||| 1 <<< (s % m)) 0

/-- bit `v % m` of `B` is not set (`Nat.beq` on literals is a single kernel step) -/
def bitClear (B m v : Nat) : Bool := Nat.beq ((B >>> (v % m)) % 2) 0

theorem testBit_sieve (m i : Nat) (l : List Nat) (B : Nat) :
    (l.foldl (fun B s => B ||| 1 <<< (s % m)) B).testBit i = (B.testBit i || l.any (· % m == i)) := by
  induction l generalizing B with
  | nil => simp
  | cons s l ih =>
    rw [List.foldl_cons, ih, Nat.testBit_or, Nat.one_shiftLeft, Nat.testBit_two_pow, List.any_cons,
      Bool.or_assoc]
    rfl

theorem not_mem_of_bitClear {m v : Nat} {l : List Nat} (h : bitClear (sieve m l) m v = true) : v ∉ l := by
  intro hv
  have hb : (sieve m l).testBit (v % m) = true := by
    rw [sieve, testBit_sieve]
    simp only [Nat.zero_testBit, Bool.false_or, List.any_eq_true, beq_iff_eq]
    exact ⟨v, hv, rfl⟩
  rw [Nat.testBit, Nat.one_and_eq_mod_two] at hb
  rw [Nat.eq_of_beq_eq_true h] at hb
  exact absurd hb (by decide)

/-- `r a b` for every entry `a` and every later entry `b` -/
def pairwiseB {α} (r : α → α → Bool) : List α → Bool
  | [] => true
  | a :: l => l.all (r a) && pairwiseB r l

/-- a symmetric relation that holds on the diagonal and passes `pairwiseB` holds between all entries -/
theorem forall_of_pairwiseB {α} {r : α → α → Bool} {l : List α} (hs : ∀ a b, r a b = r b a)
    (hd : ∀ a ∈ l, r a a = true) (h : pairwiseB r l = true) : ∀ a ∈ l, ∀ b ∈ l, r a b = true := by
  induction l with
  | nil => intro a ha; cases ha
  | cons c l ih =>
    rw [pairwiseB, Bool.and_eq_true, List.all_eq_true] at h
    have ih := ih (fun a ha => hd a (List.mem_cons_of_mem _ ha)) h.2
    intro a ha b hb
    rcases List.mem_cons.mp ha with ea | ha' <;> rcases List.mem_cons.mp hb with eb | hb'
    · rw [ea, eb]; exact hd c List.mem_cons_self
    · rw [ea]; exact h.1 b hb'
    · rw [eb, hs]; exact h.1 a ha'
    · exact ih a ha' b hb'

end PyModeS.CRC
