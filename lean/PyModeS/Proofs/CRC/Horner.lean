/-
  CRC-24 / Horner recursion `Spec.remH`: bounds, GF(2)-linearity, leading zeros,
  multiples of the generator, shift injectivity.
-/
import PyModeS.Proofs.Bits
import PyModeS.Spec.CRC
namespace PyModeS.CRC
open PyModeS PyModeS.Spec

/-! ### `2*s + b` bitwise -/

theorem testBit_shift_zero (s : Nat) (b : Bool) : (2 * s + b.toNat).testBit 0 = b := by
  rw [Nat.testBit_zero]; cases b <;> simp <;> omega

theorem testBit_shift_succ (s : Nat) (b : Bool) (i : Nat) :
    (2 * s + b.toNat).testBit (i + 1) = s.testBit i := by
  rw [Nat.testBit_succ]
  have : (2 * s + b.toNat) / 2 = s := by cases b <;> simp <;> omega
  rw [this]

theorem shift_xor (s t : Nat) (a b : Bool) :
    2 * (s ^^^ t) + (a != b).toNat = (2 * s + a.toNat) ^^^ (2 * t + b.toNat) := by
  apply Nat.eq_of_testBit_eq
  intro i
  cases i with
  | zero => rw [Nat.testBit_xor, testBit_shift_zero, testBit_shift_zero, testBit_shift_zero]
  | succ i => rw [Nat.testBit_xor, testBit_shift_succ, testBit_shift_succ, testBit_shift_succ, Nat.testBit_xor]

/-! ### reduction of a 25-bit value -/

/-- conditional subtraction of G -/
def red (t : Nat) : Nat := if t.testBit 24 then t ^^^ G else t

theorem stepH_eq (s : Nat) (b : Bool) : stepH s b = red (2 * s + b.toNat) := rfl

theorem G_testBit_24 : G.testBit 24 = true := by decide
theorem G_lt : G < 2 ^ 25 := by decide

theorem red_xor (t u : Nat) : red (t ^^^ u) = red t ^^^ red u := by
  unfold red
  rw [Nat.testBit_xor]
  cases ht : t.testBit 24 <;> cases hu : u.testBit 24 <;> simp
  · rw [Nat.xor_assoc]
  · rw [Nat.xor_assoc, Nat.xor_comm u G, ← Nat.xor_assoc]
  · rw [Nat.xor_assoc, Nat.xor_comm G (u ^^^ G), Nat.xor_assoc, Nat.xor_self, Nat.xor_zero]

theorem red_lt {t : Nat} (h : t < 2 ^ 25) : red t < 2 ^ 24 := by
  apply Nat.lt_pow_two_of_testBit
  intro i hi
  unfold red
  have hbig : ∀ j, 25 ≤ j → t.testBit j = false ∧ G.testBit j = false := by
    intro j hj
    have h2 : (2:Nat) ^ 25 ≤ 2 ^ j := Nat.pow_le_pow_right (by decide) hj
    exact ⟨Nat.testBit_lt_two_pow (Nat.lt_of_lt_of_le h h2),
           Nat.testBit_lt_two_pow (Nat.lt_of_lt_of_le G_lt h2)⟩
  cases ht : t.testBit 24
  · simp only [Bool.false_eq_true, if_false]
    rcases Nat.eq_or_lt_of_le hi with h24 | h24
    · rw [← h24]; exact ht
    · exact (hbig i h24).1
  · simp only [if_true]
    rw [Nat.testBit_xor]
    rcases Nat.eq_or_lt_of_le hi with h24 | h24
    · rw [← h24, ht, G_testBit_24]; rfl
    · rw [(hbig i h24).1, (hbig i h24).2]; rfl

theorem stepH_lt {s : Nat} (h : s < 2 ^ 24) (b : Bool) : stepH s b < 2 ^ 24 := by
  rw [stepH_eq]; apply red_lt; cases b <;> simp <;> omega

theorem stepH_xor (s t : Nat) (a b : Bool) :
    stepH (s ^^^ t) (a != b) = stepH s a ^^^ stepH t b := by
  rw [stepH_eq, stepH_eq, stepH_eq, shift_xor, red_xor]

/-! ### the fold -/

/-- Horner recursion from an arbitrary state -/
def remFrom (s : Nat) (bits : Bits) : Nat := bits.foldl stepH s

theorem remH_eq_remFrom (bits : Bits) : remH bits = remFrom 0 bits := rfl
@[simp] theorem remFrom_nil (s : Nat) : remFrom s [] = s := rfl
@[simp] theorem remFrom_cons (s : Nat) (b : Bool) (l : Bits) : remFrom s (b :: l) = remFrom (stepH s b) l := rfl
theorem remFrom_append (s : Nat) (a b : Bits) : remFrom s (a ++ b) = remFrom (remFrom s a) b := by
  simp [remFrom, List.foldl_append]
theorem remH_append (a b : Bits) : remH (a ++ b) = remFrom (remH a) b := remFrom_append 0 a b

theorem remFrom_lt {s : Nat} (h : s < 2 ^ 24) (bits : Bits) : remFrom s bits < 2 ^ 24 := by
  induction bits generalizing s with
  | nil => exact h
  | cons b l ih => exact ih (stepH_lt h b)

/-- `C01.crc_lt` -/
theorem remH_lt (bits : Bits) : remH bits < 2 ^ 24 := remFrom_lt (by decide) bits

theorem remFrom_xor (a b : Bits) (hl : a.length = b.length) (s t : Nat) :
    remFrom (s ^^^ t) (xorBits a b) = remFrom s a ^^^ remFrom t b := by
  induction a generalizing b s t with
  | nil =>
    cases b with
    | nil => rfl
    | cons _ _ => simp at hl
  | cons x a ih =>
    cases b with
    | nil => simp at hl
    | cons y b =>
      simp only [xorBits, remFrom_cons, stepH_xor]
      exact ih b (by simpa using hl) _ _

/-- `C01.remH_xor`: GF(2)-linearity of the remainder -/
theorem remH_xor (a b : Bits) (hl : a.length = b.length) :
    remH (xorBits a b) = remH a ^^^ remH b := by
  have := remFrom_xor a b hl 0 0
  simpa [remH_eq_remFrom] using this

/-! ### zeros -/

abbrev zeros (k : Nat) : Bits := List.replicate k false

theorem stepH_zero_false : stepH 0 false = 0 := by decide

theorem remFrom_zero_zeros (k : Nat) : remFrom 0 (zeros k) = 0 := by
  induction k with
  | zero => rfl
  | succ k ih => simp only [zeros, List.replicate_succ, remFrom_cons, stepH_zero_false]; exact ih

theorem remH_zeros (k : Nat) : remH (zeros k) = 0 := remFrom_zero_zeros k

theorem remH_zeros_append (k : Nat) (r : Bits) : remH (zeros k ++ r) = remH r := by
  rw [remH_append, remH_zeros]; rfl

/-- no reduction happens on the first 24 bits -/
theorem remH_short (r : Bits) (h : r.length ≤ 24) : remH r = bin2int r := by
  induction r using snoc_induction with
  | nil => rfl
  | snoc l b ih =>
    have hl : l.length < 24 := by simp at h; omega
    rw [remH_append, ih (by omega), bin2int_append_single]
    simp only [remFrom_cons, remFrom_nil]
    rw [stepH_eq]
    unfold red
    have hlt : 2 * bin2int l + b.toNat < 2 ^ 24 := by
      have h1 := bin2int_lt l
      have h2 : (2:Nat) ^ l.length ≤ 2 ^ 23 := Nat.pow_le_pow_right (by decide) (by omega)
      cases b <;> simp <;> omega
    rw [Nat.testBit_lt_two_pow hlt]; simp

theorem remH_zeros_short (k : Nat) (r : Bits) (h : r.length ≤ 24) :
    remH (zeros k ++ r) = bin2int r := by
  rw [remH_zeros_append, remH_short r h]

/-! ### multiples of the generator -/

/-- the 25 coefficient bits of G -/
def gen25 : Bits := natToBits 25 G

theorem remH_gen25 : remH gen25 = 0 := by decide +kernel

theorem remH_gen_shift (i j : Nat) : remH (zeros i ++ gen25 ++ zeros j) = 0 := by
  rw [List.append_assoc, remH_zeros_append, remH_append, remH_gen25, remFrom_zero_zeros]

/-! ### multiplication by x is injective (G has constant term 1) -/

theorem stepH_false_ne_zero {s : Nat} (hs : s ≠ 0) : stepH s false ≠ 0 := by
  rw [stepH_eq]
  unfold red
  simp only [Bool.toNat_false, Nat.add_zero]
  split
  · intro h
    have h2 : 2 * s = G := by
      have := congrArg (· ^^^ G) h
      simpa [Nat.xor_assoc] using this
    have : G % 2 = 1 := by decide
    omega
  · omega

theorem remFrom_zeros_ne_zero {s : Nat} (hs : s ≠ 0) (k : Nat) : remFrom s (zeros k) ≠ 0 := by
  induction k generalizing s with
  | zero => exact hs
  | succ k ih =>
    simp only [zeros, List.replicate_succ, remFrom_cons]
    exact ih (stepH_false_ne_zero hs)

theorem remFrom_zeros_eq_zero_iff (s k : Nat) : remFrom s (zeros k) = 0 ↔ s = 0 := by
  constructor
  · intro h
    apply Classical.byContradiction
    intro hs
    exact remFrom_zeros_ne_zero hs k h
  · intro h; subst h; exact remFrom_zero_zeros k

end PyModeS.CRC
