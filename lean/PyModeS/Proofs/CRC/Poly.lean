/-
  Mathlib bridge: the Horner recursion `Spec.remH` is the remainder `%ₘ` in `(ZMod 2)[X]`
  modulo the monic polynomial of degree 24 whose coefficients are the bits of `Spec.G`.
-/
import Mathlib.Algebra.Polynomial.Div
import Mathlib.Data.ZMod.Basic
import Mathlib.Tactic.Ring
import PyModeS.Proofs.CRC.Horner

open Polynomial
namespace PyModeS.CRC
open PyModeS PyModeS.Spec

/-- a bit as an element of GF(2) -/
def bitZ (b : Bool) : ZMod 2 := if b then 1 else 0

/-- the polynomial whose coefficients are `bits`, highest degree first (Horner form) -/
noncomputable def toPoly (bits : Bits) : (ZMod 2)[X] :=
  bits.foldl (fun p b => p * X + C (bitZ b)) 0

/-- a natural number read as a coefficient vector: bit `i` of `n` is the coefficient of `X^i` -/
noncomputable def natPoly : Nat → (ZMod 2)[X]
  | 0 => 0
  | n + 1 => natPoly ((n + 1) / 2) * X + C (bitZ ((n + 1) % 2 == 1))
decreasing_by omega

/-- the Mode S generator polynomial -/
noncomputable def Gpoly : (ZMod 2)[X] := natPoly G

theorem toPoly_nil : toPoly [] = 0 := rfl
theorem toPoly_snoc (l : Bits) (b : Bool) : toPoly (l ++ [b]) = toPoly l * X + C (bitZ b) := by
  simp [toPoly, List.foldl_append]

theorem natPoly_eq (n : Nat) : natPoly n = natPoly (n / 2) * X + C (bitZ (n % 2 == 1)) := by
  cases n with
  | zero => rw [natPoly]; simp [bitZ]
  | succ n => rw [natPoly]

/-- `natPoly` really reads the binary digits of `n` as coefficients -/
theorem coeff_natPoly (n i : Nat) : (natPoly n).coeff i = bitZ (n.testBit i) := by
  induction i generalizing n with
  | zero =>
    rw [natPoly_eq, Nat.testBit_zero]
    rcases Nat.mod_two_eq_zero_or_one n with h | h <;> simp [h]
  | succ i ih =>
    rw [natPoly_eq, Nat.testBit_succ]
    simp [ih]

theorem bitZ_xor (a b : Bool) : bitZ (a ^^ b) = bitZ a + bitZ b := by
  cases a <;> cases b <;> decide

theorem natPoly_xor (a b : Nat) : natPoly (a ^^^ b) = natPoly a + natPoly b := by
  ext i
  rw [coeff_add, coeff_natPoly, coeff_natPoly, coeff_natPoly, Nat.testBit_xor, bitZ_xor]

theorem natPoly_shift (s : Nat) (b : Bool) :
    natPoly (2 * s + b.toNat) = natPoly s * X + C (bitZ b) := by
  rw [natPoly_eq]
  have h1 : (2 * s + b.toNat) / 2 = s := by have := Bool.toNat_le b; omega
  have h2 : ((2 * s + b.toNat) % 2 == 1) = b := by cases b <;> simp [Bool.toNat]
  rw [h1, h2]

theorem degree_natPoly_lt {s k : Nat} (h : s < 2 ^ k) : (natPoly s).degree < k := by
  rw [degree_lt_iff_coeff_zero]
  intro m hm
  rw [coeff_natPoly, Nat.testBit_lt_two_pow (Nat.lt_of_lt_of_le h (Nat.pow_le_pow_right (by decide) hm))]
  rfl

theorem natPoly_two_pow (k : Nat) : natPoly (2 ^ k) = X ^ k := by
  ext i
  rw [coeff_natPoly, Nat.testBit_two_pow, coeff_X_pow]
  by_cases h : k = i <;> simp [h, bitZ, eq_comm]

theorem Gpoly_eq : Gpoly = X ^ 24 + natPoly 0xFFF409 := by
  have : G = 2 ^ 24 ^^^ 0xFFF409 := by decide
  rw [Gpoly, this, natPoly_xor, natPoly_two_pow]

theorem Gpoly_monic : Gpoly.Monic := by
  rw [Gpoly_eq]
  exact monic_X_pow_add (degree_natPoly_lt (k := 24) (by decide))

theorem Gpoly_degree : Gpoly.degree = 24 := by
  rw [Gpoly_eq]
  have h : (natPoly 0xFFF409).degree < ((X : (ZMod 2)[X]) ^ 24).degree := by
    rw [degree_X_pow]; exact degree_natPoly_lt (k := 24) (by decide)
  rw [degree_add_eq_left_of_degree_lt h, degree_X_pow]; rfl

theorem Gpoly_natDegree : Gpoly.natDegree = 24 := natDegree_eq_of_degree_eq_some Gpoly_degree

theorem natPoly_red (t : Nat) : ∃ c : (ZMod 2)[X], natPoly t = natPoly (red t) + Gpoly * c := by
  unfold red
  split
  · refine ⟨1, ?_⟩
    have : t = (t ^^^ G) ^^^ G := by rw [Nat.xor_assoc, Nat.xor_self, Nat.xor_zero]
    conv => lhs; rw [this]
    rw [natPoly_xor (t ^^^ G) G, mul_one]; rfl
  · exact ⟨0, by simp⟩

theorem toPoly_decomp (bits : Bits) : ∃ q : (ZMod 2)[X], natPoly (remH bits) + Gpoly * q = toPoly bits := by
  induction bits using snoc_induction with
  | nil => exact ⟨0, by simp [toPoly_nil, remH, natPoly]⟩
  | snoc l b ih =>
    obtain ⟨q, hq⟩ := ih
    obtain ⟨c, hc⟩ := natPoly_red (2 * remH l + b.toNat)
    refine ⟨q * X + c, ?_⟩
    rw [toPoly_snoc, ← hq, remH_append]
    simp only [remFrom_cons, remFrom_nil, stepH_eq]
    have := natPoly_shift (remH l) b
    rw [hc] at this
    calc natPoly (red (2 * remH l + b.toNat)) + Gpoly * (q * X + c)
        = (natPoly (red (2 * remH l + b.toNat)) + Gpoly * c) + Gpoly * q * X := by ring
      _ = (natPoly (remH l) * X + C (bitZ b)) + Gpoly * q * X := by rw [this]
      _ = _ := by ring

/-- `C01.remH_eq_modByMonic`: the Horner/LFSR recursion computes the polynomial remainder modulo G -/
theorem remH_eq_modByMonic (bits : Bits) : natPoly (remH bits) = toPoly bits %ₘ Gpoly := by
  obtain ⟨q, hq⟩ := toPoly_decomp bits
  have hd : (natPoly (remH bits)).degree < Gpoly.degree := by
    rw [Gpoly_degree]; exact degree_natPoly_lt (k := 24) (remH_lt bits)
  exact ((div_modByMonic_unique q _ Gpoly_monic ⟨hq, hd⟩).2).symm

/-- `natPoly` is injective, so the remainder as a number is determined by the polynomial -/
theorem natPoly_injective : Function.Injective natPoly := by
  intro a b h
  apply Nat.eq_of_testBit_eq
  intro i
  have := congrArg (fun p => p.coeff i) h
  simp only [coeff_natPoly] at this
  revert this
  cases a.testBit i <;> cases b.testBit i <;> simp [bitZ]

end PyModeS.CRC
