/-
  Hex strings: `hexToNatM = bin2int ∘ hex2binM`, canonical upper-case rendering `hexN`
  (`hex6 = hexN 6`, "%06X"), bits → hex (`hexOfBits`), letter-case insensitivity.
-/
import PyModeS.Proofs.Hex
namespace PyModeS.CRC
open PyModeS

/-- a hex string: every character is one of 0-9 a-f A-F -/
def IsHex (m : Msg) : Prop := ∀ c ∈ m, (hexVal? c).isSome

theorem hexChar_toNat_lt (c : Char) (h : (hexVal? c).isSome) : c.toNat < 103 := by
  unfold hexVal? at h
  have key : ∀ d : Char, c ≤ d → c.toNat ≤ d.toNat := by
    intro d hd
    rw [Char.le_def] at hd
    exact UInt32.le_iff_toNat_le.mp hd
  split at h
  · rename_i h1; have := key '9' h1.2; simp at this; omega
  · split at h
    · rename_i h1; have := key 'f' h1.2; simp at this; omega
    · split at h
      · rename_i h1; have := key 'F' h1.2; simp at this; omega
      · simp at h

theorem hexFacts_enum : ∀ n, n < 103 → (hexVal? (Char.ofNat n)).isSome →
    hexVal (Char.ofNat n) < 16 ∧
    hexVal (Char.ofNat n).toLower = hexVal (Char.ofNat n) ∧
    hexVal (Char.ofNat n).toUpper = hexVal (Char.ofNat n) ∧
    (hexVal? (Char.ofNat n).toLower).isSome ∧ (hexVal? (Char.ofNat n).toUpper).isSome ∧
    (Char.ofNat n).toLower.toUpper = (Char.ofNat n).toUpper ∧
    (Char.ofNat n).toUpper.toUpper = (Char.ofNat n).toUpper ∧
    (Char.ofNat n).toUpper = hexDigitU (hexVal (Char.ofNat n)) := by decide +kernel

theorem hexFacts (c : Char) (h : (hexVal? c).isSome) :
    hexVal c < 16 ∧ hexVal c.toLower = hexVal c ∧ hexVal c.toUpper = hexVal c ∧
    (hexVal? c.toLower).isSome ∧ (hexVal? c.toUpper).isSome ∧
    c.toLower.toUpper = c.toUpper ∧ c.toUpper.toUpper = c.toUpper ∧
    c.toUpper = hexDigitU (hexVal c) := by
  have := hexFacts_enum c.toNat (hexChar_toNat_lt c h)
  rw [Char.ofNat_toNat] at this
  exact this h

/-- changing the case of a hex string keeps every digit's value and upper-case form (what `icao_map` asks for) -/
theorem isHex_toLower {m : Msg} (h : IsHex m) :
    ∀ c ∈ m, hexVal c.toLower = hexVal c ∧ c.toLower.toUpper = c.toUpper :=
  fun c hc => let ⟨_, hv, _, _, _, hu, _⟩ := hexFacts c (h c hc); ⟨hv, hu⟩

theorem isHex_toUpper {m : Msg} (h : IsHex m) :
    ∀ c ∈ m, hexVal c.toUpper = hexVal c ∧ c.toUpper.toUpper = c.toUpper :=
  fun c hc => let ⟨_, _, hv, _, _, _, hu, _⟩ := hexFacts c (h c hc); ⟨hv, hu⟩

/-- also for non-hex characters (the model maps them to 0) -/
theorem hexVal_lt (c : Char) : hexVal c < 16 := by
  cases h : hexVal? c with
  | none => simp [hexVal, h]
  | some v => exact (hexFacts c (by simp [h])).1

theorem hexDigitU_facts : ∀ d, d < 16 → hexVal (hexDigitU d) = d ∧ (hexVal? (hexDigitU d)).isSome ∧
    (Nat.digitChar d).toUpper = hexDigitU d ∧ hexDigitU d ∈ "0123456789ABCDEF".toList := by
  decide +kernel

/-! ### value of a hex string -/

theorem hexToNatM_snoc (l : Msg) (c : Char) : hexToNatM (l ++ [c]) = 16 * hexToNatM l + hexVal c := by
  simp [hexToNatM, List.foldl_append]

theorem hex2binM_append' (a b : Msg) : hex2binM (a ++ b) = hex2binM a ++ hex2binM b := by
  simp [hex2binM]

/-- `int(s, 16) = int(hex2bin(s), 2)` -/
theorem hexToNatM_eq_bin2int (m : Msg) : hexToNatM m = bin2int (hex2binM m) := by
  induction m using snoc_induction with
  | nil => rfl
  | snoc l c ih =>
    rw [hexToNatM_snoc, hex2binM_append', bin2int_append, ih]
    have : hex2binM [c] = natToBits 4 (hexVal c) := by simp [hex2binM]
    rw [this, bin2int_natToBits_of_lt (w := 4) (hexVal_lt c)]
    simp; omega

theorem hexToNatM_lt (m : Msg) : hexToNatM m < 16 ^ m.length := by
  rw [hexToNatM_eq_bin2int]
  have := bin2int_lt (hex2binM m)
  rw [hex2binM_length, Nat.pow_mul] at this
  exact this

/-! ### canonical rendering -/

/-- `k` upper-case hex digits of `n` ("%0kX" for `n < 16^k`) -/
def hexN : Nat → Nat → Msg
  | 0, _ => []
  | k + 1, n => hexN k (n / 16) ++ [hexDigitU (n % 16)]

@[simp] theorem hexN_length (k n : Nat) : (hexN k n).length = k := by
  induction k generalizing n with
  | zero => rfl
  | succ k ih => simp [hexN, ih]

theorem hexN_isHex (k n : Nat) : IsHex (hexN k n) := by
  induction k generalizing n with
  | zero => intro c hc; simp [hexN] at hc
  | succ k ih =>
    intro c hc
    simp only [hexN, List.mem_append, List.mem_singleton] at hc
    rcases hc with hc | hc
    · exact ih _ c hc
    · subst hc; exact (hexDigitU_facts _ (Nat.mod_lt _ (by decide))).2.1

theorem hexN_upper (k n : Nat) : ∀ c ∈ hexN k n, c ∈ "0123456789ABCDEF".toList := by
  induction k generalizing n with
  | zero => intro c hc; simp [hexN] at hc
  | succ k ih =>
    intro c hc
    simp only [hexN, List.mem_append, List.mem_singleton] at hc
    rcases hc with hc | hc
    · exact ih _ c hc
    · subst hc; exact (hexDigitU_facts _ (Nat.mod_lt _ (by decide))).2.2.2

theorem hexToNatM_hexN (k n : Nat) : hexToNatM (hexN k n) = n % 16 ^ k := by
  induction k generalizing n with
  | zero => simp [hexN, hexToNatM, Nat.mod_one]
  | succ k ih =>
    rw [hexN, hexToNatM_snoc, ih, (hexDigitU_facts _ (Nat.mod_lt _ (by decide))).1, Nat.pow_succ,
      Nat.mul_comm (16 ^ k) 16, Nat.mod_mul]
    omega

theorem hexN_zero (k : Nat) : hexN k 0 = List.replicate k '0' := by
  induction k with
  | zero => rfl
  | succ k ih => simp only [hexN, Nat.zero_div, ih, Nat.zero_mod, List.replicate_succ']; rfl

/-- `"%0kX" % n` as the model spells it (`Nat.toDigits`, upper-cased, left-padded with '0') -/
theorem pad_toDigits_eq_hexN (k : Nat) : ∀ n, n < 16 ^ (k + 1) →
    List.replicate (k + 1 - ((Nat.toDigits 16 n).map Char.toUpper).length) '0' ++
      (Nat.toDigits 16 n).map Char.toUpper = hexN (k + 1) n := by
  induction k with
  | zero =>
    intro n hn
    have hn' : n < 16 := by simpa using hn
    rw [Nat.toDigits_of_lt_base hn']
    simp [hexN, (hexDigitU_facts n hn').2.2.1, Nat.mod_eq_of_lt hn']
  | succ k ih =>
    intro n hn
    rw [Nat.toDigits_eq_if (by decide)]
    split
    · rename_i h16
      simp only [List.map_cons, List.map_nil, List.length_singleton, Nat.add_sub_cancel]
      rw [hexN, Nat.div_eq_of_lt h16, Nat.mod_eq_of_lt h16, hexN_zero, (hexDigitU_facts n h16).2.2.1]
    · have hq : n / 16 < 16 ^ (k + 1) := by
        rw [Nat.pow_succ] at hn; omega
      have := ih (n / 16) hq
      rw [hexN, ← this]
      simp only [List.map_append, List.map_cons, List.map_nil, List.length_append, List.length_map,
        List.length_singleton, List.append_assoc, (hexDigitU_facts _ (Nat.mod_lt n (by decide))).2.2.1]
      congr 2
      omega

theorem hex6_eq_hexN {A : Nat} (h : A < 2 ^ 24) : hex6 A = hexN 6 A := by
  unfold hex6
  exact pad_toDigits_eq_hexN 5 A (by simpa using h)

/-- upper-casing a hex string gives the canonical rendering of its value -/
theorem map_toUpper_eq_hexN (l : Msg) (h : IsHex l) : l.map Char.toUpper = hexN l.length (hexToNatM l) := by
  induction l using snoc_induction with
  | nil => rfl
  | snoc l c ih =>
    have hl : IsHex l := fun x hx => h x (List.mem_append_left _ hx)
    obtain ⟨hlt, -, -, -, -, -, -, hU⟩ := hexFacts c (h c (by simp))
    rw [List.map_append, ih hl, hexToNatM_snoc]
    simp only [List.map_cons, List.map_nil, List.length_append, List.length_singleton, hexN]
    have e1 : (16 * hexToNatM l + hexVal c) / 16 = hexToNatM l := by omega
    have e2 : (16 * hexToNatM l + hexVal c) % 16 = hexVal c := by omega
    rw [e1, e2, hU]

/-! ### bits → hex -/

theorem hex2binM_hexN (k n : Nat) : hex2binM (hexN k n) = natToBits (4 * k) n := by
  induction k generalizing n with
  | zero => rfl
  | succ k ih =>
    rw [hexN, hex2binM_append', ih]
    have : hex2binM [hexDigitU (n % 16)] = natToBits 4 (n % 16) := by
      simp [hex2binM, (hexDigitU_facts _ (Nat.mod_lt n (by decide))).1]
    rw [this]
    have e : 4 * (k + 1) = 4 * k + 4 := by omega
    rw [e, natToBits_add]
    congr 1
    have h1 : ∀ w v, natToBits w (v % 2 ^ w) = natToBits w v := by
      intro w v
      have := natToBits_bin2int (natToBits w v)
      rw [natToBits_length, bin2int_natToBits] at this
      exact this
    exact h1 4 n

/-- the hex string of a bit string (4 bits per upper-case digit) -/
def hexOfBits (b : Bits) : Msg := hexN (b.length / 4) (bin2int b)

theorem hexOfBits_length (b : Bits) : (hexOfBits b).length = b.length / 4 := by simp [hexOfBits]

theorem hex2binM_hexOfBits (b : Bits) (h : b.length % 4 = 0) : hex2binM (hexOfBits b) = b := by
  rw [hexOfBits, hex2binM_hexN]
  have : 4 * (b.length / 4) = b.length := by omega
  rw [this, natToBits_bin2int]

theorem hexOfBits_isHex (b : Bits) : IsHex (hexOfBits b) := hexN_isHex _ _

/-! ### mapping characters without changing their values -/

theorem hex2binM_map (f : Char → Char) (m : Msg) (h : ∀ c ∈ m, hexVal (f c) = hexVal c) :
    hex2binM (m.map f) = hex2binM m := by
  induction m with
  | nil => rfl
  | cons c m ih =>
    simp only [List.map_cons, hex2binM, List.flatMap_cons] at ih ⊢
    rw [h c (by simp), ih (fun x hx => h x (List.mem_cons_of_mem _ hx))]

theorem hexToNatM_map (f : Char → Char) (m : Msg) (h : ∀ c ∈ m, hexVal (f c) = hexVal c) :
    hexToNatM (m.map f) = hexToNatM m := by
  rw [hexToNatM_eq_bin2int, hexToNatM_eq_bin2int, hex2binM_map f m h]

theorem isHex_take {m : Msg} (h : IsHex m) (k : Nat) : IsHex (m.take k) :=
  fun c hc => h c (List.mem_of_mem_take hc)
theorem isHex_drop {m : Msg} (h : IsHex m) (k : Nat) : IsHex (m.drop k) :=
  fun c hc => h c (List.mem_of_mem_drop hc)
theorem isHex_slice {m : Msg} (h : IsHex m) (a b : Nat) : IsHex (slice a b m) :=
  isHex_take (isHex_drop h a) _

end PyModeS.CRC
