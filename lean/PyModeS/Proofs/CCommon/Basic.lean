/-
  c_common (C semantics) versus py_common: characters, hex2bin, bin2int, hex2int, df, typecode,
  crc, icao, squawk.  Strings are compared on ASCII input (`IsAscii`: every code point < 128,
  where `str.encode()` is one byte per character); hex strings are ASCII.
-/
import PyModeS.Model.CCommon
import PyModeS.Proofs.CRC.HexStr
namespace PyModeS.CC
open PyModeS PyModeS.CRC

/-- every code point is below 128 (so `str.encode()` yields exactly one byte per character) -/
def IsAscii (m : Msg) : Prop := ∀ c ∈ m, c.toNat < 128

theorem isAscii_of_isHex {m : Msg} (h : IsHex m) : IsAscii m := by
  intro c hc
  have := hexChar_toNat_lt c (h c hc)
  omega

theorem isAscii_take {m : Msg} (h : IsAscii m) (k : Nat) : IsAscii (m.take k) :=
  fun c hc => h c (List.mem_of_mem_take hc)
theorem isAscii_drop {m : Msg} (h : IsAscii m) (k : Nat) : IsAscii (m.drop k) :=
  fun c hc => h c (List.mem_of_mem_drop hc)
theorem isAscii_slice {m : Msg} (h : IsAscii m) (a b : Nat) : IsAscii (slice a b m) :=
  isAscii_take (isAscii_drop h a) _

/-! ### char_to_int -/

theorem charToInt_enum : ∀ n, n < 256 → C.charToInt (Char.ofNat n) = hexVal (Char.ofNat n) := by
  decide +kernel

/-- `char_to_int` is `int(c, 16)` on every one-byte character (0 for a non-hex one) -/
theorem charToInt_eq_of_lt (c : Char) (h : c.toNat < 256) : C.charToInt c = hexVal c := by
  have := charToInt_enum c.toNat h
  rwa [Char.ofNat_toNat] at this

theorem charToInt_eq_hexVal (c : Char) (h : (hexVal? c).isSome) : C.charToInt c = hexVal c :=
  charToInt_eq_of_lt c (by have := hexChar_toNat_lt c h; omega)

/-- an ASCII character that is not a hex digit counts as 0 in both modules -/
theorem charToInt_nonhex (c : Char) (h : c.toNat < 128) (hn : hexVal? c = none) :
    C.charToInt c = 0 ∧ hexVal c = 0 := by
  rw [charToInt_eq_of_lt c (by omega)]
  simp [hexVal, hn]

/-- beyond one byte the model's `% 256` (C `unsigned char` conversion of a code point) differs: the
    statement is not true for all characters -/
theorem charToInt_ne_example : C.charToInt (Char.ofNat 0x131) = 1 ∧ hexVal (Char.ofNat 0x131) = 0 := by
  decide

/-! ### hex2bin -/

theorem nibble_bits : ∀ v, v < 16 →
    [(v >>> 3) &&& 1 == 1, (v >>> 2) &&& 1 == 1, (v >>> 1) &&& 1 == 1, v &&& 1 == 1] = natToBits 4 v := by
  decide

theorem c_hex2bin_eq_of_ascii (m : Msg) (h : IsAscii m) : C.hex2bin m = hex2binM m := by
  unfold C.hex2bin hex2binM
  induction m with
  | nil => rfl
  | cons c m ih =>
    simp only [List.flatMap_cons]
    rw [ih (fun x hx => h x (List.mem_cons_of_mem _ hx))]
    have hc := h c (by simp)
    rw [charToInt_eq_of_lt c (by omega), nibble_bits _ (hexVal_lt c)]

theorem c_hex2bin_eq (m : Msg) (h : IsHex m) : C.hex2bin m = hex2binM m :=
  c_hex2bin_eq_of_ascii m (isAscii_of_isHex h)

/-- not for all strings: a character beyond one byte -/
theorem c_hex2bin_ne_example : C.hex2bin [Char.ofNat 0x131] ≠ hex2binM [Char.ofNat 0x131] := by decide

/-! ### 64-bit and 32-bit wrap-around -/

theorem two64 : (2 : Int) ^ 64 = 18446744073709551616 := by decide
theorem two63 : (2 : Int) ^ 63 = 9223372036854775808 := by decide
theorem two32 : (2 : Int) ^ 32 = 4294967296 := by decide
theorem two31 : (2 : Int) ^ 31 = 2147483648 := by decide

theorem wrap64_emod (x : Int) : C.wrap64 x % 18446744073709551616 = x % 18446744073709551616 := by
  unfold C.wrap64
  simp only [two64, two63]
  split <;> omega

theorem wrap64_congr {x y : Int} (h : x % 18446744073709551616 = y % 18446744073709551616) :
    C.wrap64 x = C.wrap64 y := by
  unfold C.wrap64
  simp only [two64, two63, h]

theorem wrap64_of_range {x : Int} (h0 : 0 ≤ x) (h1 : x < 9223372036854775808) : C.wrap64 x = x := by
  unfold C.wrap64
  simp only [two64, two63]
  split <;> omega

theorem wrap32_of_range {x : Int} (h0 : -2147483648 ≤ x) (h1 : x < 2147483648) : C.wrap32 x = x := by
  unfold C.wrap32
  simp only [two32, two31]
  split <;> omega

/-- wrapping an operand first does not change the wrapped result of `k * a + c` -/
theorem wrap64_step (k a c : Int) : C.wrap64 (k * C.wrap64 a + c) = C.wrap64 (k * a + c) := by
  apply wrap64_congr
  have := wrap64_emod a
  rw [Int.add_emod, Int.mul_emod, this, ← Int.mul_emod, ← Int.add_emod]

/-! ### bin2int, hex2int -/

theorem c_bin2int_snoc (l : Bits) (x : Bool) :
    C.bin2int (l ++ [x]) = C.wrap64 (2 * C.bin2int l + (if x then 1 else 0)) := by
  simp [C.bin2int, List.foldl_append]

/-- in general the C result is the Python integer reduced to a signed 64-bit `long` -/
theorem c_bin2int_wrap (b : Bits) : C.bin2int b = C.wrap64 (bin2int b : Int) := by
  induction b using snoc_induction with
  | nil => decide
  | snoc l x ih =>
    rw [c_bin2int_snoc, ih, wrap64_step, bin2int_append_single]
    congr 1
    cases x <;> simp

/-- no wrap-around below 64 bits (a 63-bit string is still exact) -/
theorem c_bin2int_eq' (b : Bits) (h : b.length ≤ 63) : C.bin2int b = (bin2int b : Int) := by
  rw [c_bin2int_wrap]
  apply wrap64_of_range (by omega)
  have h1 := bin2int_lt b
  have h2 : 2 ^ b.length ≤ 2 ^ 63 := Nat.pow_le_pow_right (by decide) h
  have h3 : (2 : Nat) ^ 63 = 9223372036854775808 := by decide
  omega

theorem c_bin2int_eq (b : Bits) (h : b.length ≤ 62) : C.bin2int b = (bin2int b : Int) :=
  c_bin2int_eq' b (by omega)

/-- at 64 bits the C `long` does wrap: 64 ones give −1 where Python gives 2^64 − 1 -/
theorem c_bin2int_wraps_example :
    C.bin2int (List.replicate 64 true) = -1 ∧ bin2int (List.replicate 64 true) = 18446744073709551615 := by
  decide +kernel

theorem c_hex2int_snoc (l : Msg) (c : Char) :
    C.hex2int (l ++ [c]) = C.wrap64 (16 * C.hex2int l + C.charToInt c) := by
  simp [C.hex2int, List.foldl_append]

theorem c_hex2int_wrap (m : Msg) (h : IsAscii m) : C.hex2int m = C.wrap64 (hexToNatM m : Int) := by
  induction m using snoc_induction with
  | nil => decide
  | snoc l c ih =>
    have hl : IsAscii l := fun x hx => h x (List.mem_append_left _ hx)
    have hc := h c (by simp)
    rw [c_hex2int_snoc, ih hl, wrap64_step, hexToNatM_snoc, charToInt_eq_of_lt c (by omega)]
    congr 1

/-- no wrap-around up to 15 hex digits (60 bits) -/
theorem c_hex2int_eq_of_ascii (m : Msg) (h : IsAscii m) (hl : m.length ≤ 15) :
    C.hex2int m = (hexToNatM m : Int) := by
  rw [c_hex2int_wrap m h]
  apply wrap64_of_range (by omega)
  have h1 := hexToNatM_lt m
  have h2 : 16 ^ m.length ≤ 16 ^ 15 := Nat.pow_le_pow_right (by decide) hl
  have h3 : (16 : Nat) ^ 15 = 1152921504606846976 := by decide
  omega

theorem c_hex2int_eq (m : Msg) (h : IsHex m) (hl : m.length ≤ 15) : C.hex2int m = (hexToNatM m : Int) :=
  c_hex2int_eq_of_ascii m (isAscii_of_isHex h) hl

/-! ### df, typecode -/

theorem c_df_eq_of_ascii (m : Msg) (h : IsAscii m) : C.df m = df m := by
  unfold C.df df
  rw [c_hex2bin_eq_of_ascii _ (isAscii_take h 2)]
  have hl : (slice 0 5 (hex2binM (List.take 2 m))).length ≤ 62 := by
    rw [slice_length]; omega
  rw [c_bin2int_eq _ hl]
  generalize bin2int (slice 0 5 (hex2binM (List.take 2 m))) = n
  simp only []
  split
  · rename_i h1
    have : 24 < n := by omega
    omega
  · rename_i h1
    have : n ≤ 24 := by omega
    omega

theorem c_df_eq (m : Msg) (h : IsHex m) : C.df m = df m := c_df_eq_of_ascii m (isAscii_of_isHex h)

/-- the C type code: −1 for "no type code", otherwise the Python value -/
theorem c_typecode_val (m : Msg) (h : IsAscii m) :
    C.typecode m = match typecode m with | some t => (t : Int) | none => -1 := by
  unfold C.typecode typecode
  rw [c_df_eq_of_ascii m h, c_hex2bin_eq_of_ascii _ (isAscii_slice h 8 10)]
  by_cases hd : df m = 17 ∨ df m = 18
  · have h1 : ¬ (df m ≠ 17 ∧ df m ≠ 18) := by omega
    simp only [h1, hd, if_true, if_false]
    have hl : (slice 0 5 (hex2binM (slice 8 10 m))).length ≤ 5 := by
      rw [slice_length]; omega
    rw [c_bin2int_eq _ (by omega)]
    have h2 := bin2int_lt (slice 0 5 (hex2binM (slice 8 10 m)))
    have h3 : 2 ^ (slice 0 5 (hex2binM (slice 8 10 m))).length ≤ 2 ^ 5 := Nat.pow_le_pow_right (by decide) hl
    apply wrap32_of_range <;> omega
  · have h1 : df m ≠ 17 ∧ df m ≠ 18 := by omega
    rw [if_pos h1, if_neg hd]

theorem c_typecode_eq_of_ascii (m : Msg) (h : IsAscii m) : C.tcOfSentinel (C.typecode m) = typecode m := by
  rw [c_typecode_val m h]
  unfold C.tcOfSentinel
  cases typecode m with
  | none => simp
  | some t =>
    have : ¬ ((t : Int) = -1) := by omega
    simp [this]

theorem c_typecode_eq (m : Msg) (h : IsHex m) : C.tcOfSentinel (C.typecode m) = typecode m :=
  c_typecode_eq_of_ascii m (isAscii_of_isHex h)

theorem c_typecode_none_iff_of_ascii (m : Msg) (h : IsAscii m) : C.typecode m = -1 ↔ typecode m = none := by
  rw [c_typecode_val m h]
  cases typecode m with
  | none => simp
  | some t => simp

theorem c_typecode_none_iff (m : Msg) (h : IsHex m) : C.typecode m = -1 ↔ typecode m = none :=
  c_typecode_none_iff_of_ascii m (isAscii_of_isHex h)

/-! ### crc -/

theorem range_succ_map {β} (f : Nat → β) (k : Nat) :
    (List.range (k + 1)).map f = f 0 :: (List.range k).map (fun i => f (i + 1)) := by
  rw [List.range_succ_eq_map]; simp [List.map_map, Function.comp_def]

/-- `textwrap.wrap(bits, 8)` on whole bytes is the list of the 8-bit slices -/
theorem bytesOfBits_eq_map (k : Nat) : ∀ bits : Bits, bits.length = 8 * k →
    bytesOfBits bits = (List.range k).map (fun i => bin2int (slice (8 * i) (8 * i + 8) bits)) := by
  induction k with
  | zero =>
    intro bits h
    have : bits = [] := List.eq_nil_of_length_eq_zero (by omega)
    subst this
    rw [bytesOfBits]; rfl
  | succ k ih =>
    intro bits h
    cases bits with
    | nil => simp at h
    | cons b bs =>
      rw [bytesOfBits, range_succ_map]
      have hd : ((b :: bs).drop 8).length = 8 * k := by rw [List.length_drop, h]; omega
      rw [ih _ hd]
      refine List.cons_eq_cons.mpr ⟨by simp [slice], ?_⟩
      apply List.map_congr_left
      intro i _
      rw [slice_drop]
      congr 2 <;> omega

theorem hex2binM_encode (m : Msg) :
    hex2binM (dropLast 6 m ++ "000000".toList) = dropLast 24 (hex2binM m) ++ List.replicate 24 false := by
  rw [hex2binM_append', hex2binM_zeros6]
  congr 1
  unfold dropLast
  rw [hex2binM_take, hex2binM_length]
  congr 1
  omega

/-- the C byte list: whole bytes of the bit string, each through the C `bin2int` -/
theorem c_bytes_eq (bits : Bits) (h8 : bits.length % 8 = 0) :
    (List.range (bits.length / 8)).map (fun i => (C.bin2int (slice (8 * i) (8 * i + 8) bits)).toNat)
      = bytesOfBits bits := by
  rw [bytesOfBits_eq_map (bits.length / 8) bits (by omega)]
  apply List.map_congr_left
  intro i _
  rw [c_bin2int_eq _ (by rw [slice_length]; omega)]
  simp

/-- crc: same remainder, for every ASCII string with an even number of characters (whole bytes) -/
theorem c_crc_eq_of_ascii (m : Msg) (e : Bool) (h : IsAscii m) (h2 : m.length % 2 = 0) :
    C.crc m e = (crc m e : Int) := by
  unfold C.crc crc crcBitsPy
  rw [c_hex2bin_eq_of_ascii m h]
  cases e with
  | false =>
    simp only [Bool.false_eq_true, if_false]
    rw [c_bytes_eq _ (by rw [hex2binM_length]; omega)]
  | true =>
    simp only [if_true]
    rw [hex2binM_encode]
    rw [c_bytes_eq]
    simp only [List.length_append, List.length_replicate, dropLast, List.length_take, hex2binM_length]
    omega

theorem c_crc_eq (m : Msg) (e : Bool) (h : IsHex m) (h2 : m.length % 2 = 0) (_h6 : 6 ≤ m.length) :
    C.crc m e = (crc m e : Int) := c_crc_eq_of_ascii m e (isAscii_of_isHex h) h2

/-! ### icao -/

theorem c_icao_eq_of_ascii (m : Msg) (h : IsAscii m) (h2 : m.length % 2 = 0) : C.icao m = icao m := by
  unfold C.icao icao
  rw [c_df_eq_of_ascii m h, c_crc_eq_of_ascii m true h h2]
  have ht : IsAscii (takeLast 6 m) := isAscii_drop h _
  have hl : (takeLast 6 m).length ≤ 15 := by simp [takeLast]; omega
  rw [c_hex2int_eq_of_ascii _ ht hl]
  simp

theorem c_icao_eq (m : Msg) (h : IsHex m) (h2 : m.length % 2 = 0) (_h6 : 6 ≤ m.length) :
    C.icao m = icao m := c_icao_eq_of_ascii m (isAscii_of_isHex h) h2

/-! ### squawk, idcode -/

theorem sq3 (a b c : Bool) :
    ((if a then 1 else 0) * 2 + (if b then 1 else 0)) * 2 + (if c then 1 else 0) = bin2int [a, b, c] := by
  cases a <;> cases b <;> cases c <;> rfl

/-- identity code: the same four octal digits, `RuntimeError` unless the string has 13 bits -/
theorem c_squawk_eq (b : Bits) : C.squawk b = squawk b := by
  unfold C.squawk squawk
  split
  · simp only [sq3]
  · rename_i hne
    split
    · rename_i C1 A1 C2 A2 C4 A4 X B1 D1 B2 D2 B4 D4
      exact absurd rfl (hne C1 A1 C2 A2 C4 A4 X B1 D1 B2 D2 B4 D4)
    · rfl

theorem c_idcode_eq_of_ascii (m : Msg) (h : IsAscii m) : C.idcode m = idcode m := by
  unfold C.idcode idcode
  rw [c_df_eq_of_ascii m h, c_hex2bin_eq_of_ascii m h, c_squawk_eq]

theorem c_idcode_eq (m : Msg) (h : IsHex m) : C.idcode m = idcode m :=
  c_idcode_eq_of_ascii m (isAscii_of_isHex h)

end PyModeS.CC
