/-
  c_common.gray2int / gray2alt / altitude / altcode (C `int` arithmetic, integer sentinels)
  versus py_common (unbounded integers, `None`).
-/
import PyModeS.Proofs.CCommon.Basic
namespace PyModeS.CC
open PyModeS PyModeS.CRC

theorem bin2int_lt_of_length_le (b : Bits) (k : Nat) (h : b.length ≤ k) : bin2int b < 2 ^ k :=
  Nat.lt_of_lt_of_le (bin2int_lt b) (Nat.pow_le_pow_right (by decide) h)

/-- the Gray-code value: no 32-bit effect below 32 bits -/
theorem c_gray2int_eq (b : Bits) (h : b.length ≤ 31) : C.gray2int b = (gray2int b : Int) := by
  unfold C.gray2int gray2int
  rw [c_bin2int_eq b (by omega)]
  have h1 := bin2int_lt_of_length_le b 31 h
  have h2 : (2 : Nat) ^ 31 = 2147483648 := by decide
  rw [wrap32_of_range (by omega) (by omega)]
  simp

/-- a decoded Gillham altitude is a multiple of 100 ft, hence never one of the C sentinels -/
theorem gray2alt_ne_sentinel (g : Bits) (a : Int) (h : gray2alt g = some a) : a ≠ -1 ∧ a ≠ -999999 := by
  unfold gray2alt at h
  simp only [] at h
  split at h
  · simp at h
  · simp only [Option.some.injEq] at h
    subst h
    split <;> constructor <;> omega

/-- `gray2alt`: −1 exactly where Python returns `None`, the same number otherwise -/
theorem c_gray2alt_eq (b : Bits) (h : b.length ≤ 39) :
    C.gray2alt b = match gray2alt b with | some a => a | none => -1 := by
  unfold C.gray2alt gray2alt
  have h8 : (slice 0 8 b).length ≤ 31 := by rw [slice_length]; omega
  have h3 : (b.drop 8).length ≤ 31 := by rw [List.length_drop]; omega
  rw [c_gray2int_eq _ h8, c_gray2int_eq _ h3]
  generalize gray2int (slice 0 8 b) = n500
  generalize gray2int (b.drop 8) = n100
  simp only []
  by_cases hc : n100 = 0 ∨ n100 = 5 ∨ n100 = 6
  · have hc' : (n100 : Int) = 0 ∨ (n100 : Int) = 5 ∨ (n100 : Int) = 6 := by omega
    rw [if_pos hc', if_pos hc]
  · have hc' : ¬ ((n100 : Int) = 0 ∨ (n100 : Int) = 5 ∨ (n100 : Int) = 6) := by omega
    rw [if_neg hc', if_neg hc]
    simp only []
    by_cases h7 : n100 = 7
    · have h7' : (n100 : Int) = 7 := by omega
      rw [if_pos h7', if_pos h7]
      by_cases hp : n500 % 2 = 1
      · have hp' : (n500 : Int) % 2 ≠ 0 := by omega
        rw [if_pos hp', if_pos hp]; simp
      · have hp' : ¬ ((n500 : Int) % 2 ≠ 0) := by omega
        rw [if_neg hp', if_neg hp]; simp
    · have h7' : ¬ ((n100 : Int) = 7) := by omega
      rw [if_neg h7', if_neg h7]
      by_cases hp : n500 % 2 = 1
      · have hp' : (n500 : Int) % 2 ≠ 0 := by omega
        rw [if_pos hp', if_pos hp]
      · have hp' : ¬ ((n500 : Int) % 2 ≠ 0) := by omega
        rw [if_neg hp', if_neg hp]

/-- through the sentinel map the C `gray2alt` is the Python one -/
theorem c_gray2alt_sentinel (b : Bits) (h : b.length ≤ 39) : C.altOfSentinel (C.gray2alt b) = gray2alt b := by
  rw [c_gray2alt_eq b h]
  cases hg : gray2alt b with
  | none => simp [C.altOfSentinel]
  | some a =>
    have := gray2alt_ne_sentinel b a hg
    simp [C.altOfSentinel, this.1, this.2]

/-- on a 13-bit string the C altitude, through the sentinel map, is the Python one -/
theorem c_altitude13 (m0 m1 m2 m3 m4 m5 M m7 Q m9 m10 m11 m12 : Bool) :
    C.altOfSentinel <$> C.altitude [m0, m1, m2, m3, m4, m5, M, m7, Q, m9, m10, m11, m12]
      = altitude13 [m0, m1, m2, m3, m4, m5, M, m7, Q, m9, m10, m11, m12] := by
  unfold C.altitude altitude13
  simp only []
  rw [c_bin2int_eq _ (by simp)]
  by_cases hz : bin2int [m0, m1, m2, m3, m4, m5, M, m7, Q, m9, m10, m11, m12] = 0
  · have hz' : ((bin2int [m0, m1, m2, m3, m4, m5, M, m7, Q, m9, m10, m11, m12] : Nat) : Int) = 0 := by omega
    rw [if_pos hz', if_pos hz]
    simp [C.altOfSentinel]
  · have hz' : ¬ (((bin2int [m0, m1, m2, m3, m4, m5, M, m7, Q, m9, m10, m11, m12] : Nat) : Int) = 0) := by omega
    rw [if_neg hz', if_neg hz]
    cases M with
    | true =>
      simp only [Bool.true_eq_false, if_false, Res.map_val]
      rw [c_bin2int_eq _ (by simp)]
      have h1 := bin2int_lt_of_length_le [m0, m1, m2, m3, m4, m5, m7, Q, m9, m10, m11, m12] 12 (by simp)
      simp only [Int.toNat_natCast, m2ft]
      generalize bin2int [m0, m1, m2, m3, m4, m5, m7, Q, m9, m10, m11, m12] = n at h1 ⊢
      have h2 : n * 328084 / 100000 < 2147483648 := by omega
      rw [wrap32_of_range (by omega) (by omega)]
      have h3 : ¬ (((n * 328084 / 100000 : Nat) : Int) = -999999 ∨ ((n * 328084 / 100000 : Nat) : Int) = -1) := by omega
      simp only [C.altOfSentinel, h3, if_false]
    | false =>
      cases Q with
      | true =>
        simp only [if_true, Bool.true_eq_false, if_false, Res.map_val]
        rw [c_bin2int_eq _ (by simp)]
        have h1 := bin2int_lt_of_length_le [m0, m1, m2, m3, m4, m5, m7, m9, m10, m11, m12] 11 (by simp)
        generalize bin2int [m0, m1, m2, m3, m4, m5, m7, m9, m10, m11, m12] = n at h1 ⊢
        rw [wrap32_of_range (by omega) (by omega)]
        have h3 : ¬ (((n : Int) * 25 - 1000) = -999999 ∨ ((n : Int) * 25 - 1000) = -1) := by omega
        simp only [C.altOfSentinel, h3, if_false]
        simp
      | false =>
        simp only [if_true, Bool.false_eq_true, if_false, Res.map_val]
        rw [c_gray2alt_sentinel _ (by simp)]

/-- altitude code: `RuntimeError` on the same inputs (anything but 13 bits); otherwise the sentinel map
    turns the C integer into the Python result (−999999 ↔ the zero code, −1 ↔ an illegal Gillham
    code, and no decoded altitude equals a sentinel) -/
theorem c_altitude_eq (b : Bits) : C.altOfSentinel <$> C.altitude b = altitude13 b := by
  by_cases h13 : ∃ m0 m1 m2 m3 m4 m5 M m7 Q m9 m10 m11 m12, b = [m0, m1, m2, m3, m4, m5, M, m7, Q, m9, m10, m11, m12]
  · obtain ⟨m0, m1, m2, m3, m4, m5, M, m7, Q, m9, m10, m11, m12, rfl⟩ := h13
    exact c_altitude13 ..
  · have hne : ∀ m0 m1 m2 m3 m4 m5 M m7 Q m9 m10 m11 m12, b = [m0, m1, m2, m3, m4, m5, M, m7, Q, m9, m10, m11, m12] → False :=
      fun m0 m1 m2 m3 m4 m5 M m7 Q m9 m10 m11 m12 hb => h13 ⟨m0, m1, m2, m3, m4, m5, M, m7, Q, m9, m10, m11, m12, hb⟩
    unfold C.altitude altitude13
    split
    · exact (hne _ _ _ _ _ _ _ _ _ _ _ _ _ rfl).elim
    · split
      · exact (hne _ _ _ _ _ _ _ _ _ _ _ _ _ rfl).elim
      · rfl

/-- the failure sets coincide: both raise `RuntimeError` exactly off 13 bits -/
theorem c_altitude_rte_iff (b : Bits) : C.altitude b = .rte ↔ altitude13 b = .rte := by
  have := c_altitude_eq b
  constructor
  · intro h; rw [h] at this; exact this.symm
  · intro h
    rw [h] at this
    cases hc : C.altitude b with
    | val x => rw [hc] at this; exact absurd this (by simp)
    | rte => rfl
    | exc => rw [hc] at this; exact absurd this (by intro h; cases h)

theorem c_altcode_eq_of_ascii (m : Msg) (h : IsAscii m) : C.altOfSentinel <$> C.altcode m = altcode m := by
  unfold C.altcode altcode
  rw [c_df_eq_of_ascii m h, c_hex2bin_eq_of_ascii m h]
  simp only []
  split
  · rfl
  · exact c_altitude_eq _

theorem c_altcode_eq (m : Msg) (h : IsHex m) : C.altOfSentinel <$> C.altcode m = altcode m :=
  c_altcode_eq_of_ascii m (isAscii_of_isHex h)

end PyModeS.CC
