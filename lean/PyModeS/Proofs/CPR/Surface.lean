/-
  C05 core: the surface global decode — hemisphere choice and the choice among the four
  longitude solutions `lon + 90k`.
-/
import Mathlib.Data.List.GetD
import PyModeS.Proofs.CPR.Global

namespace PyModeS.CPR
open Spec

/-! ### normalisation to `[-180, 180)` and circular distance, as coded -/

/-- `(x + 180) % 360 - 180` -/
def wrapPM (x : ℚ) : ℚ := rmod360 (x + 180) - 180
/-- `abs((lonRef - l + 180) % 360 - 180)` -/
def circDist (lonRef l : ℚ) : ℚ := rabs (rmod360 (lonRef - l + 180) - 180)
/-- the four candidate longitudes, normalised -/
def lonCands (lon : ℚ) : List ℚ := [lon, lon + 90, lon + 180, lon + 270].map wrapPM
/-- the candidate picked by `min(range(4), key=dls)` -/
def pickLon (lonRef lon : ℚ) : ℚ :=
  (lonCands lon).getD (argminFirst ((lonCands lon).map (circDist lonRef))) 0

/-- hemisphere choice between the northern candidate `x` and `x − 90` -/
def hemi (latRef x : ℚ) : ℚ := if rabs (x - latRef) ≤ rabs (x - 90 - latRef) then x else x - 90

def sLatEven (e o : ℕ × ℕ) (latRef : ℚ) : ℚ := hemi latRef (latEvenRaw 90 e.1 o.1)
def sLatOdd (e o : ℕ × ℕ) (latRef : ℚ) : ℚ := hemi latRef (latOddRaw 90 e.1 o.1)

theorem circDist_eq (lonRef l : ℚ) : circDist lonRef l = |wrapPM (lonRef - l)| := by
  unfold circDist wrapPM; rw [rabs_eq_abs]

theorem wrapPM_spec (x : ℚ) :
    wrapPM x = x - 360 * ((⌊(x + 180) / 360⌋ : ℤ) : ℚ) ∧ -180 ≤ wrapPM x ∧ wrapPM x < 180 := by
  have e : wrapPM x = x - 360 * ((⌊(x + 180) / 360⌋ : ℤ) : ℚ) := by
    unfold wrapPM rmod360; rw [ratFloor_eq]; ring
  have h1 := Int.floor_le ((x + 180) / 360)
  have h2 := Int.lt_floor_add_one ((x + 180) / 360)
  rw [le_div_iff₀ (by norm_num)] at h1
  rw [div_lt_iff₀ (by norm_num)] at h2
  refine ⟨e, ?_, ?_⟩ <;> rw [e] <;> linarith only [h1, h2]

theorem wrapPM_unique (x δ : ℚ) (t : ℤ) (hx : x = δ + 360 * t) (h : -180 ≤ δ ∧ δ < 180) :
    wrapPM x = δ := by
  have hf : ⌊(x + 180) / 360⌋ = t := by
    rw [Int.floor_eq_iff, hx]
    constructor
    · rw [le_div_iff₀ (by norm_num)]; linarith [h.1]
    · rw [div_lt_iff₀ (by norm_num)]; linarith [h.2]
  rw [(wrapPM_spec x).1, hf, hx]; ring

theorem wrapPM_periodic (x : ℚ) (t : ℤ) : wrapPM (x + 360 * t) = wrapPM x := by
  obtain ⟨e, h1, h2⟩ := wrapPM_spec x
  apply wrapPM_unique (x + 360 * t) (wrapPM x) (⌊(x + 180) / 360⌋ + t) _ ⟨h1, h2⟩
  rw [e]; push_cast; ring

/-! ### `argminFirst` returns the index of a least element -/

/-- invariant of the scan: `pre` is the part already seen, `best = pre[bi]` its least element -/
theorem argminFirst_go_spec : ∀ (ys pre : List ℚ) (best : ℚ) (bi : ℕ), bi < pre.length →
    pre.getD bi 0 = best → (∀ p ∈ pre, best ≤ p) →
    argminFirst.go best bi pre.length ys < (pre ++ ys).length ∧
      ∀ p ∈ pre ++ ys, (pre ++ ys).getD (argminFirst.go best bi pre.length ys) 0 ≤ p
  | [], pre, best, bi, hbi, hb, hmin => by
    rw [List.append_nil]; exact ⟨hbi, fun p hp => hb ▸ hmin p hp⟩
  | y :: ys, pre, best, bi, hbi, hb, hmin => by
    have e : pre ++ y :: ys = (pre ++ [y]) ++ ys := (List.append_assoc pre [y] ys).symm
    have el : (pre ++ [y]).length = pre.length + 1 := List.length_append
    rw [argminFirst.go, e, ← el]
    split_ifs with hy
    · exact argminFirst_go_spec ys (pre ++ [y]) y pre.length (by omega)
        (by rw [List.getD_eq_getElem?_getD, List.getElem?_concat_length]; rfl)
        (fun p hp => by
          rcases List.mem_append.mp hp with h | h
          · exact le_trans hy.le (hmin p h)
          · exact (List.mem_singleton.mp h) ▸ le_rfl)
    · exact argminFirst_go_spec ys (pre ++ [y]) best bi (by omega)
        (by rw [List.getD_eq_getElem?_getD, List.getElem?_append_left hbi,
          ← List.getD_eq_getElem?_getD]; exact hb)
        (fun p hp => by
          rcases List.mem_append.mp hp with h | h
          · exact hmin p h
          · exact (List.mem_singleton.mp h) ▸ not_lt.mp hy)

theorem argminFirst_spec (x : ℚ) (xs : List ℚ) :
    argminFirst (x :: xs) < (x :: xs).length ∧
      ∀ p ∈ x :: xs, (x :: xs).getD (argminFirst (x :: xs)) 0 ≤ p :=
  argminFirst_go_spec xs [x] x 0 Nat.one_pos rfl (fun _ hp => (List.mem_singleton.mp hp) ▸ le_rfl)

/-- the picked candidate is a closest one -/
theorem pickLon_closest (lonRef lon : ℚ) :
    ∃ k, k < 4 ∧ pickLon lonRef lon = (lonCands lon).getD k 0 ∧
      ∀ j, j < 4 → circDist lonRef ((lonCands lon).getD k 0) ≤ circDist lonRef ((lonCands lon).getD j 0) := by
  obtain ⟨hk, hmin⟩ := argminFirst_spec (circDist lonRef (wrapPM lon))
    [circDist lonRef (wrapPM (lon + 90)), circDist lonRef (wrapPM (lon + 180)),
      circDist lonRef (wrapPM (lon + 270))]
  change argminFirst ((lonCands lon).map (circDist lonRef)) < 4 at hk
  change ∀ p ∈ (lonCands lon).map (circDist lonRef), ((lonCands lon).map (circDist lonRef)).getD
    (argminFirst ((lonCands lon).map (circDist lonRef))) 0 ≤ p at hmin
  have hm : ∀ i, i < 4 → ((lonCands lon).map (circDist lonRef)).getD i 0
      = circDist lonRef ((lonCands lon).getD i 0) := fun i hi => by
    rw [List.getD_eq_getElem _ _ (show i < ((lonCands lon).map (circDist lonRef)).length from hi),
      List.getD_eq_getElem _ _ (show i < (lonCands lon).length from hi), List.getElem_map]
  refine ⟨_, hk, rfl, fun j hj => ?_⟩
  rw [← hm _ hk, ← hm j hj,
    List.getD_eq_getElem _ _ (show j < ((lonCands lon).map (circDist lonRef)).length from hj)]
  exact hmin _ (List.getElem_mem _)

/-! ### the true longitude is picked when the reference is within 45° of it -/

theorem circ_far (δ : ℚ) (hδ : |δ| < 45) (g : ℤ) (hg : g ≠ 0) : 45 < |δ - 90 * g| := by
  rw [abs_lt] at hδ
  rcases lt_or_gt_of_ne hg with h | h
  · have : (g : ℚ) ≤ -1 := by exact_mod_cast (by omega : g ≤ -1)
    exact lt_of_lt_of_le (by linarith) (le_abs_self _)
  · have : (1 : ℚ) ≤ (g : ℚ) := by exact_mod_cast (by omega : 1 ≤ g)
    exact lt_of_lt_of_le (by linarith) (neg_le_abs _)

/-- a candidate `l = y + 90 g`: if `g ≡ 0 (mod 4)` it is the true longitude (normalised) at
    distance `|δ|`, otherwise it is farther than 45° from the reference -/
theorem cand_dist (lonRef y δ : ℚ) (u : ℤ) (hδ : lonRef - y = δ + 360 * u) (hδr : |δ| < 45)
    (l : ℚ) (g : ℤ) (hl : l = y + 90 * g) :
    (g % 4 = 0 → wrapPM l = wrapPM y ∧ circDist lonRef (wrapPM l) = |δ|) ∧
    (g % 4 ≠ 0 → 45 < circDist lonRef (wrapPM l)) := by
  obtain ⟨el, -, -⟩ := wrapPM_spec l
  obtain ⟨ew, hw1, hw2⟩ := wrapPM_spec (lonRef - wrapPM l)
  generalize ⌊(l + 180) / 360⌋ = a at el
  generalize ⌊(lonRef - wrapPM l + 180) / 360⌋ = b at ew
  -- the normalised difference is `δ − 90 G` with `G ≡ g (mod 4)`
  generalize hG : g - 4 * u - 4 * a + 4 * b = G
  have key : wrapPM (lonRef - wrapPM l) = δ - 90 * (G : ℚ) := by
    rw [ew, el, hl, ← hG]; push_cast; linear_combination hδ
  rw [circDist_eq, key]
  constructor
  · intro hg
    have h0 : G = 0 := by
      rw [key] at hw1 hw2
      obtain ⟨h1, h2⟩ := abs_lt.mp hδr
      have h3 : ((-3 : ℤ) : ℚ) < (G : ℚ) := by push_cast; linarith only [hw2, h1]
      have h4 : (G : ℚ) < ((3 : ℤ) : ℚ) := by push_cast; linarith only [hw1, h2]
      have := Int.cast_lt.mp h3
      have := Int.cast_lt.mp h4
      omega
    refine ⟨?_, by rw [h0, Int.cast_zero, mul_zero, sub_zero]⟩
    have hg4 : (g : ℚ) = 4 * ((g / 4 : ℤ) : ℚ) := by exact_mod_cast (by omega : g = 4 * (g / 4))
    rw [hl, hg4, show (90 : ℚ) * (4 * ((g / 4 : ℤ) : ℚ)) = 360 * ((g / 4 : ℤ) : ℚ) by ring,
      wrapPM_periodic]
  · intro hg
    exact circ_far δ hδr G (by omega)

theorem lonCands_getD (lon : ℚ) (j : ℕ) (hj : j < 4) :
    (lonCands lon).getD j 0 = wrapPM (lon + 90 * (j : ℚ)) := by
  have : j = 0 ∨ j = 1 ∨ j = 2 ∨ j = 3 := by omega
  rcases this with rfl | rfl | rfl | rfl <;> norm_num [lonCands]

/-- exactly one of the four candidates is closer than 45° to the reference, and a closest one is
    picked -/
theorem pickLon_true (lonRef y lon : ℚ) (z : ℤ) (hlon : lon = y + 90 * z)
    (hd : circDist lonRef y < 45) : pickLon lonRef lon = wrapPM y := by
  obtain ⟨eδ, _, _⟩ := wrapPM_spec (lonRef - y)
  rw [circDist_eq] at hd
  have hδ : lonRef - y = wrapPM (lonRef - y) + 360 * ((⌊(lonRef - y + 180) / 360⌋ : ℤ) : ℚ) := by
    rw [eδ]; ring
  have cd := fun j : ℕ => cand_dist lonRef y _ _ hδ hd (lon + 90 * (j : ℚ)) (z + j)
    (by rw [hlon]; push_cast; ring)
  obtain ⟨k, hk, hp, hmin⟩ := pickLon_closest lonRef lon
  obtain ⟨j0, hj0, hz0⟩ : ∃ j0 : ℕ, j0 < 4 ∧ (z + j0) % 4 = 0 :=
    ⟨((-z) % 4).toNat, by omega, by omega⟩
  have hk0 : (z + k) % 4 = 0 := by
    by_contra hne
    have h1 := (cd k).2 hne
    have h2 := ((cd j0).1 hz0).2
    have h3 := hmin j0 hj0
    rw [lonCands_getD lon k hk, lonCands_getD lon j0 hj0] at h3
    linarith only [h1, h2, h3, hd]
  rw [hp, lonCands_getD lon k hk]
  exact ((cd k).1 hk0).1

/-! ### latitude: hemisphere choice -/

theorem hemi_north (latRef x : ℚ) (h : |latRef - x| < 45) : hemi latRef x = x := by
  unfold hemi
  rw [rabs_eq_abs, rabs_eq_abs]
  rw [abs_lt] at h
  have h1 : |x - latRef| < 45 := by rw [abs_lt]; constructor <;> linarith [h.1, h.2]
  have h2 : 45 < |x - 90 - latRef| := lt_of_lt_of_le (by linarith [h.1]) (neg_le_abs _)
  rw [if_pos (by linarith)]

theorem hemi_south (latRef x : ℚ) (h : |latRef - x| < 45) : hemi latRef (x + 90) = x := by
  unfold hemi
  rw [rabs_eq_abs, rabs_eq_abs]
  rw [abs_lt] at h
  have h1 : |x + 90 - 90 - latRef| < 45 := by rw [abs_lt]; constructor <;> linarith [h.1, h.2]
  have h2 : 45 < |x + 90 - latRef| := lt_of_lt_of_le (by linarith [h.2]) (le_abs_self _)
  rw [if_neg (by linarith)]; ring

theorem hemi_pick (latRef x : ℚ) (h : |latRef - x| < 45) :
    hemi latRef (if 0 ≤ x then x else x + 90) = x := by
  split_ifs
  · exact hemi_north latRef x h
  · exact hemi_south latRef x h

end PyModeS.CPR
