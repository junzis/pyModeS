/-
  The table staircase `nlStair` of the model (Model/CPR.lean), by list induction and table checks only:
  what `nlStairAux` returns on an arbitrary table, then the same on the committed table `Spec.nlTable`
  (table facts by kernel evaluation), and `cprNL = nlStair ∘ |·|`.
  That the table holds the DO-260B transition latitudes is real analysis and lives in Proofs/NL/.
-/
import PyModeS.Proofs.CPR.Floor

namespace PyModeS.CPR

/-- the scale of the table (thresholds in units of 10⁻¹²°), as the literal the model multiplies by -/
theorem e12 : (10 : ℚ) ^ 12 = 1000000000000 := by norm_num

/-! ### `nlStairAux` over an arbitrary table -/

theorem nlStairAux_nil (x : ℚ) : nlStairAux x [] = if x ≤ 87 then 2 else 1 := rfl

theorem nlStairAux_cons (x : ℚ) (n lo hi : ℕ) (rest : List (ℕ × ℕ × ℕ)) :
    nlStairAux x ((n, lo, hi) :: rest) =
      if x * 1000000000000 < (lo : ℚ) then n else nlStairAux x rest := rfl

/-- the value is the zone number of a row whose threshold exceeds `x`, or the default when no
    threshold does -/
theorem nlStairAux_spec (x : ℚ) : ∀ tbl : List (ℕ × ℕ × ℕ),
    (∃ r ∈ tbl, x * 1000000000000 < (r.2.1 : ℚ) ∧ nlStairAux x tbl = r.1) ∨
    ((∀ r ∈ tbl, (r.2.1 : ℚ) ≤ x * 1000000000000) ∧
      nlStairAux x tbl = if x ≤ 87 then 2 else 1)
  | [] => Or.inr ⟨fun _ h => absurd h List.not_mem_nil, rfl⟩
  | (n, lo, hi) :: rest => by
    rw [nlStairAux_cons]
    by_cases h : x * 1000000000000 < (lo : ℚ)
    · rw [if_pos h]
      exact Or.inl ⟨_, List.mem_cons_self .., h, rfl⟩
    · rw [if_neg h]
      rcases nlStairAux_spec x rest with ⟨r, hr, hlt, he⟩ | ⟨hall, he⟩
      · exact Or.inl ⟨r, List.mem_cons_of_mem _ hr, hlt, he⟩
      · exact Or.inr ⟨List.forall_mem_cons.mpr ⟨not_lt.mp h, hall⟩, he⟩

theorem nlStairAux_le (x : ℚ) (N : ℕ) (hN : 2 ≤ N) (tbl : List (ℕ × ℕ × ℕ))
    (h : ∀ r ∈ tbl, r.1 ≤ N) : nlStairAux x tbl ≤ N := by
  rcases nlStairAux_spec x tbl with ⟨r, hr, -, he⟩ | ⟨-, he⟩
  · exact he ▸ h r hr
  · rw [he]; split_ifs <;> omega

theorem nlStairAux_antitone (x y : ℚ) (hxy : x ≤ y) :
    ∀ tbl : List (ℕ × ℕ × ℕ), (∀ r ∈ tbl, 2 ≤ r.1) → (tbl.map (·.1)).Pairwise (· ≥ ·) →
      nlStairAux y tbl ≤ nlStairAux x tbl
  | [], _, _ => by
    rw [nlStairAux_nil, nlStairAux_nil]
    split_ifs with h1 h2 h2
    · exact le_refl _
    · exact absurd (le_trans hxy h1) h2
    · omega
    · exact le_refl _
  | (n, lo, hi) :: rest, h2, hd => by
    obtain ⟨hall, hrest⟩ := List.pairwise_cons.mp hd
    have hx12 : x * 1000000000000 ≤ y * 1000000000000 :=
      mul_le_mul_of_nonneg_right hxy (by norm_num)
    rw [nlStairAux_cons, nlStairAux_cons]
    by_cases hy : y * 1000000000000 < (lo : ℚ)
    · rw [if_pos hy, if_pos (lt_of_le_of_lt hx12 hy)]
    · rw [if_neg hy]
      by_cases hx : x * 1000000000000 < (lo : ℚ)
      · rw [if_pos hx]
        exact nlStairAux_le y n (h2 _ (List.mem_cons_self ..)) rest
          (fun r hr => hall _ (List.mem_map_of_mem hr))
      · rw [if_neg hx]
        exact nlStairAux_antitone x y hxy rest (fun r hr => h2 r (List.mem_cons_of_mem _ hr)) hrest

/-- rows whose threshold is not above `x` are skipped -/
theorem nlStairAux_skip (x : ℚ) (post : List (ℕ × ℕ × ℕ)) :
    ∀ pre : List (ℕ × ℕ × ℕ), (∀ r ∈ pre, (r.2.1 : ℚ) ≤ x * 1000000000000) →
      nlStairAux x (pre ++ post) = nlStairAux x post
  | [], _ => rfl
  | (n, lo, hi) :: rest, h => by
    rw [List.cons_append, nlStairAux_cons,
      if_neg (not_lt.mpr (h (n, lo, hi) (List.mem_cons_self ..)))]
    exact nlStairAux_skip x post rest (fun r hr => h r (List.mem_cons_of_mem _ hr))

/-- two arguments on the same side of every threshold get the same value -/
theorem nlStairAux_congr (x y : ℚ) (h87 : x ≤ 87 ↔ y ≤ 87) :
    ∀ tbl : List (ℕ × ℕ × ℕ),
      (∀ r ∈ tbl, (x * 1000000000000 < (r.2.1 : ℚ) ↔ y * 1000000000000 < (r.2.1 : ℚ))) →
      nlStairAux x tbl = nlStairAux y tbl
  | [], _ => by
    rw [nlStairAux_nil, nlStairAux_nil]
    by_cases h : x ≤ 87
    · rw [if_pos h, if_pos (h87.mp h)]
    · rw [if_neg h, if_neg (mt h87.mpr h)]
  | (n, lo, hi) :: rest, h => by
    rw [nlStairAux_cons, nlStairAux_cons]
    have h0 := h (n, lo, hi) (List.mem_cons_self ..)
    by_cases hx : x * 1000000000000 < (lo : ℚ)
    · rw [if_pos hx, if_pos (h0.mp hx)]
    · rw [if_neg hx, if_neg (mt h0.mpr hx)]
      exact nlStairAux_congr x y h87 rest (fun r hr => h r (List.mem_cons_of_mem _ hr))

/-! ### facts about the committed table -/

theorem tbl_range : ∀ r ∈ Spec.nlTable, 1 ≤ r.1 ∧ r.1 ≤ 59 := by decide +kernel

theorem tbl_ge_two : ∀ r ∈ Spec.nlTable, 2 ≤ r.1 := by decide +kernel

/-- zone numbers descend along the table (adjacent rows compared, the rest by transitivity) -/
theorem tbl_desc : (Spec.nlTable.map (·.1)).Pairwise (· ≥ ·) :=
  List.IsChain.pairwise (by decide +kernel)

/-- every threshold is at most 87° -/
theorem tbl_lo_le_87 : ∀ r ∈ Spec.nlTable, r.2.1 ≤ 87000000000000 := by decide +kernel

/-- every row but `n = 2` has its threshold at most θ₃ (lower end 86.535369975121°) -/
theorem tbl_lo_le_theta3 : ∀ r ∈ Spec.nlTable, r.1 = 2 ∨ r.2.1 ≤ 86535369975121 := by
  decide +kernel

/-- the last row of the table is `(2, 87·10¹², 87·10¹²)`, all others have `n ≥ 3` -/
theorem tbl_row_cases :
    ∀ r ∈ Spec.nlTable, 3 ≤ r.1 ∨ r = (2, 87000000000000, 87000000000000) := by
  decide +kernel

/-- the thresholds are strictly ascending -/
theorem tbl_lo_ascending :
    (List.range 57).all (fun i =>
      match Spec.nlTable[i]?, Spec.nlTable[i + 1]? with
      | some a, some b => decide (a.2.1 < b.2.1)
      | _, _ => false) = true := by decide +kernel

/-! ### the staircase on the committed table -/

theorem nlStair_spec (x : ℚ) :
    (∃ r ∈ Spec.nlTable, x * 1000000000000 < (r.2.1 : ℚ) ∧ nlStair x = r.1) ∨
    ((∀ r ∈ Spec.nlTable, (r.2.1 : ℚ) ≤ x * 1000000000000) ∧
      nlStair x = if x ≤ 87 then 2 else 1) :=
  nlStairAux_spec x Spec.nlTable

theorem nlStair_range (x : ℚ) : 1 ≤ nlStair x ∧ nlStair x ≤ 59 := by
  rcases nlStair_spec x with ⟨r, hr, -, he⟩ | ⟨-, he⟩
  · exact he ▸ tbl_range r hr
  · rw [he]; split_ifs <;> omega

theorem nlStair_antitone (x y : ℚ) (h : x ≤ y) : nlStair y ≤ nlStair x :=
  nlStairAux_antitone x y h _ tbl_ge_two tbl_desc

/-- below θ₅₉ (lower end 10.470471299968°) the value is 59 -/
theorem nlStair_59 (x : ℚ) (h : x * 1000000000000 < 10470471299968) : nlStair x = 59 :=
  (nlStairAux_cons x 59 10470471299968 10470471299969 Spec.nlTable.tail).trans
    (if_pos (by exact_mod_cast h))

/-- from θ₃ up to 87° only the row `n = 2` can be hit, and the default is 2 as well -/
theorem nlStair_two (x : ℚ) (h1 : (86535369975121 : ℚ) ≤ x * 1000000000000) (h2 : x ≤ 87) :
    nlStair x = 2 := by
  rcases nlStair_spec x with ⟨r, hr, hlt, he⟩ | ⟨-, he⟩
  · rcases tbl_lo_le_theta3 r hr with h | h
    · exact he.trans h
    · exact absurd hlt (not_lt.mpr (le_trans (by exact_mod_cast h) h1))
  · exact he.trans (if_pos h2)

theorem nlStair_one (x : ℚ) (h : 87 < x) : nlStair x = 1 := by
  rcases nlStair_spec x with ⟨r, hr, hlt, -⟩ | ⟨-, he⟩
  · have : (r.2.1 : ℚ) ≤ 87000000000000 := by exact_mod_cast tbl_lo_le_87 r hr
    linarith only [this, hlt, h]
  · exact he.trans (if_neg (not_le.mpr h))

theorem nlStair_ge_two (x : ℚ) (h : x ≤ 87) : 2 ≤ nlStair x := by
  rcases nlStair_spec x with ⟨r, hr, -, he⟩ | ⟨-, he⟩
  · exact he ▸ tbl_ge_two r hr
  · exact (he.trans (if_pos h)).ge

theorem nlStair_eq_one_iff (x : ℚ) : nlStair x = 1 ↔ 87 < x := by
  constructor
  · intro h
    by_contra hc
    have := nlStair_ge_two x (not_lt.mp hc)
    omega
  · exact nlStair_one x

theorem tbl_length : Spec.nlTable.length = 58 := by decide +kernel

theorem tbl_lo_step (i : ℕ) (hi : i < 57) :
    ∃ a b, Spec.nlTable[i]? = some a ∧ Spec.nlTable[i + 1]? = some b ∧ a.2.1 < b.2.1 := by
  have := List.all_eq_true.mp tbl_lo_ascending i (List.mem_range.mpr hi)
  split at this
  · rename_i a b ha hb
    exact ⟨a, b, ha, hb, by simpa using this⟩
  · exact absurd this (by simp)

/-- the thresholds are ascending along the table -/
theorem tbl_lo_mono : ∀ (d i : ℕ) (a b : ℕ × ℕ × ℕ), Spec.nlTable[i]? = some a →
    Spec.nlTable[i + d]? = some b → a.2.1 ≤ b.2.1
  | 0, i, a, b, ha, hb => by
    rw [Nat.add_zero, ha] at hb
    exact (Option.some.inj hb) ▸ le_rfl
  | d + 1, i, a, b, ha, hb => by
    have hlt := (List.getElem?_eq_some_iff.mp hb).1
    rw [tbl_length] at hlt
    obtain ⟨c, c', hc, hc', h⟩ := tbl_lo_step (i + d) (by omega)
    rw [show i + (d + 1) = i + d + 1 from rfl, hc'] at hb
    exact (Option.some.inj hb) ▸ le_trans (tbl_lo_mono d i a c ha hc) h.le

/-- **the staircase law, row by row**: for consecutive rows `a = (n+1, θ_{n+1}, _)`,
    `b = (n, θ_n, _)` of the table, `θ_{n+1} ≤ x < θ_n` gives `nlStair x = n` -/
theorem nlStair_row (x : ℚ) (i : ℕ) (a b : ℕ × ℕ × ℕ)
    (ha : Spec.nlTable[i]? = some a) (hb : Spec.nlTable[i + 1]? = some b)
    (h1 : (a.2.1 : ℚ) ≤ x * 1000000000000) (h2 : x * 1000000000000 < (b.2.1 : ℚ)) :
    nlStair x = b.1 := by
  obtain ⟨hlen, hb'⟩ := List.getElem?_eq_some_iff.mp hb
  have hsplit : Spec.nlTable.take (i + 1) ++ b :: Spec.nlTable.drop (i + 1 + 1) = Spec.nlTable := by
    rw [← hb', ← List.drop_eq_getElem_cons hlen, List.take_append_drop]
  have hpre : ∀ r ∈ Spec.nlTable.take (i + 1), (r.2.1 : ℚ) ≤ x * 1000000000000 := by
    intro r hr
    obtain ⟨k, hk, rfl⟩ := List.mem_take_iff_getElem.mp hr
    have hki : k ≤ i := by omega
    have hkl : k < Spec.nlTable.length := by omega
    have := tbl_lo_mono (i - k) k _ a (List.getElem?_eq_getElem hkl)
      (by rw [Nat.add_sub_cancel' hki]; exact ha)
    exact le_trans (by exact_mod_cast this) h1
  rw [nlStair, ← hsplit, nlStairAux_skip x _ _ hpre]
  exact (nlStairAux_cons x b.1 b.2.1 b.2.2 _).trans (if_pos h2)

/-! ### `cprNL` is the staircase of `|lat|` -/

theorem cprNL_eq_stair (lat : ℚ) : cprNL lat = nlStair (rabs lat) := by
  unfold cprNL
  rw [rabs_eq_abs (rabs lat - 87), rabs_eq_abs lat]
  split_ifs with h1 h2 h3
  · exact (nlStair_59 _ (by linarith only [h1])).symm
  · refine (nlStair_one _ ?_).symm
    rcases h2 with h2 | h2
    · exact lt_of_lt_of_le h2 (le_abs_self lat)
    · exact lt_of_lt_of_le (lt_neg_of_lt_neg h2) (neg_le_abs lat)
  · have h4 : |lat| ≤ 87 :=
      abs_le.mpr ⟨not_lt.mp fun hc => h2 (Or.inr hc), not_lt.mp fun hc => h2 (Or.inl hc)⟩
    exact (nlStair_two _ (by linarith only [(abs_le.mp h3).1]) h4).symm
  · rfl

end PyModeS.CPR
