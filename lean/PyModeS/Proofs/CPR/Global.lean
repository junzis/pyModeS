/-
  C03 / C05 core: the global (two-frame) CPR decode.  DESIGN.md 11.1.
  Generic in the base `B` (360 airborne, 90 surface).
-/
import PyModeS.Proofs.CPR.Local

namespace PyModeS.CPR
open Spec

/-! ### pure arithmetic -/

/-- DESIGN 11.1, the one floor identity of the global decode.  Two coordinates `d0·(M0 + c0)` and
    `d1·(M1 + c1)` on grids of `n` and `n − 1` zones per base `B`, closer modulo `B` than half the
    zone offset `B/(n(n−1))`, determine `n·M1 − (n−1)·M0` (latitude: `n = 60`, `s = 0`; longitude:
    `n = NL`). -/
theorem zoneDiff_floor (B d0 d1 : ℚ) (hB : 0 < B) (n : ℕ) (hn : 2 ≤ n) (h0 : d0 * (n : ℚ) = B)
    (h1 : d1 * ((n : ℚ) - 1) = B) (M0 M1 s : ℤ) (c0 c1 : ℚ)
    (h : |d0 * ((M0 : ℚ) + c0) - d1 * ((M1 : ℚ) + c1) - B * s| < B / 2 / ((n : ℚ) * ((n : ℚ) - 1))) :
    ⌊c0 * ((n : ℚ) - 1) - c1 * n + 1 / 2⌋ = n * M1 - (n - 1) * M0 + n * (n - 1) * s := by
  have hn2 : (2 : ℚ) ≤ n := by exact_mod_cast hn
  have ht : (0 : ℚ) < (n : ℚ) * ((n : ℚ) - 1) := mul_pos (by linarith only [hn2]) (by linarith only [hn2])
  -- `B · (x − J)` is `n(n−1)` times the distance
  have key : B * (c0 * ((n : ℚ) - 1) - c1 * n - ((n * M1 - (n - 1) * M0 + n * (n - 1) * s : ℤ) : ℚ))
      = (d0 * ((M0 : ℚ) + c0) - d1 * ((M1 : ℚ) + c1) - B * s) * ((n : ℚ) * ((n : ℚ) - 1)) := by
    push_cast
    linear_combination (-((n : ℚ) - 1) * ((M0 : ℚ) + c0)) * h0 + ((n : ℚ) * ((M1 : ℚ) + c1)) * h1
  refine global_floor _ _ _ (sub_add_cancel _ _).symm (lt_of_mul_lt_mul_left ?_ hB.le)
  rw [← abs_of_pos hB, ← abs_mul, abs_of_pos hB, key, abs_mul, abs_of_pos ht, mul_one_div]
  exact (lt_div_iff₀ ht).mp h

theorem gM_mod_n (n : ℕ) (M0 M1 s : ℤ) :
    ((n : ℤ) * M1 - ((n : ℤ) - 1) * M0 + (n : ℤ) * ((n : ℤ) - 1) * s) % (n : ℤ) = M0 % (n : ℤ) := by
  have : (n : ℤ) * M1 - ((n : ℤ) - 1) * M0 + (n : ℤ) * ((n : ℤ) - 1) * s
      = M0 + (n : ℤ) * (M1 - M0 + ((n : ℤ) - 1) * s) := by ring
  rw [this, Int.add_mul_emod_self_left]

theorem gM_mod_n1 (n : ℕ) (M0 M1 s : ℤ) :
    ((n : ℤ) * M1 - ((n : ℤ) - 1) * M0 + (n : ℤ) * ((n : ℤ) - 1) * s) % ((n : ℤ) - 1)
      = M1 % ((n : ℤ) - 1) := by
  have : (n : ℤ) * M1 - ((n : ℤ) - 1) * M0 + (n : ℤ) * ((n : ℤ) - 1) * s
      = M1 + ((n : ℤ) - 1) * (M1 - M0 + (n : ℤ) * s) := by ring
  rw [this, Int.add_mul_emod_self_left]

/-- reducing the zone index modulo the number `q` of zones shifts the coordinate by a multiple
    of the base `B = q·d` -/
theorem zone_mod (d B : ℚ) (q : ℤ) (hq : d * (q : ℚ) = B) (K : ℤ) (c : ℚ) :
    d * (((K % q : ℤ) : ℚ) + c) = d * ((K : ℚ) + c) - B * ((K / q : ℤ) : ℚ) := by
  rw [Int.emod_def]; push_cast; rw [← hq]; ring

/-- with the zone index reduced modulo `q` the coordinate lies in `[0, B)` -/
theorem zone_mod_range (d B : ℚ) (q : ℤ) (hd : 0 < d) (hq : d * (q : ℚ) = B) (hq0 : 0 < q)
    (K : ℤ) (c : ℚ) (hc : 0 ≤ c ∧ c < 1) :
    0 ≤ d * (((K % q : ℤ) : ℚ) + c) ∧ d * (((K % q : ℤ) : ℚ) + c) < B := by
  have m0 : (0 : ℚ) ≤ ((K % q : ℤ) : ℚ) := by exact_mod_cast Int.emod_nonneg K hq0.ne'
  have m1 : ((K % q : ℤ) : ℚ) + 1 ≤ (q : ℚ) := by
    exact_mod_cast Int.add_one_le_of_lt (Int.emod_lt_of_pos K hq0)
  constructor
  · exact mul_nonneg hd.le (by linarith only [hc.1, m0])
  · rw [← hq]; exact mul_lt_mul_of_pos_left (by linarith only [hc.2, m1]) hd

/-- the representative in `[0, B)` of a coordinate `r ∈ [-B, B)` is `r` or `r + B` -/
theorem shift_unique (B x r : ℚ) (z : ℤ) (hB : 0 < B) (hx : x = r + B * z) (h : 0 ≤ x ∧ x < B)
    (hr : -B ≤ r ∧ r < B) : x = if 0 ≤ r then r else r + B := by
  have hz : z = (if 0 ≤ r then 0 else 1) := by
    split_ifs with h0
    · have h1 : B * ((-1 : ℤ) : ℚ) < B * z := by push_cast; linarith only [hx, h.1, hr.2]
      have h2 : B * z < B * ((1 : ℤ) : ℚ) := by push_cast; linarith only [hx, h.2, h0]
      have h1' := Int.cast_lt.mp (lt_of_mul_lt_mul_left h1 hB.le)
      have h2' := Int.cast_lt.mp (lt_of_mul_lt_mul_left h2 hB.le)
      omega
    · have h1 : B * ((0 : ℤ) : ℚ) < B * z := by push_cast; linarith only [hx, h.1, h0]
      have h2 : B * z < B * ((2 : ℤ) : ℚ) := by push_cast; linarith only [hx, h.2, hr.1]
      have h1' := Int.cast_lt.mp (lt_of_mul_lt_mul_left h1 hB.le)
      have h2' := Int.cast_lt.mp (lt_of_mul_lt_mul_left h2 hB.le)
      omega
  rw [hx, hz]
  split_ifs <;> push_cast <;> ring

/-! ### the intermediate values of the global decoders -/

def gJ (y0 y1 : ℕ) : ℤ := ⌊59 * ((y0 : ℚ) / 131072) - 60 * ((y1 : ℚ) / 131072) + 1 / 2⌋
def latEvenRaw (B : ℚ) (y0 y1 : ℕ) : ℚ := B / 60 * (((gJ y0 y1 % 60 : ℤ) : ℚ) + (y0 : ℚ) / 131072)
def latOddRaw (B : ℚ) (y0 y1 : ℕ) : ℚ := B / 59 * (((gJ y0 y1 % 59 : ℤ) : ℚ) + (y1 : ℚ) / 131072)
/-- bds05: `if lat >= 270: lat -= 360` -/
def wrap270 (x : ℚ) : ℚ := if x ≥ 270 then x - 360 else x
/-- bds05: `if lon > 180: lon -= 360` -/
def wrap180 (x : ℚ) : ℚ := if x > 180 then x - 360 else x
def gM (n : ℕ) (x0 x1 : ℕ) : ℤ :=
  ⌊(x0 : ℚ) / 131072 * ((n : ℚ) - 1) - (x1 : ℚ) / 131072 * n + 1 / 2⌋
/-- raw longitude with `ni = max (n - i) 1` zones, from the fraction of field `xs` -/
def lonRaw (B : ℚ) (n i : ℕ) (x0 x1 xs : ℕ) : ℚ :=
  B / ((max (n - i) 1 : ℕ) : ℚ) *
    (((gM n x0 x1 % ((max (n - i) 1 : ℕ) : ℤ) : ℤ) : ℚ) + (xs : ℚ) / 131072)

/-- the decoder's even / odd latitude (after the `≥ 270` wrap) -/
def latEven (f0 f1 : CprFrame) : ℚ := wrap270 (latEvenRaw 360 f0.lat f1.lat)
def latOdd (f0 f1 : CprFrame) : ℚ := wrap270 (latOddRaw 360 f0.lat f1.lat)

/-! ### latitude -/

/-- DESIGN 11.1 (latitude): the raw candidates are the representatives in `[0, B)` of the two
    coordinates `r0 = B/60·(K0 + y0/2¹⁷)`, `r1 = B/59·(K1 + y1/2¹⁷)` -/
theorem latRaw_eq (B : ℚ) (hB : 0 < B) (K0 K1 : ℤ) (y0 y1 : ℕ) (r0 r1 : ℚ)
    (h0 : r0 = B / 60 * ((K0 : ℚ) + (y0 : ℚ) / 131072))
    (h1 : r1 = B / 59 * ((K1 : ℚ) + (y1 : ℚ) / 131072))
    (c0 : 0 ≤ (y0 : ℚ) / 131072 ∧ (y0 : ℚ) / 131072 < 1)
    (c1 : 0 ≤ (y1 : ℚ) / 131072 ∧ (y1 : ℚ) / 131072 < 1)
    (hr0 : -B ≤ r0 ∧ r0 < B) (hr1 : -B ≤ r1 ∧ r1 < B) (h : |r0 - r1| < B / 7080) :
    latEvenRaw B y0 y1 = (if 0 ≤ r0 then r0 else r0 + B) ∧
    latOddRaw B y0 y1 = (if 0 ≤ r1 then r1 else r1 + B) := by
  have hJ : gJ y0 y1 = 60 * K1 - 59 * K0 := by
    have e : B / 2 / (((60 : ℕ) : ℚ) * (((60 : ℕ) : ℚ) - 1)) = B / 7080 := by push_cast; ring
    have := zoneDiff_floor B (B / 60) (B / 59) hB 60 (by norm_num) (by push_cast; ring)
      (by push_cast; ring) K0 K1 0 _ _
      (by rw [← h0, ← h1, Int.cast_zero, mul_zero, sub_zero, e]; exact h)
    unfold gJ
    rw [show (59 : ℚ) * ((y0 : ℚ) / 131072) - 60 * ((y1 : ℚ) / 131072) + 1 / 2
        = (y0 : ℚ) / 131072 * (((60 : ℕ) : ℚ) - 1) - (y1 : ℚ) / 131072 * ((60 : ℕ) : ℚ) + 1 / 2 by
      push_cast; ring, this]
    push_cast; ring
  have q60 : B / 60 * ((60 : ℤ) : ℚ) = B := by push_cast; ring
  have q59 : B / 59 * ((59 : ℤ) : ℚ) = B := by push_cast; ring
  have e0 : latEvenRaw B y0 y1 = r0 + B * ((-(K0 / 60) : ℤ) : ℚ) := by
    unfold latEvenRaw
    rw [hJ, show (60 * K1 - 59 * K0) % 60 = K0 % 60 by omega, zone_mod _ B 60 q60, ← h0]
    push_cast; ring
  have e1 : latOddRaw B y0 y1 = r1 + B * ((-(K1 / 59) : ℤ) : ℚ) := by
    unfold latOddRaw
    rw [hJ, show (60 * K1 - 59 * K0) % 59 = K1 % 59 by omega, zone_mod _ B 59 q59, ← h1]
    push_cast; ring
  exact ⟨shift_unique B _ r0 _ hB e0
      (zone_mod_range _ B 60 (by positivity) q60 (by norm_num) (gJ y0 y1) _ c0) hr0,
    shift_unique B _ r1 _ hB e1
      (zone_mod_range _ B 59 (by positivity) q59 (by norm_num) (gJ y0 y1) _ c1) hr1⟩

theorem enc_lat0 (nl : ℚ → ℕ) (B lat lon : ℚ) :
    ∃ K : ℤ, (cprEncode nl B 0 lat lon).rlat
      = B / 60 * ((K : ℚ) + ((cprEncode nl B 0 lat lon).yz : ℚ) / 131072) := by
  obtain ⟨K, hK⟩ := enc_lat nl B 0 lat lon
  refine ⟨K, ?_⟩
  rw [hK, enc_dlat]; norm_num

theorem enc_lat1 (nl : ℚ → ℕ) (B lat lon : ℚ) :
    ∃ K : ℤ, (cprEncode nl B 1 lat lon).rlat
      = B / 59 * ((K : ℚ) + ((cprEncode nl B 1 lat lon).yz : ℚ) / 131072) := by
  obtain ⟨K, hK⟩ := enc_lat nl B 1 lat lon
  refine ⟨K, ?_⟩
  rw [hK, enc_dlat]; norm_num

/-- **global latitude**, any base: from an even and an odd encoding whose carried latitudes lie in
    `[-B, B)` and differ by less than `B/7080` (half the even/odd zone offset) the decoder's raw
    candidates are the carried latitudes, shifted up by `B` when negative -/
theorem glat (nl : ℚ → ℕ) (B : ℚ) (hB : 0 < B) (lat0 lon0 lat1 lon1 : ℚ) (e0 e1 : Enc)
    (he0 : e0 = cprEncode nl B 0 lat0 lon0) (he1 : e1 = cprEncode nl B 1 lat1 lon1)
    (hr0 : -B ≤ e0.rlat ∧ e0.rlat < B) (hr1 : -B ≤ e1.rlat ∧ e1.rlat < B)
    (h : |e0.rlat - e1.rlat| < B / 7080) :
    latEvenRaw B e0.yz e1.yz = (if 0 ≤ e0.rlat then e0.rlat else e0.rlat + B) ∧
    latOddRaw B e0.yz e1.yz = (if 0 ≤ e1.rlat then e1.rlat else e1.rlat + B) := by
  subst he0 he1
  obtain ⟨K0, h0⟩ := enc_lat0 nl B lat0 lon0
  obtain ⟨K1, h1⟩ := enc_lat1 nl B lat1 lon1
  exact latRaw_eq B hB K0 K1 _ _ _ _ h0 h1 (enc_yz_range nl B 0 lat0 lon0)
    (enc_yz_range nl B 1 lat1 lon1) hr0 hr1 h

/-- the airborne `≥ 270` wrap undoes the shift of a southern latitude -/
theorem wrap270_pick (x : ℚ) (h : -90 ≤ x ∧ x ≤ 90) :
    wrap270 (if 0 ≤ x then x else x + 360) = x := by
  unfold wrap270
  split_ifs with h0 h1 h1
  · linarith [h.2]
  · rfl
  · ring
  · linarith [h.1]

/-! ### longitude -/

theorem lonRaw_of_mod (B : ℚ) (n i x0 x1 xs : ℕ) (M : ℤ)
    (hmod : gM n x0 x1 % ((max (n - i) 1 : ℕ) : ℤ) = M % ((max (n - i) 1 : ℕ) : ℤ)) :
    lonRaw B n i x0 x1 xs =
      B / ((max (n - i) 1 : ℕ) : ℚ) * ((M : ℚ) + (xs : ℚ) / 131072)
        - B * ((M / ((max (n - i) 1 : ℕ) : ℤ) : ℤ) : ℚ) := by
  unfold lonRaw
  have h1 : (1 : ℚ) ≤ ((max (n - i) 1 : ℕ) : ℚ) := by exact_mod_cast le_max_right _ _
  rw [hmod, zone_mod (B / ((max (n - i) 1 : ℕ) : ℚ)) B _ _ M]
  rw [Int.cast_natCast]
  field_simp

theorem lonRaw_range (B : ℚ) (hB : 0 < B) (n i x0 x1 xs : ℕ)
    (hx : 0 ≤ (xs : ℚ) / 131072 ∧ (xs : ℚ) / 131072 < 1) :
    0 ≤ lonRaw B n i x0 x1 xs ∧ lonRaw B n i x0 x1 xs < B := by
  have h1 : 0 < max (n - i) 1 := lt_of_lt_of_le one_pos (le_max_right _ _)
  have hq : (0 : ℚ) < ((max (n - i) 1 : ℕ) : ℚ) := by exact_mod_cast h1
  exact zone_mod_range _ B ((max (n - i) 1 : ℕ) : ℤ) (div_pos hB hq)
    (by rw [Int.cast_natCast]; exact div_mul_cancel₀ B hq.ne') (by exact_mod_cast h1)
    (gM n x0 x1) _ hx

/-- the zone index `m` reduces to the encoders' zone indices modulo the respective numbers of
    zones (trivially when there is a single zone, `n ≤ 1`) -/
theorem gM_mods (B : ℚ) (hB : 0 < B) (n : ℕ) (x0 x1 : ℕ) (M0 M1 : ℤ)
    (hlon : 2 ≤ n → ∃ s : ℤ,
      |B / ((max (n - 0) 1 : ℕ) : ℚ) * ((M0 : ℚ) + (x0 : ℚ) / 131072)
        - B / ((max (n - 1) 1 : ℕ) : ℚ) * ((M1 : ℚ) + (x1 : ℚ) / 131072) - B * s|
        < B / 2 / ((n : ℚ) * ((n : ℚ) - 1))) :
    gM n x0 x1 % ((max (n - 0) 1 : ℕ) : ℤ) = M0 % ((max (n - 0) 1 : ℕ) : ℤ) ∧
    gM n x0 x1 % ((max (n - 1) 1 : ℕ) : ℤ) = M1 % ((max (n - 1) 1 : ℕ) : ℤ) := by
  by_cases hn : 2 ≤ n
  · obtain ⟨s, hs⟩ := hlon hn
    have e0 : max (n - 0) 1 = n := max_eq_left (le_trans one_le_two hn)
    have e1 : max (n - 1) 1 = n - 1 := max_eq_left (Nat.le_sub_one_of_lt hn)
    have hn2 : (2 : ℚ) ≤ n := by exact_mod_cast hn
    rw [e0, e1, Nat.cast_pred (le_trans one_le_two hn)] at hs
    have hM := zoneDiff_floor B _ _ hB n hn (div_mul_cancel₀ B (by linarith only [hn2]))
      (div_mul_cancel₀ B (by linarith only [hn2])) M0 M1 s _ _ hs
    rw [e0, e1, Nat.cast_pred (le_trans one_le_two hn)]
    unfold gM
    rw [hM]
    exact ⟨gM_mod_n n M0 M1 s, gM_mod_n1 n M0 M1 s⟩
  · have e0 : max (n - 0) 1 = 1 := max_eq_right (Nat.le_of_lt_succ (not_le.mp hn))
    have e1 : max (n - 1) 1 = 1 := max_eq_right (le_trans (Nat.sub_le n 1) (Nat.le_of_lt_succ (not_le.mp hn)))
    rw [e0, e1, Nat.cast_one, Int.emod_one, Int.emod_one, Int.emod_one]
    exact ⟨rfl, rfl⟩

/-- DESIGN 11.1 (longitude): the raw longitude of either branch is the corresponding carried
    longitude shifted by a whole multiple of the base, and lies in `[0, B)` -/
theorem glon_raw (nl : ℚ → ℕ) (B : ℚ) (hB : 0 < B) (lat0 lon0 lat1 lon1 : ℚ) (n : ℕ)
    (hn0 : nl (cprEncode nl B 0 lat0 lon0).rlat = n) (hn1 : nl (cprEncode nl B 1 lat1 lon1).rlat = n)
    (hlon : 2 ≤ n → ∃ s : ℤ,
      |(cprEncode nl B 0 lat0 lon0).rlon - (cprEncode nl B 1 lat1 lon1).rlon - B * s|
        < B / 2 / ((n : ℚ) * ((n : ℚ) - 1))) :
    (∃ z : ℤ, lonRaw B n 0 (cprEncode nl B 0 lat0 lon0).xz (cprEncode nl B 1 lat1 lon1).xz
        (cprEncode nl B 0 lat0 lon0).xz = (cprEncode nl B 0 lat0 lon0).rlon + B * z) ∧
    (∃ z : ℤ, lonRaw B n 1 (cprEncode nl B 0 lat0 lon0).xz (cprEncode nl B 1 lat1 lon1).xz
        (cprEncode nl B 1 lat1 lon1).xz = (cprEncode nl B 1 lat1 lon1).rlon + B * z) := by
  obtain ⟨M0, h0⟩ := enc_lon nl B 0 lat0 lon0
  obtain ⟨M1, h1⟩ := enc_lon nl B 1 lat1 lon1
  rw [enc_dlon, hn0] at h0
  rw [enc_dlon, hn1] at h1
  have hm := gM_mods B hB n (cprEncode nl B 0 lat0 lon0).xz (cprEncode nl B 1 lat1 lon1).xz M0 M1
    (by rw [← h0, ← h1]; exact hlon)
  constructor
  · refine ⟨-(M0 / ((max (n - 0) 1 : ℕ) : ℤ)), ?_⟩
    rw [lonRaw_of_mod B n 0 _ _ _ M0 hm.1, ← h0]; push_cast; ring
  · refine ⟨-(M1 / ((max (n - 1) 1 : ℕ) : ℤ)), ?_⟩
    rw [lonRaw_of_mod B n 1 _ _ _ M1 hm.2, ← h1]; push_cast; ring

theorem wrap180_spec (x : ℚ) (h : 0 ≤ x ∧ x < 360) :
    (∃ z : ℤ, wrap180 x = x + 360 * z) ∧ -180 < wrap180 x ∧ wrap180 x ≤ 180 := by
  unfold wrap180
  split_ifs with h1
  · exact ⟨⟨-1, by push_cast; ring⟩, by linarith, by linarith [h.2]⟩
  · exact ⟨⟨0, by push_cast; ring⟩, by linarith [h.1], not_lt.mp h1⟩

end PyModeS.CPR
