/-
  C04 core: what the DO-260B encoder produces (`enc_*`: the carried latitude and longitude, their ranges),
  the two components of `positionWithRefCore` (`pwr_lat`, `pwr_lon`), and the range of the carried latitude.
  The floor identity of the local decode itself is `local_floor` in Proofs/CPR/Floor.lean.  DESIGN.md 11.2.
-/
import PyModeS.Proofs.CPR.Floor

namespace PyModeS.CPR
open Spec

/-! ### what the encoder produces -/

/-- the carried latitude is `dlat · (K + YZ/2^17)` for an integer zone index `K` (which includes
    the carry of the `yzFull = 2^17` wrap) and the *transmitted* field `YZ` -/
theorem enc_lat (nl : ℚ → ℕ) (base : ℚ) (i : ℕ) (lat lon : ℚ) :
    ∃ K : ℤ, (cprEncode nl base i lat lon).rlat =
      (cprEncode nl base i lat lon).dlat * ((K : ℚ) + ((cprEncode nl base i lat lon).yz : ℚ) / 131072) := by
  simp only [cprEncode]
  generalize (lat / (base / (60 - (i:ℚ)))).floor = k
  generalize (Spec.two17 * (lat / (base / (60 - (i:ℚ))) - (k:ℚ)) + 1 / 2).floor = Y
  refine ⟨k + Y / 131072, ?_⟩
  rw [field_frac, Spec.two17]; push_cast; ring

theorem enc_dlat (nl : ℚ → ℕ) (base : ℚ) (i : ℕ) (lat lon : ℚ) :
    (cprEncode nl base i lat lon).dlat = base / (60 - (i : ℚ)) := rfl

theorem enc_dlon (nl : ℚ → ℕ) (base : ℚ) (i : ℕ) (lat lon : ℚ) :
    (cprEncode nl base i lat lon).dlon =
      base / ((max (nl (cprEncode nl base i lat lon).rlat - i) 1 : ℕ) : ℚ) := rfl

theorem enc_lon (nl : ℚ → ℕ) (base : ℚ) (i : ℕ) (lat lon : ℚ) :
    ∃ M : ℤ, (cprEncode nl base i lat lon).rlon =
      (cprEncode nl base i lat lon).dlon * ((M : ℚ) + ((cprEncode nl base i lat lon).xz : ℚ) / 131072) := by
  simp only [cprEncode]
  generalize (base / ((max (nl _ - i) 1 : ℕ) : ℚ)) = d
  generalize (lon / d).floor = k
  generalize (Spec.two17 * (lon / d - (k:ℚ)) + 1 / 2).floor = Y
  refine ⟨k + Y / 131072, ?_⟩
  rw [field_frac, Spec.two17]; push_cast; ring

theorem enc_yz_range (nl : ℚ → ℕ) (base : ℚ) (i : ℕ) (lat lon : ℚ) :
    0 ≤ ((cprEncode nl base i lat lon).yz : ℚ) / 131072 ∧
      ((cprEncode nl base i lat lon).yz : ℚ) / 131072 < 1 := field_frac_range _

theorem enc_xz_range (nl : ℚ → ℕ) (base : ℚ) (i : ℕ) (lat lon : ℚ) :
    0 ≤ ((cprEncode nl base i lat lon).xz : ℚ) / 131072 ∧
      ((cprEncode nl base i lat lon).xz : ℚ) / 131072 < 1 := field_frac_range _

theorem enc_yz_lt (nl : ℚ → ℕ) (base : ℚ) (i : ℕ) (lat lon : ℚ) :
    (cprEncode nl base i lat lon).yz < 131072 := by
  have h := (enc_yz_range nl base i lat lon).2
  rw [div_lt_one (by norm_num)] at h
  exact_mod_cast h

theorem enc_xz_lt (nl : ℚ → ℕ) (base : ℚ) (i : ℕ) (lat lon : ℚ) :
    (cprEncode nl base i lat lon).xz < 131072 := by
  have h := (enc_xz_range nl base i lat lon).2
  rw [div_lt_one (by norm_num)] at h
  exact_mod_cast h

theorem enc_dlat_pos (nl : ℚ → ℕ) (base : ℚ) (hb : 0 < base) (i : ℕ) (hi : i = 0 ∨ i = 1)
    (lat lon : ℚ) : 0 < (cprEncode nl base i lat lon).dlat := by
  rw [enc_dlat]
  rcases hi with rfl | rfl
  · apply div_pos hb; norm_num
  · apply div_pos hb; norm_num

theorem enc_dlon_pos (nl : ℚ → ℕ) (base : ℚ) (hb : 0 < base) (i : ℕ) (lat lon : ℚ) :
    0 < (cprEncode nl base i lat lon).dlon := by
  rw [enc_dlon]
  apply div_pos hb
  have : 1 ≤ max (nl (cprEncode nl base i lat lon).rlat - i) 1 := le_max_right _ _
  exact_mod_cast this

/-- the decoder's `ni > 0 ? base/ni : base` is the encoder's `base / max (n - i) 1` -/
theorem dlon_eq (n i : ℕ) (base : ℚ) :
    (if ((n : ℤ) - (i : ℤ)) > 0 then base / (((n : ℤ) - (i : ℤ) : ℤ) : ℚ) else base) =
      base / ((max (n - i) 1 : ℕ) : ℚ) := by
  by_cases h : i < n
  · have h1 : ((n : ℤ) - (i : ℤ)) > 0 := by omega
    have h2 : max (n - i) 1 = n - i := by omega
    rw [if_pos h1, h2, Nat.cast_sub h.le]
    push_cast; rfl
  · have h1 : ¬ ((n : ℤ) - (i : ℤ)) > 0 := by omega
    have h2 : max (n - i) 1 = 1 := by omega
    rw [if_neg h1, h2]; simp

/-! ### the local decoder -/

theorem pwr_lat (nl : ℚ → ℕ) (base : ℚ) (f : CprFrame) (latRef lonRef : ℚ) :
    (positionWithRefCore nl base f latRef lonRef).1 =
      (if f.oe then base / 59 else base / 60) *
        ((⌊1 / 2 + latRef / (if f.oe then base / 59 else base / 60) - (f.lat : ℚ) / 131072⌋ : ℚ)
          + (f.lat : ℚ) / 131072) := rfl

theorem pwr_lon (nl : ℚ → ℕ) (base : ℚ) (f : CprFrame) (latRef lonRef : ℚ) :
    (positionWithRefCore nl base f latRef lonRef).2 =
      (base / ((max (nl (positionWithRefCore nl base f latRef lonRef).1 - (if f.oe then 1 else 0)) 1 : ℕ) : ℚ)) *
        ((⌊1 / 2 + lonRef /
            (base / ((max (nl (positionWithRefCore nl base f latRef lonRef).1 - (if f.oe then 1 else 0)) 1 : ℕ) : ℚ))
              - (f.lon : ℚ) / 131072⌋ : ℚ)
          + (f.lon : ℚ) / 131072) := by
  rw [← dlon_eq]
  rfl

/-! ### range of the carried latitude -/

/-- the carried latitude is the input latitude rounded to the nearest multiple of `dlat/2^17`
    (ties upwards) -/
theorem enc_rlat_round (nl : ℚ → ℕ) (B : ℚ) (i : ℕ) (lat lon : ℚ) :
    (cprEncode nl B i lat lon).rlat =
      (cprEncode nl B i lat lon).dlat / 131072 *
        ((⌊131072 * (lat / (cprEncode nl B i lat lon).dlat) + 1 / 2⌋ : ℤ) : ℚ) := by
  simp only [cprEncode, Spec.two17, ratFloor_eq]
  generalize (B / (60 - (i:ℚ))) = d
  have : (131072 : ℚ) * (lat / d - (⌊lat / d⌋ : ℚ)) + 1 / 2
      = (131072 * (lat / d) + 1 / 2) + ((-(131072 * ⌊lat / d⌋) : ℤ) : ℚ) := by push_cast; ring
  rw [this, Int.floor_add_intCast]
  push_cast; ring

/-- rounding to the grid `u·ℤ` keeps a value between the grid points `±u·N` -/
theorem round_bounds (u : ℚ) (hu : 0 < u) (N : ℤ) (y : ℚ) (h : -(N : ℚ) ≤ y ∧ y ≤ N) :
    -(u * N) ≤ u * ((⌊y + 1 / 2⌋ : ℤ) : ℚ) ∧ u * ((⌊y + 1 / 2⌋ : ℤ) : ℚ) ≤ u * N := by
  have h1 : ⌊y + 1 / 2⌋ ≤ N := Int.lt_add_one_iff.mp (Int.floor_lt.mpr (by push_cast; linarith [h.2]))
  have h2 : -N ≤ ⌊y + 1 / 2⌋ := Int.le_floor.mpr (by push_cast; linarith [h.1])
  rw [← mul_neg]
  exact ⟨mul_le_mul_of_nonneg_left (by exact_mod_cast h2) hu.le,
    mul_le_mul_of_nonneg_left (by exact_mod_cast h1) hu.le⟩

end PyModeS.CPR
