/-
  Frame-level field access: on a frame of known length every `bin2intR (slice a b …)` and every
  `idxR … i` of the ADS-B model succeeds and returns the named slice / bit; the generic
  "TC-guarded single-field" decoder, the common TC 29 prologue, and the type code of a frame given by its
  DF and TC slices.
-/
import PyModeS.Proofs.Hex
import PyModeS.Model.Adsb
namespace PyModeS.Fields

/-! ### reading a field of a frame of known length -/

theorem bin2intR_slice {bits : Bits} {n : Nat} (h : bits.length = n) (a b : Nat) (hab : a < b) (hb : b ≤ n) :
    bin2intR (slice a b bits) = .val (bin2int (slice a b bits)) :=
  bin2intR_slice_of_lt hab (by omega)

theorem bin2intR_slice_drop {bits : Bits} {n : Nat} (h : bits.length = n) (k a b : Nat) (hab : a < b)
    (hb : k + b ≤ n) :
    bin2intR (slice a b (bits.drop k)) = .val (bin2int (slice (k + a) (k + b) bits)) := by
  rw [slice_drop]; exact bin2intR_slice h _ _ (by omega) hb

theorem idxR_drop {bits : Bits} (k i : Nat) (hi : k + i < bits.length) :
    idxR (bits.drop k) i = .val (bits[k + i]'hi) := by
  rw [idxR_eq (by simp; omega)]; simp

/-- within the list the total read `getD` is the element (statements use `getD` so as not to carry a bound) -/
theorem getD_eq {α} {l : List α} {i : Nat} (h : i < l.length) (d : α) : l.getD i d = l[i] := by
  rw [List.getD_eq_getElem?_getD, List.getElem?_eq_getElem h, Option.getD_some]

/-! ### TC-guarded single-field decoders -/

/-- "TC must be `t`, then read the unsigned field `[a, b)` of the frame" -/
def guardedField (t a b : Nat) (bits : Bits) : Res Nat :=
  if tcB bits ≠ some t then .rte else bin2intR (slice a b bits)

theorem guardedField_spec {bits : Bits} {n : Nat} (h : bits.length = n) (t a b : Nat) (hab : a < b) (hb : b ≤ n) :
    guardedField t a b bits = if tcB bits = some t then .val (bin2int (slice a b bits)) else .rte := by
  unfold guardedField
  rw [bin2intR_slice h a b hab hb]
  exact rte_unless Iff.rfl _

/-! ### bds62 (TC 29): common prologue -/

theorem tc29_val {bits : Bits} (h : bits.length = 112) (htc : tcB bits = some 29) :
    tc29 bits = .val (bits.drop 32, bin2int (slice 37 39 bits)) := by
  unfold tc29
  simp only [htc, ne_eq, not_true_eq_false, if_false]
  rw [bin2intR_slice_drop h 32 5 7 (by omega) (by omega)]
  rfl

theorem tc29_rte {bits : Bits} (htc : tcB bits ≠ some 29) : tc29 bits = .rte := by
  unfold tc29; rw [if_pos htc]

/-- the 2-bit subtype field of a TC 29 message -/
theorem subtype29_lt (bits : Bits) : bin2int (slice 37 39 bits) < 4 := PyModeS.bin2int_slice_lt bits 37 39

/-! ### the type code of a built frame -/

/-- DF and TC of a frame that starts with the fields DF (5), CA (3), ICAO (24), TC (5) -/
theorem tcB_of_slices {bits : Bits} {df tc : Nat} (hdf : df = 17 ∨ df = 18) (htc : tc < 32)
    (h0 : slice 0 5 bits = natToBits 5 df) (h1 : slice 32 37 bits = natToBits 5 tc) :
    tcB bits = some tc := by
  unfold tcB dfB
  rw [h0, h1, bin2int_natToBits_of_lt (by omega : df < 2 ^ 5), bin2int_natToBits_of_lt (by omega : tc < 2 ^ 5)]
  rcases hdf with rfl | rfl <;> simp

end PyModeS.Fields
