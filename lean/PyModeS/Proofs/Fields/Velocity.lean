/-
  `bds09.airborne_velocity` as a function of the eight fields it reads: the DO-260B function `C09.airborneSpec`
  and the walk through the decoder on a frame whose reads are given.
-/
import PyModeS.Proofs.Fields.Frame
import PyModeS.Spec.Velocity
namespace PyModeS.C09
open Spec Fields

/-- signed velocity component: `(N − 1) · mult` kt, negative when the direction bit is set -/
def signedComp (s : Bool) (v : Nat) (mult : Int) : Int := (if s then -1 else 1) * (((v : Int) - 1) * mult)

/-- vertical rate `±(N − 1) · 64 ft/min`, `None` for N = 0 -/
def vertRate (s_vr : Bool) (vr : Nat) : Option Int :=
  if vr = 0 then none else some ((if s_vr then -1 else 1) * ((vr : Int) - 1) * 64)

/-- DO-260B 2.2.3.2.6 airborne velocity, as a function of the encoded fields (written from the
    property text): `st` subtype, `s_ew`/`v_ew` and `s_ns`/`v_ns` the two sign/magnitude pairs (for
    subtypes 3-4: heading status/heading and airspeed type/airspeed), `vrsrc`, `s_vr`, `vr`. -/
def airborneSpec (st : Nat) (s_ew : Bool) (v_ew : Nat) (s_ns : Bool) (v_ns : Nat)
    (vrsrc s_vr : Bool) (vr : Nat) : Option Velocity :=
  let src := if vrsrc then "BARO" else "GNSS"
  if st = 1 ∨ st = 2 then
    if v_ew = 0 ∨ v_ns = 0 then none
    else
      let mult : Int := if st = 2 then 4 else 1
      let v_we := signedComp s_ew v_ew mult
      let v_sn := signedComp s_ns v_ns mult
      some ⟨some (Nat.sqrt (v_we * v_we + v_sn * v_sn).toNat : Nat), Dir.track v_we v_sn, vertRate s_vr vr,
        "GS", "TRUE_NORTH", src⟩
  else
    let mult : Int := if st = 4 then 4 else 1
    some ⟨if v_ns = 0 then none else some (((v_ns : Int) - 1) * mult),
      if s_ew then Dir.heading ((v_ew : Rat) / 1024 * 360) else Dir.none,
      vertRate s_vr vr, if s_ns then "TAS" else "IAS", "MAGNETIC_NORTH", src⟩

/-- The decoder on a frame whose eight reads return the given values.  In each case one pass decides every
    `if` on the way down, so that the copies of the two join points of the `do` block are never visited. -/
theorem airborneVelocity_fields (bits : Bits) (htc : tcB bits = some 19) (st v_ew v_ns vr : Nat)
    (s_ew s_ns vrsrc s_vr : Bool)
    (r1 : bin2intR (slice 5 8 (bits.drop 32)) = .val st) (r2 : bin2intR (slice 14 24 (bits.drop 32)) = .val v_ew)
    (r3 : bin2intR (slice 25 35 (bits.drop 32)) = .val v_ns) (r4 : bin2intR (slice 37 46 (bits.drop 32)) = .val vr)
    (i1 : idxR (bits.drop 32) 13 = .val s_ew) (i2 : idxR (bits.drop 32) 24 = .val s_ns)
    (i3 : idxR (bits.drop 32) 35 = .val vrsrc) (i4 : idxR (bits.drop 32) 36 = .val s_vr) :
    airborneVelocity bits = .val (airborneSpec st s_ew v_ew s_ns v_ns vrsrc s_vr vr) := by
  by_cases h12 : st = 1 ∨ st = 2
  · by_cases h1 : v_ew = 0
    · simp only [airborneVelocity, airborneSpec, htc, r1, r2, h12, h1, ↓reduceIte, ne_eq, not_true_eq_false,
        Res.bind_val, Res.pure_eq, true_or]
    by_cases h2 : v_ns = 0
    · simp only [airborneVelocity, airborneSpec, htc, r1, r2, r3, h12, h1, h2, ↓reduceIte, ne_eq, not_true_eq_false,
        Res.bind_val, Res.pure_eq, or_true, decide_true]
    have hm : ∀ x : Int, x * (if st = 2 then 4 else 1) = if st = 2 then x * 4 else x := by
      intro x
      split
      · rfl
      · exact Int.mul_one x
    simp only [airborneVelocity, airborneSpec, htc, r1, r2, r3, r4, i1, i2, i3, i4, h12, h1, h2,
      ↓reduceIte, ne_eq, not_true_eq_false, Res.bind_val, Res.pure_eq, true_or, or_self, decide_false,
      Bool.false_eq_true]
    simp only [signedComp, vertRate, ← Bool.not_eq_true, ite_not, hm]
    rw [Int.add_comm]
  · have hspd : (if st = 4 then Option.map (fun x => x * 4) (if v_ns = 0 then none else some ((v_ns : Int) - 1))
        else if v_ns = 0 then none else some ((v_ns : Int) - 1)) =
        if v_ns = 0 then none else some (((v_ns : Int) - 1) * if st = 4 then 4 else 1) := by
      by_cases h0 : v_ns = 0
      · simp only [h0, if_true, Option.map_none, ite_self]
      · simp only [h0, if_false, Option.map_some]
        split
        · rfl
        · rw [Int.mul_one]
    simp only [airborneVelocity, airborneSpec, vertRate, htc, r1, r2, r3, r4, i1, i2, i3, i4, h12, ↓reduceIte, ne_eq,
      not_true_eq_false, Res.bind_val, Res.pure_eq, false_or, Bool.false_eq_true]
    simp only [← Bool.not_eq_true, ite_not, hspd]
    cases s_ew <;> rfl

/-- on a 112-bit TC 19 frame all eight reads succeed -/
theorem airborneVelocity_val (bits : Bits) (h : bits.length = 112) (htc : tcB bits = some 19) :
    ∃ st s_ew v_ew s_ns v_ns vrsrc s_vr vr,
      airborneVelocity bits = .val (airborneSpec st s_ew v_ew s_ns v_ns vrsrc s_vr vr) :=
  ⟨_, _, _, _, _, _, _, _, airborneVelocity_fields bits htc _ _ _ _ _ _ _ _
    (bin2intR_slice_drop h 32 5 8 (by omega) (by omega)) (bin2intR_slice_drop h 32 14 24 (by omega) (by omega))
    (bin2intR_slice_drop h 32 25 35 (by omega) (by omega)) (bin2intR_slice_drop h 32 37 46 (by omega) (by omega))
    (idxR_drop 32 13 (by omega)) (idxR_drop 32 24 (by omega)) (idxR_drop 32 35 (by omega))
    (idxR_drop 32 36 (by omega))⟩

theorem airborneVelocity_rte (bits : Bits) (htc : tcB bits ≠ some 19) : airborneVelocity bits = .rte := by
  unfold airborneVelocity; rw [if_pos htc]

end PyModeS.C09
