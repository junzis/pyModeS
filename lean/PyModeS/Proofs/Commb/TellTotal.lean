/-
  `tell(msg)` never raises on a 112-bit frame: every decoder it calls is called under the DF/TC
  (and TC 29 subtype) condition for which it is a value, and every label dictionary is indexed
  with a key it has.
-/
import PyModeS.Model.Tell
import PyModeS.Proofs.Commb.AdsbTotal
import PyModeS.Proofs.Commb.CommbTotal
namespace PyModeS.Tot

theorem unit_val {x : Res Unit} (h : x.isVal = true) : x = .val () := by
  obtain ⟨u, hu⟩ := Res.isVal_iff.mp h
  rw [hu]

/-- a discarded value: `let _ ← x; y` is `y` when `x` is a value -/
theorem bind_skip {α β : Type} {x : Res α} (y : Res β) (h : x.isVal = true) : (x >>= fun _ => y) = y := by
  obtain ⟨a, ha⟩ := Res.isVal_iff.mp h
  rw [ha]; rfl

theorem dictHas_123 : ∀ v, v < 4 → v ≠ 0 → dictHas [1, 2, 3] v = .val () := by decide
theorem dictHas_8 : ∀ v, v < 8 → dictHas [0, 1, 2, 3, 4, 5, 6, 7] v = .val () := by decide

theorem tellCpr_val (bits : Bits) (h : bits.length = 112) : tellCpr bits = .val () := by
  unfold tellCpr
  rw [bind_skip _ (oeFlag_isVal bits h)]
  tot_reads h

def okType (s : String) : Prop := s = "GS" ∨ s = "TAS" ∨ s = "IAS"

/-- a value whose speed type (when present) is one of the three keys of `tell`'s `types` dictionary -/
def GoodVel (x : Res (Option Velocity)) : Prop := ∃ r, x = .val r ∧ ∀ v, r = some v → okType v.spdType

theorem airborneVelocity_spdType (bits : Bits) (h : bits.length = 112) (htc : tcB bits = some 19) :
    GoodVel (airborneVelocity bits) := by
  obtain ⟨st, s_ew, v_ew, s_ns, v_ns, vrsrc, s_vr, vr, e⟩ := C09.airborneVelocity_val bits h htc
  refine ⟨_, e, fun v hv => ?_⟩
  unfold C09.airborneSpec at hv
  simp only [] at hv
  split at hv
  · split at hv
    · cases hv
    · cases hv; exact Or.inl rfl
  · cases hv
    simp only []
    split
    · exact Or.inr (Or.inl rfl)
    · exact Or.inr (Or.inr rfl)

/-! ### TC 29 -/

theorem verticalMode_val (bits : Bits) (h : bits.length = 112) (htc : tcB bits = some 29)
    (hst : bin2int (slice 37 39 bits) ≠ 1) :
    verticalMode bits = .val (if bin2int (slice 13 15 (bits.drop 32)) = 0 then none
      else some (bin2int (slice 13 15 (bits.drop 32)))) := by
  unfold verticalMode
  rw [Fields.tc29_val h htc]
  simp only [Res.bind_val, if_neg hst]
  tot_reads h

theorem horizontalMode_val (bits : Bits) (h : bits.length = 112) (htc : tcB bits = some 29)
    (hst : bin2int (slice 37 39 bits) ≠ 1) :
    horizontalMode bits = .val (if bin2int (slice 25 27 (bits.drop 32)) = 0 then none
      else some (bin2int (slice 25 27 (bits.drop 32)))) := by
  unfold horizontalMode
  rw [Fields.tc29_val h htc]
  simp only [Res.bind_val, if_neg hst]
  tot_reads h

theorem emergencyStatus_val (bits : Bits) (h : bits.length = 112) (htc : tcB bits = some 29)
    (hst : bin2int (slice 37 39 bits) ≠ 1) :
    emergencyStatus bits = .val (bin2int (slice 53 56 (bits.drop 32))) := by
  unfold emergencyStatus
  rw [Fields.tc29_val h htc]
  simp only [Res.bind_val, if_neg hst]
  tot_reads h

theorem tellTc29_val (bits : Bits) (h : bits.length = 112) (htc : tcB bits = some 29) :
    tellTc29 bits = .val () := by
  unfold tellTc29
  simp only []
  rw [bin2intR_slice_val (drop32_length h) 5 7 (by omega) (by omega), slice_drop32]
  simp only [Res.bind_val, Nat.reduceAdd]
  obtain ⟨tcasOp, hop⟩ := Res.isVal_iff.mp ((tcasOperational_shape bits h).1 htc)
  rw [hop]
  simp only [Res.bind_val]
  split
  · rename_i h0
    have hst : bin2int (slice 37 39 bits) ≠ 1 := by omega
    have d0 : DocV0 bits := ⟨htc, hst⟩
    rw [bind_skip _ ((targetAltitude_shape bits h).1 d0), bind_skip _ ((targetAngle_shape bits h).1 d0),
      verticalMode_val bits h htc hst, horizontalMode_val bits h htc hst, emergencyStatus_val bits h htc hst]
    obtain ⟨ra, hra⟩ := Res.isVal_iff.mp ((tcasRa_shape bits h).1 d0)
    rw [hra]
    simp only [Res.bind_val]
    have hv : bin2int (slice 13 15 (bits.drop 32)) < 4 := bin2int_slice_lt (bits.drop 32) 13 15
    have hh : bin2int (slice 25 27 (bits.drop 32)) < 4 := bin2int_slice_lt (bits.drop 32) 25 27
    have he : bin2int (slice 53 56 (bits.drop 32)) < 8 := bin2int_slice_lt (bits.drop 32) 53 56
    generalize bin2int (slice 13 15 (bits.drop 32)) = a at hv ⊢
    generalize bin2int (slice 25 27 (bits.drop 32)) = b at hh ⊢
    generalize bin2int (slice 53 56 (bits.drop 32)) = e at he ⊢
    have k1 : dictHas [0, 1] 1 = .val () := rfl
    have k0 : dictHas [0, 1] 0 = .val () := rfl
    have k8 := dictHas_8 e he
    by_cases ha : a = 0 <;> by_cases hb : b = 0 <;> cases ra <;> cases tcasOp <;>
      simp [ha, hb, k1, k0, k8, dictHas_123 _ hv, dictHas_123 _ hh]
  · rename_i h0
    have d1 : DocV1 bits := ⟨htc, h0⟩
    have a1 : (autopilot bits).isVal = true := (modeFlag_shape 47 (by omega) bits h).1 d1
    have a2 : (vnavMode bits).isVal = true := (modeFlag_shape 48 (by omega) bits h).1 d1
    have a3 : (altitudeHoldMode bits).isVal = true := (modeFlag_shape 49 (by omega) bits h).1 d1
    have a4 : (approachMode bits).isVal = true := (modeFlag_shape 51 (by omega) bits h).1 d1
    have a5 : (lnavMode bits).isVal = true := (modeFlag_shape 53 (by omega) bits h).1 d1
    rw [bind_skip _ ((selectedAltitude_shape bits h).1 d1), bind_skip _ ((baroPressureSetting_shape bits h).1 d1),
      bind_skip _ ((selectedHeading_shape bits h).1 d1), bind_skip _ a1, bind_skip _ a2, bind_skip _ a3,
      bind_skip _ a4, bind_skip _ a5]
    tot_reads h

/-! ### ADS-B branch -/

theorem tellAdsb_val (bits : Bits) (h : bits.length = 112) : tellAdsb bits = .val () := by
  unfold tellAdsb
  cases htc : tcB bits with
  | none => rfl
  | some tc =>
    simp -zeta only []
    extract_lets
    rename_i j5 j4 j3 j2 j1
    have h5 : ∀ r, j5 r = .val () := by
      intro r
      simp only [j5]
      split
      · rename_i h29; subst h29; exact tellTc29_val bits h htc
      · rfl
    have h4 : ∀ r, j4 r = .val () := by
      intro r
      simp only [j4]
      split
      · rw [bind_skip _ ((adsbAltitude_shape bits h).1 ⟨tc, htc, by omega⟩), tellCpr_val bits h]
        simp only [Res.bind_val]; exact h5 ()
      · exact h5 ()
    have h3 : ∀ r, j3 r = .val () := by
      intro r
      simp only [j3]
      split
      · rename_i h19
        subst h19
        obtain ⟨v, hr, hgood⟩ := airborneVelocity_spdType bits h htc
        rw [hr]
        simp only [Res.bind_val]
        cases v with
        | none => exact h4 ()
        | some v =>
          simp only []
          have : (v.spdType == "GS" || v.spdType == "TAS" || v.spdType == "IAS") = true := by
            rcases hgood v rfl with hg | hg | hg <;> rw [hg] <;> rfl
          rw [if_pos this]
          exact h4 ()
      · exact h4 ()
    have h2 : ∀ r, j2 r = .val () := by
      intro r
      simp only [j2]
      split
      · rw [bind_skip _ ((adsbAltitude_shape bits h).1 ⟨tc, htc, by omega⟩), tellCpr_val bits h]
        simp only [Res.bind_val]; exact h3 ()
      · exact h3 ()
    have h1 : ∀ r, j1 r = .val () := by
      intro r
      simp only [j1]
      split
      · rw [tellCpr_val bits h]
        simp only [Res.bind_val]
        rw [bind_skip _ ((surfaceVelocity_shape bits h).1 ⟨tc, htc, by assumption⟩)]
        exact h2 ()
      · exact h2 ()
    split
    · rw [bind_skip _ ((callsign_shape bits h).1 ⟨tc, htc, by assumption⟩)]
      exact h1 ()
    · exact h1 ()

/-! ### Comm-B branch -/

theorem tellCommb_val (ias : Rat → Int → Rat) (bits : Bits) (h : bits.length = 112) :
    tellCommb ias bits = .val () := by
  unfold tellCommb
  obtain ⟨bds, hb⟩ := Res.isVal_iff.mp (infer_isVal ias bits true h)
  rw [hb]
  simp only [Res.bind_val]
  split
  · rw [bind_skip _ (cs20_isVal bits h)]; rfl
  · rw [bind_skip _ (selalt40mcp_isVal bits h), bind_skip _ (selalt40fms_isVal bits h),
      bind_skip _ (p40baro_isVal bits h)]; rfl
  · rw [bind_skip _ (roll50_isVal bits h), bind_skip _ (trk50_isVal bits h), bind_skip _ (rtrk50_isVal bits h),
      bind_skip _ (gs50_isVal bits h), bind_skip _ (tas50_isVal bits h)]; rfl
  · rw [bind_skip _ (hdg60_isVal bits h), bind_skip _ (ias60_isVal bits h), bind_skip _ (mach60_isVal bits h),
      bind_skip _ (vr60baro_isVal bits h), bind_skip _ (vr60ins_isVal bits h)]; rfl
  · rw [bind_skip _ (wind44_isVal bits h), bind_skip _ (temp44_isVal bits h), bind_skip _ (p44_isVal bits h),
      bind_skip _ (hum44_isVal bits h), bind_skip _ (turb44_isVal bits h)]; rfl
  · rw [bind_skip _ (turb45_isVal bits h), bind_skip _ (ws45_isVal bits h), bind_skip _ (mb45_isVal bits h),
      bind_skip _ (ic45_isVal bits h), bind_skip _ (wv45_isVal bits h), bind_skip _ (temp45_isVal bits h),
      bind_skip _ (p45_isVal bits h), bind_skip _ (rh45_isVal bits h)]; rfl
  · rfl

/-! ### tell -/

theorem altcodeB_isVal_df20 (bits : Bits) (h : bits.length = 112) (hd : dfB bits = 20) :
    (altcodeB bits).isVal = true := by
  unfold altcodeB
  simp only []
  rw [if_neg (by omega)]
  exact altitude13_isVal _ (by rw [slice_length_of_le (by omega)])

theorem idcodeB_isVal_df21 (bits : Bits) (h : bits.length = 112) (hd : dfB bits = 21) :
    (idcodeB bits).isVal = true := by
  unfold idcodeB
  simp only []
  rw [if_neg (by omega)]
  exact squawk_isVal _ (by rw [slice_length_of_le (by omega)])

theorem tell_val (ias : Rat → Int → Rat) (bits : Bits) (h : bits.length = 112) : tell ias bits = .val () := by
  unfold tell
  extract_lets
  rename_i d j3 j2 j1
  have h3 : ∀ r, j3 r = .val () := by
    intro r
    simp only [j3]
    split
    · exact tellCommb_val ias bits h
    · rfl
  have h2 : ∀ r, j2 r = .val () := by
    intro r
    simp only [j2]
    split
    · rw [bind_skip _ (idcodeB_isVal_df21 bits h (by assumption))]; exact h3 ()
    · exact h3 ()
  have h1 : ∀ r, j1 r = .val () := by
    intro r
    simp only [j1]
    split
    · rw [bind_skip _ (altcodeB_isVal_df20 bits h (by assumption))]; exact h2 ()
    · exact h2 ()
  split
  · rw [tellAdsb_val bits h]; exact h1 ()
  · exact h1 ()

end PyModeS.Tot
