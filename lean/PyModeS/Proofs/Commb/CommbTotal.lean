/-
  Totality of every Comm-B function of Model/Commb.lean on 112-bit frames: each returns a value
  (never RuntimeError, never another exception), for any bit content.  The value itself is given by
  the `_val` theorems of Proofs/Infer.
-/
import PyModeS.Proofs.Commb.Fields
import PyModeS.Proofs.Commb.AdsbTotal
import PyModeS.Proofs.Infer.Main
namespace PyModeS.Tot

/-- rewrite `dataR`/`allzerosB` of a 112-bit frame and every in-range read of the MB field `d` -/
macro "tot_commb" h:ident : tactic =>
  `(tactic| (
      simp only [dataR_112 _ $h:ident, allzerosB_112 _ $h:ident, Res.bind_val]
      have hd := slice_32_88_length $h:ident
      generalize slice 32 88 _ = d at hd ⊢
      simp (disch := omega) only [idxR_val hd, bin2intR_slice_val hd, Res.bind_val, Res.pure_eq]))

theorem ovc10_isVal (bits : Bits) (h : bits.length = 112) : (ovc10 bits).isVal = true := by
  unfold ovc10; tot_commb h; tot_isVal

/-! ### the status-gated field decoders: `ufield` / `sfield` of the MB field, at positions inside it -/

theorem ufield_isVal (bits : Bits) (h : bits.length = 112) {sb a b : Nat} {scale off : Rat}
    (h0 : sb < 56 := by decide) (h1 : a < b := by decide) (h2 : a < 56 := by decide) :
    (do ufield (← dataR bits) sb a b scale off).isVal = true :=
  Res.isVal_of_eq (Infer.ufield_frame bits h sb a b scale off h0 h1 h2)

theorem sfield_isVal (bits : Bits) (h : bits.length = 112) {sb sg a b : Nat} {scale : Rat}
    (h0 : sb < 56 := by decide) (hs : sg < 56 := by decide) (h1 : a < b := by decide) (h2 : a < 56 := by decide) :
    (do sfield (← dataR bits) sb sg a b scale).isVal = true :=
  Res.isVal_of_eq (Infer.sfield_frame bits h sb sg a b scale h0 hs h1 h2)

theorem sfield_wrap_isVal (bits : Bits) (h : bits.length = 112) {sb sg a b : Nat} {scale : Rat}
    (h0 : sb < 56 := by decide) (hs : sg < 56 := by decide) (h1 : a < b := by decide) (h2 : a < 56 := by decide) :
    (do pure (wrap360 (← sfield (← dataR bits) sb sg a b scale))).isVal = true :=
  Res.isVal_of_eq (Infer.sfield_wrap_frame bits h sb sg a b scale h0 hs h1 h2)

theorem selalt40mcp_isVal (bits : Bits) (h : bits.length = 112) : (selalt40mcp bits).isVal = true :=
  ufield_isVal bits h

theorem selalt40fms_isVal (bits : Bits) (h : bits.length = 112) : (selalt40fms bits).isVal = true :=
  ufield_isVal bits h

theorem p40baro_isVal (bits : Bits) (h : bits.length = 112) : (p40baro bits).isVal = true :=
  ufield_isVal bits h

theorem p44_isVal (bits : Bits) (h : bits.length = 112) : (p44 bits).isVal = true :=
  ufield_isVal bits h

theorem hum44_isVal (bits : Bits) (h : bits.length = 112) : (hum44 bits).isVal = true :=
  ufield_isVal bits h

theorem turb44_isVal (bits : Bits) (h : bits.length = 112) : (turb44 bits).isVal = true :=
  ufield_isVal bits h

theorem turb45_isVal (bits : Bits) (h : bits.length = 112) : (turb45 bits).isVal = true :=
  ufield_isVal bits h

theorem ws45_isVal (bits : Bits) (h : bits.length = 112) : (ws45 bits).isVal = true :=
  ufield_isVal bits h

theorem mb45_isVal (bits : Bits) (h : bits.length = 112) : (mb45 bits).isVal = true :=
  ufield_isVal bits h

theorem ic45_isVal (bits : Bits) (h : bits.length = 112) : (ic45 bits).isVal = true :=
  ufield_isVal bits h

theorem wv45_isVal (bits : Bits) (h : bits.length = 112) : (wv45 bits).isVal = true :=
  ufield_isVal bits h

theorem p45_isVal (bits : Bits) (h : bits.length = 112) : (p45 bits).isVal = true :=
  ufield_isVal bits h

theorem rh45_isVal (bits : Bits) (h : bits.length = 112) : (rh45 bits).isVal = true :=
  ufield_isVal bits h

theorem gs50_isVal (bits : Bits) (h : bits.length = 112) : (gs50 bits).isVal = true :=
  ufield_isVal bits h

theorem tas50_isVal (bits : Bits) (h : bits.length = 112) : (tas50 bits).isVal = true :=
  ufield_isVal bits h

theorem ias53_isVal (bits : Bits) (h : bits.length = 112) : (ias53 bits).isVal = true :=
  ufield_isVal bits h

theorem mach53_isVal (bits : Bits) (h : bits.length = 112) : (mach53 bits).isVal = true :=
  ufield_isVal bits h

theorem tas53_isVal (bits : Bits) (h : bits.length = 112) : (tas53 bits).isVal = true :=
  ufield_isVal bits h

theorem ias60_isVal (bits : Bits) (h : bits.length = 112) : (ias60 bits).isVal = true :=
  ufield_isVal bits h

theorem mach60_isVal (bits : Bits) (h : bits.length = 112) : (mach60 bits).isVal = true :=
  ufield_isVal bits h

theorem roll50_isVal (bits : Bits) (h : bits.length = 112) : (roll50 bits).isVal = true :=
  sfield_isVal bits h

theorem rtrk50_isVal (bits : Bits) (h : bits.length = 112) : (rtrk50 bits).isVal = true :=
  sfield_isVal bits h

theorem vr53_isVal (bits : Bits) (h : bits.length = 112) : (vr53 bits).isVal = true :=
  sfield_isVal bits h

theorem vr60baro_isVal (bits : Bits) (h : bits.length = 112) : (vr60baro bits).isVal = true :=
  sfield_isVal bits h

theorem vr60ins_isVal (bits : Bits) (h : bits.length = 112) : (vr60ins bits).isVal = true :=
  sfield_isVal bits h

theorem trk50_isVal (bits : Bits) (h : bits.length = 112) : (trk50 bits).isVal = true :=
  sfield_wrap_isVal bits h

theorem hdg53_isVal (bits : Bits) (h : bits.length = 112) : (hdg53 bits).isVal = true :=
  sfield_wrap_isVal bits h

theorem hdg60_isVal (bits : Bits) (h : bits.length = 112) : (hdg60 bits).isVal = true :=
  sfield_wrap_isVal bits h

/-! ### the unconditional decoders and the format rules -/

theorem wind44_isVal (bits : Bits) (h : bits.length = 112) : (wind44 bits).isVal = true :=
  Res.isVal_of_eq (Infer.wind44_val bits h)

theorem temp44_isVal (bits : Bits) (h : bits.length = 112) : (temp44 bits).isVal = true :=
  Res.isVal_of_eq (Infer.temp44_val bits h)

theorem temp45_isVal (bits : Bits) (h : bits.length = 112) : (temp45 bits).isVal = true :=
  Res.isVal_of_eq (Infer.temp45_val bits h)

theorem cap17_isVal (bits : Bits) (h : bits.length = 112) : (cap17 bits).isVal = true :=
  Res.isVal_of_eq (Infer.cap17_val bits h)

theorem cs20_isVal (bits : Bits) (h : bits.length = 112) : (cs20 bits).isVal = true :=
  Res.isVal_of_eq (Infer.cs20_val bits h)

theorem is10_isVal (bits : Bits) (h : bits.length = 112) : (is10 bits).isVal = true :=
  Res.isVal_of_eq (Infer.is10_val bits h)

theorem is17_isVal (bits : Bits) (h : bits.length = 112) : (is17 bits).isVal = true :=
  Res.isVal_of_eq (Infer.is17_val bits h)

theorem is20_isVal (bits : Bits) (h : bits.length = 112) : (is20 bits).isVal = true :=
  Res.isVal_of_eq (Infer.is20_val bits h)

theorem is30_isVal (bits : Bits) (h : bits.length = 112) : (is30 bits).isVal = true :=
  Res.isVal_of_eq (Infer.is30_val bits h)

theorem is40_isVal (bits : Bits) (h : bits.length = 112) : (is40 bits).isVal = true :=
  Res.isVal_of_eq (Infer.is40_val bits h)

theorem is44_isVal (bits : Bits) (h : bits.length = 112) : (is44 bits).isVal = true :=
  Res.isVal_of_eq (Infer.is44_val bits h)

theorem is45_isVal (bits : Bits) (h : bits.length = 112) : (is45 bits).isVal = true :=
  Res.isVal_of_eq (Infer.is45_val bits h)

theorem is50_isVal (bits : Bits) (h : bits.length = 112) : (is50 bits).isVal = true :=
  Res.isVal_of_eq (Infer.is50_val bits h)

theorem is53_isVal (bits : Bits) (h : bits.length = 112) : (is53 bits).isVal = true :=
  Res.isVal_of_eq (Infer.is53_val bits h)

theorem is60Core_isVal (bits : Bits) (h : bits.length = 112) : (is60Core bits).isVal = true :=
  Res.isVal_of_eq (Infer.is60Core_val bits h)

theorem is60AltCheck_isVal (iasOfMach : Rat → Int → Rat) (bits : Bits) (h : bits.length = 112) :
    (is60AltCheck iasOfMach bits).isVal = true :=
  Res.isVal_of_eq (Infer.is60AltCheck_val iasOfMach bits h)

theorem is60_isVal (iasOfMach : Rat → Int → Rat) (bits : Bits) (h : bits.length = 112) :
    (is60 iasOfMach bits).isVal = true :=
  Res.isVal_of_eq (Infer.is60_val iasOfMach bits h)

theorem commbRules_isVal (iasOfMach : Rat → Int → Rat) (bits : Bits) (h : bits.length = 112) :
    (commbRules iasOfMach bits).isVal = true :=
  Res.isVal_of_eq (Infer.commbRules_val iasOfMach bits h)

theorem infer_isVal (iasOfMach : Rat → Int → Rat) (bits : Bits) (mrar : Bool) (h : bits.length = 112) :
    (infer iasOfMach bits mrar).isVal = true :=
  Res.isVal_of_eq (Infer.infer_val iasOfMach bits mrar h)

end PyModeS.Tot
