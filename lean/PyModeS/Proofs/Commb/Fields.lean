/-
  The MB field of a 112-bit frame with the slice spelled out (`dataR_112`, `allzerosB_112`), and the bit-field
  writer `setSlice` of the C11 encoder round trip.
-/
import PyModeS.Proofs.Commb.Total
namespace PyModeS.Tot

/-- on a 112-bit frame `hex2bin(data(msg))` is bits 33–88 -/
theorem dataR_112 (bits : Bits) (h : bits.length = 112) : dataR bits = .val (slice 32 88 bits) :=
  Infer.dataR_val bits h

theorem allzerosB_112 (bits : Bits) (h : bits.length = 112) :
    allzerosB bits = .val (decide (bin2int (slice 32 88 bits) = 0)) :=
  Infer.allzerosB_val bits h

/-! ### writing a bit field -/

/-- overwrite `f.length` bits of `d` starting at 0-based position `a` -/
def setSlice (d : Bits) (a : Nat) (f : Bits) : Bits := d.take a ++ f ++ d.drop (a + f.length)

theorem setSlice_length (d : Bits) (a : Nat) (f : Bits) (h : a + f.length ≤ d.length) :
    (setSlice d a f).length = d.length := by
  simp [setSlice]; omega

theorem getD_setSlice (d : Bits) (a : Nat) (f : Bits) (h : a + f.length ≤ d.length) (i : Nat) :
    (setSlice d a f).getD i false = if a ≤ i ∧ i < a + f.length then f.getD (i - a) false else d.getD i false := by
  unfold setSlice
  simp only [List.getD_eq_getElem?_getD, List.append_assoc]
  by_cases h1 : i < a
  · rw [List.getElem?_append_left (by simp; omega)]
    simp [h1]
    intro h2; omega
  · rw [List.getElem?_append_right (by simp; omega)]
    have ht : (List.take a d).length = a := by simp; omega
    rw [ht]
    by_cases h2 : i < a + f.length
    · rw [List.getElem?_append_left (by omega)]
      simp [show a ≤ i by omega, h2]
    · rw [List.getElem?_append_right (by omega)]
      simp only [List.getElem?_drop]
      have : ¬(a ≤ i ∧ i < a + f.length) := by omega
      simp only [this, if_false]
      congr 2; omega

/-- a slice that lies inside the written field -/
theorem slice_setSlice_self (d : Bits) (a : Nat) (f : Bits) (h : a + f.length ≤ d.length) :
    slice a (a + f.length) (setSlice d a f) = f := by
  unfold setSlice
  have := slice_append_mid (d.take a) f (d.drop (a + f.length))
  have ht : (List.take a d).length = a := by simp; omega
  rw [ht] at this
  exact this

/-- a slice disjoint from the written field is unchanged -/
theorem slice_setSlice_disjoint (d : Bits) (a : Nat) (f : Bits) (h : a + f.length ≤ d.length) (x y : Nat)
    (hd : y ≤ a ∨ a + f.length ≤ x) : slice x y (setSlice d a f) = slice x y d := by
  apply List.ext_getElem?
  intro i
  simp only [slice, List.getElem?_take, List.getElem?_drop]
  split
  · rename_i hi
    have h1 := getD_setSlice d a f h (x + i)
    have hc : ¬(a ≤ x + i ∧ x + i < a + f.length) := by omega
    simp only [hc, if_false, List.getD_eq_getElem?_getD] at h1
    have l1 : (setSlice d a f).length = d.length := setSlice_length d a f h
    by_cases hx : x + i < d.length
    · rw [List.getElem?_eq_getElem (by omega), List.getElem?_eq_getElem hx] at h1 ⊢
      simpa using h1
    · rw [List.getElem?_eq_none (by omega), List.getElem?_eq_none (by omega)]
  · rfl

end PyModeS.Tot
