/-
  Totality and type guards of the ADS-B decoders (bds05/06/08/09/61/62, adsb.py) on 112-bit frames:
  each is `Guarded doc f`: a value exactly on the documented DF/TC (and subtype), RuntimeError otherwise.
-/
import PyModeS.Proofs.Commb.Total
import PyModeS.Proofs.Enum
import PyModeS.Proofs.Fields.Velocity
namespace PyModeS.Tot

theorem chars8_isVal (chars : List Char) (hc : chars.length = 64) (cs : Bits) (hl : 48 ≤ cs.length) :
    (chars8 chars cs).isVal = true := by
  unfold chars8
  apply mapM_isVal
  intro i hi
  have hi : i < 8 := by simpa using hi
  have : 0 < (slice (6 * i) (6 * i + 6) cs).length := by simp; omega
  rw [bin2intR_of_length this]
  simp only [Res.bind_val]
  have := bin2int_slice_lt cs (6 * i) (6 * i + 6)
  have e : 6 * i + 6 - 6 * i = 6 := by omega
  rw [e] at this
  rw [idxR_eq (by rw [hc]; omega)]
  rfl

theorem movSpeed_isVal_all : (List.range 128).all (fun m => (movSpeed m).isVal) = true := by decide +kernel

theorem movSpeed_isVal (m : Nat) (h : m < 128) : (movSpeed m).isVal = true :=
  all_range_imp movSpeed_isVal_all m h

theorem altitude05_shape (bits : Bits) (h : bits.length = 112) :
    Guarded (TC bits (fun tc => 9 ≤ tc ∧ tc ≤ 18 ∨ 20 ≤ tc ∧ tc ≤ 22)) (altitude05 bits) := by
  apply guarded_tc
  · intro h0; simp [altitude05, h0]
  · intro tc htc _
    unfold altitude05
    tot_reads h
    rw [htc]
    simp only []
    split
    · exact .of_rte (by omega)
    · split
      · apply Guarded.of_isVal (by omega)
        apply Res.bind_isVal
        · apply altitude13_isVal; simp [h]
        · intros; rfl
      · exact .of_val (by omega)

theorem adsbAltitude_shape (bits : Bits) (h : bits.length = 112) :
    Guarded (TC bits (fun tc => 5 ≤ tc ∧ tc ≤ 18 ∨ 20 ≤ tc ∧ tc ≤ 22)) (adsbAltitude bits) := by
  apply guarded_tc
  · intro h0; simp [adsbAltitude, h0]
  · intro tc htc _
    unfold adsbAltitude
    rw [htc]
    simp only []
    split
    · exact .of_rte (by omega)
    · split
      · exact .of_val (by omega)
      · exact .of_isVal (by omega) ((altitude05_shape bits h).1 ⟨tc, htc, by omega⟩)

theorem surfaceVelocity_shape (bits : Bits) (h : bits.length = 112) :
    Guarded (TC bits (fun tc => 5 ≤ tc ∧ tc ≤ 8)) (surfaceVelocity bits) := by
  apply guarded_tc
  · intro h0; simp [surfaceVelocity, h0]
  · intro tc htc _
    unfold surfaceVelocity
    tot_reads h
    rw [htc]
    simp only []
    have hm := movSpeed_isVal _ (bin2int_slice_lt (List.drop 32 bits) 5 12)
    obtain ⟨v, hv⟩ := Res.isVal_iff.mp hm
    split
    · exact .of_rte (by omega)
    · apply Guarded.of_isVal (by omega)
      rw [hv]
      split <;> rfl

theorem category_shape (bits : Bits) (h : bits.length = 112) :
    Guarded (TC bits (fun tc => 1 ≤ tc ∧ tc ≤ 4)) (category bits) := by
  apply guarded_tc
  · intro h0; simp [category, h0]
  · intro tc htc _
    unfold category
    rw [htc]
    simp only []
    split
    · exact .of_rte (by omega)
    · apply Guarded.of_isVal (by omega)
      rw [bin2intR_of_length (by simp [h])]; rfl

theorem callsignChars_length : Tables.callsignChars.length = 64 := by decide +kernel

theorem callsign_shape (bits : Bits) (h : bits.length = 112) :
    Guarded (TC bits (fun tc => 1 ≤ tc ∧ tc ≤ 4)) (callsign bits) := by
  apply guarded_tc
  · intro h0; simp [callsign, h0]
  · intro tc htc _
    unfold callsign
    rw [htc]
    simp only []
    split
    · exact .of_rte (by omega)
    · apply Guarded.of_isVal (by omega)
      apply Res.bind_isVal
      · exact chars8_isVal _ callsignChars_length _ (by simp [h])
      · intros; rfl

theorem airborneVelocity_shape (bits : Bits) (h : bits.length = 112) :
    Guarded (tcB bits = some 19) (airborneVelocity bits) := by
  by_cases htc : tcB bits = some 19
  · obtain ⟨_, _, _, _, _, _, _, _, e⟩ := C09.airborneVelocity_val bits h htc
    exact .of_isVal htc (Res.isVal_of_eq e)
  · rw [C09.airborneVelocity_rte bits htc]
    exact .of_rte htc

/-- guard of the form `if tcB bits ≠ some k then .rte else body` -/
theorem guarded_tc_eq {α : Type} {bits : Bits} {k : Nat} {body : Res α} (hb : body.isVal = true) :
    Guarded (tcB bits = some k) (if tcB bits ≠ some k then .rte else body) := by
  split
  · exact .of_rte (by assumption)
  · exact .of_isVal (by simp_all) hb

theorem altitudeDiff_shape (bits : Bits) (h : bits.length = 112) :
    Guarded (tcB bits = some 19) (altitudeDiff bits) := by
  unfold altitudeDiff
  tot_reads h
  apply guarded_tc_eq
  tot_isVal

theorem slice_drop32 (a b : Nat) (bits : Bits) : slice a b (bits.drop 32) = slice (32 + a) (32 + b) bits :=
  slice_drop a b 32 bits

/-- type-code guard followed by a subtype guard: `if tcB bits ≠ some k then .rte else if st = c then .rte else body` -/
theorem guarded_tc_sub {α : Type} {bits : Bits} {k st c : Nat} {body : Res α} (hb : body.isVal = true) :
    Guarded (tcB bits = some k ∧ st ≠ c) (if tcB bits ≠ some k then .rte else if st = c then .rte else body) := by
  by_cases htc : tcB bits = some k
  · rw [if_neg (not_not_intro htc)]
    by_cases hst : st = c
    · rw [if_pos hst]
      exact .of_rte fun d => d.2 hst
    · rw [if_neg hst]
      exact .of_isVal ⟨htc, hst⟩ hb
  · rw [if_pos htc]
    exact .of_rte fun d => htc d.1

theorem isEmergency_shape (bits : Bits) (h : bits.length = 112) :
    Guarded (tcB bits = some 28 ∧ bin2int (slice 37 40 bits) ≠ 2) (isEmergency bits) := by
  unfold isEmergency
  tot_reads h
  rw [slice_drop32]
  exact guarded_tc_sub rfl

theorem emergencyState_shape (bits : Bits) (h : bits.length = 112) :
    Guarded (tcB bits = some 28 ∧ bin2int (slice 37 40 bits) ≠ 2) (emergencyState bits) := by
  unfold emergencyState
  tot_reads h
  rw [slice_drop32]
  exact guarded_tc_sub rfl

theorem emergencySquawk_shape (bits : Bits) (h : bits.length = 112) :
    Guarded (tcB bits = some 28) (emergencySquawk bits) := by
  unfold emergencySquawk
  apply guarded_tc_eq
  apply squawk_isVal
  rw [slice_length_of_le (by omega)]

/-! ### TC 29 (bds62) -/

theorem tc29_eq (bits : Bits) (h : bits.length = 112) :
    tc29 bits = if tcB bits ≠ some 29 then .rte else .val (bits.drop 32, bin2int (slice 37 39 bits)) := by
  unfold tc29
  tot_reads h
  rw [slice_drop32]

/-- V1-style guard (as coded): RuntimeError iff TC ≠ 29 or the 2-bit subtype field is 0 -/
abbrev DocV1 (bits : Bits) : Prop := tcB bits = some 29 ∧ bin2int (slice 37 39 bits) ≠ 0
/-- V0-style guard (as coded): RuntimeError iff TC ≠ 29 or the 2-bit subtype field is 1 -/
abbrev DocV0 (bits : Bits) : Prop := tcB bits = some 29 ∧ bin2int (slice 37 39 bits) ≠ 1

theorem tc29_bind {α : Type} (bits : Bits) (h : bits.length = 112) (f : Bits × Nat → Res α) :
    (tc29 bits >>= f) = if tcB bits ≠ some 29 then .rte else f (bits.drop 32, bin2int (slice 37 39 bits)) := by
  rw [tc29_eq bits h]
  split <;> rfl

theorem guarded_v1 {α : Type} (bits : Bits) (h : bits.length = 112) (body : Bits → Res α)
    (hb : (body (bits.drop 32)).isVal = true) :
    Guarded (DocV1 bits) (tc29 bits >>= fun p => if p.2 = 0 then .rte else body p.1) := by
  rw [tc29_bind bits h]
  exact guarded_tc_sub hb

theorem guarded_v0 {α : Type} (bits : Bits) (h : bits.length = 112) (body : Bits → Res α)
    (hb : (body (bits.drop 32)).isVal = true) :
    Guarded (DocV0 bits) (tc29 bits >>= fun p => if p.2 = 1 then .rte else body p.1) := by
  rw [tc29_bind bits h]
  exact guarded_tc_sub hb

theorem selectedAltitude_shape (bits : Bits) (h : bits.length = 112) :
    Guarded (DocV1 bits) (selectedAltitude bits) := by
  apply guarded_v1 bits h (fun mb => do
    let alt ← bin2intR (slice 9 20 mb)
    if alt = 0 then pure (none, "N/A") else do
    let src ← idxR mb 8
    pure (some ((alt - 1) * 32), if src = false then "MCP/FCU" else "FMS"))
  tot_reads h
  tot_isVal

theorem targetAltitude_shape (bits : Bits) (h : bits.length = 112) :
    Guarded (DocV0 bits) (targetAltitude bits) := by
  apply guarded_v0 bits h (fun mb => do
    let avail ← bin2intR (slice 7 9 mb)
    if avail = 0 then pure (none, "N/A", "") else do
    let src := if avail = 1 then "MCP/FCU" else if avail = 2 then "Holding mode" else "FMS/RNAV"
    let r ← idxR mb 9
    let a ← bin2intR (slice 15 25 mb)
    pure (some (-1000 + (a : Int) * 100), src, if r = false then "FL" else "MSL"))
  tot_reads h
  tot_isVal

theorem verticalMode_shape (bits : Bits) (h : bits.length = 112) :
    Guarded (DocV0 bits) (verticalMode bits) := by
  apply guarded_v0 bits h (fun mb => do
    let v ← bin2intR (slice 13 15 mb)
    pure (if v = 0 then none else some v))
  tot_reads h
  tot_isVal

theorem horizontalMode_shape (bits : Bits) (h : bits.length = 112) :
    Guarded (DocV0 bits) (horizontalMode bits) := by
  apply guarded_v0 bits h (fun mb => do
    let v ← bin2intR (slice 25 27 mb)
    pure (if v = 0 then none else some v))
  tot_reads h
  tot_isVal

theorem selectedHeading_shape (bits : Bits) (h : bits.length = 112) :
    Guarded (DocV1 bits) (selectedHeading bits) := by
  apply guarded_v1 bits h (fun mb => do
    let status ← idxR mb 29
    if status = false then pure none else do
    let sign ← idxR mb 30
    let v ← bin2intR (slice 31 39 mb)
    pure (some (((b2n sign : Nat) : Rat) * 180 + (v : Rat) * ((180 : Rat) / 256))))
  tot_reads h
  tot_isVal

theorem targetAngle_shape (bits : Bits) (h : bits.length = 112) :
    Guarded (DocV0 bits) (targetAngle bits) := by
  apply guarded_v0 bits h (fun mb => do
    let avail ← bin2intR (slice 25 27 mb)
    if avail = 0 then pure (none, "", "N/A") else do
    let angle ← bin2intR (slice 27 36 mb)
    let src := if avail = 1 then "MCP/FCU" else if avail = 2 then "Autopilot mode" else "FMS/RNAV"
    let ty ← idxR mb 36
    pure (some angle, if ty then "Heading" else "Track", src))
  tot_reads h
  tot_isVal

theorem baroPressureSetting_shape (bits : Bits) (h : bits.length = 112) :
    Guarded (DocV1 bits) (baroPressureSetting bits) := by
  apply guarded_v1 bits h (fun mb => do
    let baro ← bin2intR (slice 20 29 mb)
    pure (if baro = 0 then none else some (800 + (((baro : Int) - 1 : Int) : Rat) * 4 / 5)))
  tot_reads h
  tot_isVal

theorem modeFlag_shape (k : Nat) (hk : k < 80) (bits : Bits) (h : bits.length = 112) :
    Guarded (DocV1 bits) (modeFlag k bits) := by
  apply guarded_v1 bits h (fun mb => do
    let status ← idxR mb 46
    if status = false then pure none else do
    let f ← idxR mb k
    pure (some f))
  tot_reads h
  tot_isVal

theorem tcasOperational_shape (bits : Bits) (h : bits.length = 112) :
    Guarded (tcB bits = some 29) (tcasOperational bits) := by
  unfold tcasOperational
  rw [tc29_eq bits h]
  split
  · exact .of_rte (by simp_all)
  · apply Guarded.of_isVal (by simp_all)
    tot_reads h
    tot_isVal

theorem tcasRa_shape (bits : Bits) (h : bits.length = 112) :
    Guarded (DocV0 bits) (tcasRa bits) := by
  apply guarded_v0 bits h (fun mb => idxR mb 52)
  tot_reads h
  tot_isVal

theorem emergencyStatus_shape (bits : Bits) (h : bits.length = 112) :
    Guarded (DocV0 bits) (emergencyStatus bits) := by
  apply guarded_v0 bits h (fun mb => bin2intR (slice 53 56 mb))
  tot_reads h
  tot_isVal

/-! ### adsb.py -/

theorem oeFlag_isVal (bits : Bits) (h : bits.length = 112) : (oeFlag bits).isVal = true := by
  unfold oeFlag
  tot_reads h
  tot_isVal

theorem version_shape (bits : Bits) (h : bits.length = 112) :
    Guarded (tcB bits = some 31) (version bits) := by
  unfold version
  tot_reads h
  apply guarded_tc_eq
  tot_isVal

/-- documented type codes of the position-message quality look-ups -/
abbrev posTC (tc : Nat) : Prop := 5 ≤ tc ∧ tc ≤ 18 ∨ 20 ≤ tc ∧ tc ≤ 22

/-- the regenerated TC → NUCp / NIC tables have an entry for every documented TC, and the
    NIC-supplement sub-tables one for every supplement value the callers can pass -/
theorem tc_tables_total : (List.range 32).all (fun tc =>
    (tc < 5 || tc == 19 || tc > 22) ||
      ((lookupR Tables.tcNUCp tc).isVal &&
       (List.range 2).all (fun nics => (lookupR Tables.tcNICv1 tc >>= fun e => nicOfEntry e nics).isVal) &&
       (lookupR Tables.tcNICv2 tc).isVal)) = true := by decide +kernel

theorem tc_tables_total' (tc : Nat) (hlt : tc < 32) (hd : ¬(tc < 5 ∨ tc = 19 ∨ tc > 22)) :
    (lookupR Tables.tcNUCp tc).isVal = true ∧
    (∀ nics, nics ≤ 1 → (lookupR Tables.tcNICv1 tc >>= fun e => nicOfEntry e nics).isVal = true) ∧
    (lookupR Tables.tcNICv2 tc).isVal = true := by
  have := all_range_imp tc_tables_total tc hlt
  simp only [Bool.or_eq_true, Bool.and_eq_true, decide_eq_true_eq, beq_iff_eq, List.all_eq_true,
    List.mem_range] at this
  rcases this with this | this
  · exact absurd this (by omega)
  · exact ⟨this.1.1, fun n hn => this.1.2 n (by omega), this.2⟩

theorem nucP_shape (bits : Bits) : Guarded (TC bits posTC) (nucP bits) := by
  apply guarded_tc
  · intro h0; simp [nucP, h0]
  · intro tc htc hlt
    unfold nucP
    rw [htc]
    simp only []
    split
    · exact .of_rte (by unfold posTC; omega)
    · rename_i hd
      apply Guarded.of_isVal (by unfold posTC; omega)
      obtain ⟨v, hv⟩ := Res.isVal_iff.mp (tc_tables_total' tc hlt hd).1
      rw [hv]
      rfl

theorem nucV_shape (bits : Bits) (h : bits.length = 112) : Guarded (tcB bits = some 19) (nucV bits) := by
  unfold nucV
  tot_reads h
  apply guarded_tc_eq
  tot_isVal

theorem nicV1_shape (bits : Bits) (nics : Nat) (hn : nics ≤ 1) :
    Guarded (TC bits posTC) (nicV1 bits nics) := by
  apply guarded_tc
  · intro h0; simp [nicV1, h0]
  · intro tc htc hlt
    unfold nicV1
    rw [htc]
    simp only []
    split
    · exact .of_rte (by unfold posTC; omega)
    · rename_i hd
      apply Guarded.of_isVal (by unfold posTC; omega)
      have h2 := (tc_tables_total' tc hlt hd).2.1 nics hn
      cases he : lookupR Tables.tcNICv1 tc with
      | val e =>
        rw [he] at h2
        simp only [Res.bind_val] at h2 ⊢
        obtain ⟨nic, hnic⟩ := Res.isVal_iff.mp h2
        rw [hnic]
        simp only [Res.bind_val]
        tot_isVal
      | rte => rw [he] at h2; simp at h2
      | exc => rw [he] at h2; simp at h2

theorem nicV2_shape (bits : Bits) (nica nicbc : Nat) :
    Guarded (TC bits posTC) (nicV2 bits nica nicbc) := by
  apply guarded_tc
  · intro h0; simp [nicV2, h0]
  · intro tc htc hlt
    unfold nicV2
    rw [htc]
    simp only []
    split
    · exact .of_rte (by unfold posTC; omega)
    · rename_i hd
      apply Guarded.of_isVal (by unfold posTC; omega)
      obtain ⟨e, he⟩ := Res.isVal_iff.mp (tc_tables_total' tc hlt hd).2.2
      rw [he]
      simp only [Res.bind_val]
      tot_isVal

theorem nicS_shape (bits : Bits) (h : bits.length = 112) : Guarded (tcB bits = some 31) (nicS bits) := by
  unfold nicS
  tot_reads h
  apply guarded_tc_eq
  tot_isVal

theorem nicAC_shape (bits : Bits) (h : bits.length = 112) : Guarded (tcB bits = some 31) (nicAC bits) := by
  unfold nicAC
  tot_reads h
  apply guarded_tc_eq
  tot_isVal

theorem nicB_shape (bits : Bits) (h : bits.length = 112) :
    Guarded (TC bits (fun tc => 9 ≤ tc ∧ tc ≤ 18)) (nicB bits) := by
  apply guarded_tc
  · intro h0; simp [nicB, h0]
  · intro tc htc _
    unfold nicB
    tot_reads h
    rw [htc]
    simp only []
    split
    · exact .of_rte (by omega)
    · exact .of_val (by omega)

theorem nacP_shape (bits : Bits) (h : bits.length = 112) :
    Guarded (TC bits (fun tc => tc = 29 ∨ tc = 31)) (nacP bits) := by
  apply guarded_tc
  · intro h0; simp [nacP, h0]
  · intro tc htc _
    unfold nacP
    tot_reads h
    rw [htc]
    split
    · rename_i h1; cases h1
      apply Guarded.of_isVal (by omega); tot_isVal
    · rename_i h1; cases h1
      apply Guarded.of_isVal (by omega); tot_isVal
    · rename_i h1 h2
      apply Guarded.of_rte
      rintro (rfl | rfl)
      · exact h1 rfl
      · exact h2 rfl

theorem nacV_shape (bits : Bits) (h : bits.length = 112) : Guarded (tcB bits = some 19) (nacV bits) := by
  unfold nacV
  tot_reads h
  apply guarded_tc_eq
  tot_isVal

theorem sil_shape (bits : Bits) (h : bits.length = 112) (version : Option Nat) :
    Guarded (TC bits (fun tc => tc = 29 ∨ tc = 31)) (sil bits version) := by
  apply guarded_tc
  · intro h0; unfold sil; rw [h0]
  · intro tc htc _
    unfold sil
    rw [htc]
    dsimp -zeta only
    by_cases hd : tc = 29 ∨ tc = 31
    · apply Guarded.of_isVal hd
      rcases hd with rfl | rfl
      · simp (disch := omega) only [idxR_val h, bin2intR_slice_val h, Res.bind_val, Res.pure_eq, ne_eq,
          not_true_eq_false, false_and, ↓reduceIte]
        split <;> rfl
      · simp (disch := omega) only [idxR_val h, bin2intR_slice_val h, Res.bind_val, Res.pure_eq, ne_eq,
          not_true_eq_false, and_false, Nat.reduceEqDiff, ↓reduceIte]
        split <;> rfl
    · rw [if_pos (by omega)]
      exact .of_rte hd

/-! ### positions -/

theorem cprFields_isVal (bits : Bits) (h : bits.length = 112) : (cprFields bits).isVal = true := by
  unfold cprFields
  tot_reads h
  tot_isVal

theorem surfFields_isVal (bits : Bits) (h : bits.length = 112) : (surfFields bits).isVal = true := by
  unfold surfFields
  tot_reads h
  tot_isVal

theorem positionWithRef_shape (bits : Bits) (h : bits.length = 112) (latRef lonRef : Rat) :
    Guarded (TC bits posTC) (positionWithRef bits latRef lonRef) := by
  apply guarded_tc
  · intro h0; simp [positionWithRef, positionWithRefRoute, h0]
  · intro tc htc _
    unfold positionWithRef positionWithRefRoute
    rw [htc]
    simp only []
    obtain ⟨f, hf⟩ := Res.isVal_iff.mp (cprFields_isVal bits h)
    split
    · apply Guarded.of_isVal (by unfold posTC; omega)
      simp [surfacePositionWithRef, hf]
    · split
      · apply Guarded.of_isVal (by unfold posTC; omega)
        simp [airbornePositionWithRef, hf]
      · exact .of_rte (by unfold posTC; omega)

theorem ite_ne {α : Type} {c : Prop} [Decidable c] {a b r : α} (ha : a ≠ r) (hb : b ≠ r) :
    (if c then a else b) ≠ r := by
  split <;> assumption

/-- no frame pair (`rte`), or `nl` differs (`none`), or a position -/
theorem airbornePositionCore_ne_exc (nl : Rat → Nat) (f0 f1 : CprFrame) (t0 t1 : Rat) :
    airbornePositionCore nl f0 f1 t0 t1 ≠ .exc := by
  unfold airbornePositionCore
  extract_lets sel
  rcases sel with _ | ⟨e, o, t0, t1⟩
  · exact fun hc => nomatch hc
  · exact ite_ne (fun hc => nomatch hc) (fun hc => nomatch hc)

theorem position_ne_exc (b0 b1 : Bits) (h0 : b0.length = 112) (h1 : b1.length = 112) (t0 t1 : Rat)
    (ref : Option (Rat × Rat)) : position b0 b1 t0 t1 ref ≠ .exc := by
  unfold position
  obtain ⟨f0, hf0⟩ := Res.isVal_iff.mp (cprFields_isVal b0 h0)
  obtain ⟨f1, hf1⟩ := Res.isVal_iff.mp (cprFields_isVal b1 h1)
  obtain ⟨s0, hs0⟩ := Res.isVal_iff.mp (surfFields_isVal b0 h0)
  obtain ⟨s1, hs1⟩ := Res.isVal_iff.mp (surfFields_isVal b1 h1)
  apply Res.bind_ne_exc
  · unfold positionRoute
    repeat' split
    all_goals simp
  · intro k _
    split
    · simp [surfacePosition, hs0, hs1]
    · simp
    · simp only [airbornePosition, hf0, hf1, Res.bind_val]
      exact airbornePositionCore_ne_exc _ _ _ _ _

/-! ### surv.py / allcall.py (56- and 112-bit frames) -/

/-- a DF guard in front of a result that is a value exactly when `P` -/
theorem Guarded.guard {α : Type} {P Q : Prop} [Decidable Q] {f : Res α} (g : Guarded P f) :
    Guarded (Q ∧ P) (if Q then f else .rte) := by
  by_cases hq : Q
  · rw [if_pos hq]; exact ⟨fun h => g.1 h.2, fun h => g.2 fun p => h ⟨hq, p⟩⟩
  · rw [if_neg hq]; exact .of_rte fun h => hq h.1

theorem Guarded.congr {α : Type} {P Q : Prop} {x : Res α} (h : P ↔ Q) (g : Guarded P x) : Guarded Q x :=
  ⟨fun q => g.1 (h.mpr q), fun nq => g.2 fun p => nq (h.mp p)⟩

/-- a read that cannot fail, behind the DF 4/5 guard of `surv.py` -/
theorem survGuard_shape {α : Type} (bits : Bits) {f : Res α} (hf : f.isVal = true) :
    Guarded (dfB bits = 4 ∨ dfB bits = 5) (survGuard bits f) := by
  rw [Fields.survGuard_eq]
  exact (Guarded.guard (Guarded.of_isVal trivial hf)).congr (and_iff_left trivial)

/-- … and behind the DF 11 guard of `allcall.py` -/
theorem allcallGuard_shape {α : Type} (bits : Bits) {f : Res α} (hf : f.isVal = true) :
    Guarded (dfB bits = 11) (allcallGuard bits f) := by
  rw [Fields.allcallGuard_eq]
  exact (Guarded.guard (Guarded.of_isVal trivial hf)).congr (and_iff_left trivial)

theorem survFs_shape (bits : Bits) (h : 32 ≤ bits.length) :
    Guarded (dfB bits = 4 ∨ dfB bits = 5) (survFs bits) :=
  survGuard_shape bits (Res.isVal_of_eq (bin2intR_slice_of_lt (by omega) (by omega)))

theorem survDr_shape (bits : Bits) (h : 32 ≤ bits.length) :
    Guarded (dfB bits = 4 ∨ dfB bits = 5) (survDr bits) :=
  survGuard_shape bits (Res.isVal_of_eq (bin2intR_slice_of_lt (by omega) (by omega)))

theorem survUm_shape (bits : Bits) (h : 32 ≤ bits.length) :
    Guarded (dfB bits = 4 ∨ dfB bits = 5) (survUm bits) := by
  apply survGuard_shape
  rw [bin2intR_slice_of_lt (l := bits) (a := 13) (by omega) (by omega),
    bin2intR_slice_of_lt (l := bits) (a := 17) (by omega) (by omega)]
  rfl

theorem survAltitude_shape (bits : Bits) (h : 32 ≤ bits.length) :
    Guarded (dfB bits = 4) (survAltitude bits) := by
  unfold survAltitude altcodeB
  rw [Fields.survGuard_eq, Fields.rte_unless (q := dfB bits = 0 ∨ dfB bits = 4 ∨ dfB bits = 16 ∨ dfB bits = 20)
    (by simp only [not_or])]
  have g := Guarded.of_isVal trivial (altitude13_isVal (slice 19 32 bits) (slice_length_of_le (by omega)))
  exact g.guard.guard.congr ⟨fun h => by omega, fun h => ⟨by omega, by omega, trivial⟩⟩

theorem survIdentity_shape (bits : Bits) (h : 32 ≤ bits.length) :
    Guarded (dfB bits = 5) (survIdentity bits) := by
  unfold survIdentity idcodeB
  rw [Fields.survGuard_eq, Fields.rte_unless (q := dfB bits = 5 ∨ dfB bits = 21) (by simp only [not_or])]
  have g := Guarded.of_isVal trivial (squawk_isVal (slice 19 32 bits) (slice_length_of_le (by omega)))
  exact g.guard.guard.congr ⟨fun h => by omega, fun h => ⟨by omega, by omega, trivial⟩⟩

theorem interrogator_shape (bits : Bits) : Guarded (dfB bits = 11) (interrogator bits) := by
  apply allcallGuard_shape
  dsimp only
  tot_isVal

theorem capability_shape (bits : Bits) (h : 32 ≤ bits.length) : Guarded (dfB bits = 11) (capability bits) :=
  allcallGuard_shape bits (Res.isVal_of_eq (bin2intR_slice_of_lt (by omega) (by omega)))

end PyModeS.Tot
