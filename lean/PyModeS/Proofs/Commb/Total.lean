/-
  Totality toolkit: `Res` values that are never `exc`, guarded results, 112-bit frame facts.
-/
import PyModeS.Proofs.Hex
import PyModeS.Model.Commb
import PyModeS.Model.Misc
import PyModeS.Proofs.Infer.Base
namespace PyModeS.Tot

namespace Res
open PyModeS.Res
variable {α β : Type}
@[simp] theorem isVal_val (a : α) : (val a).isVal = true := rfl
@[simp] theorem isVal_rte : (rte : Res α).isVal = false := rfl
@[simp] theorem isVal_exc : (exc : Res α).isVal = false := rfl
theorem isVal_iff {x : Res α} : x.isVal = true ↔ ∃ a, x = val a := by
  cases x <;> simp
theorem isVal_of_eq {x : Res α} {a : α} (h : x = val a) : x.isVal = true := isVal_iff.mpr ⟨a, h⟩
theorem ne_exc_of_isVal {x : Res α} (h : x.isVal = true) : x ≠ exc := by
  cases x <;> simp_all
theorem ne_rte_of_isVal {x : Res α} (h : x.isVal = true) : x ≠ rte := by
  cases x <;> simp_all
theorem bind_ne_exc {x : Res α} {f : α → Res β} (hx : x ≠ exc) (hf : ∀ a, x = val a → f a ≠ exc) :
    (x >>= f) ≠ exc := by
  cases x with
  | val a => exact hf a rfl
  | rte => simp
  | exc => exact absurd rfl hx
theorem bind_isVal {x : Res α} {f : α → Res β} (hx : x.isVal = true) (hf : ∀ a, x = val a → (f a).isVal = true) :
    (x >>= f).isVal = true := by
  cases x with
  | val a => exact hf a rfl
  | rte => simp at hx
  | exc => simp at hx
theorem isVal_pure (a : α) : (pure a : Res α).isVal = true := rfl
theorem bind_isVal' {x : Res α} {f : α → Res β} (hx : x.isVal = true) (hf : ∀ a, (f a).isVal = true) :
    (x >>= f).isVal = true := bind_isVal hx (fun a _ => hf a)
end Res

/-- `x` is a value when `P` holds and `RuntimeError` otherwise (never another exception) -/
def Guarded {α : Type} (P : Prop) (x : Res α) : Prop := (P → x.isVal = true) ∧ (¬P → x = .rte)

namespace Guarded
variable {α : Type} {P : Prop} {x : Res α}
theorem ne_exc (h : Guarded P x) : x ≠ .exc := by
  by_cases hp : P
  · exact Res.ne_exc_of_isVal (h.1 hp)
  · rw [h.2 hp]; simp
theorem rte_iff (h : Guarded P x) : x = .rte ↔ ¬P := by
  constructor
  · intro hr hp; have := h.1 hp; rw [hr] at this; simp at this
  · exact h.2
theorem isVal_iff (h : Guarded P x) : x.isVal = true ↔ P := by
  constructor
  · intro hv; by_cases hp : P
    · exact hp
    · rw [h.2 hp] at hv; simp at hv
  · exact h.1
theorem of_val {a : α} (hp : P) : Guarded P (.val a) := ⟨fun _ => rfl, fun h => absurd hp h⟩
theorem of_rte (hp : ¬P) : Guarded P (.rte : Res α) := ⟨fun h => absurd h hp, fun _ => rfl⟩
theorem of_isVal (hp : P) (hx : x.isVal = true) : Guarded P x := ⟨fun _ => hx, fun h => absurd hp h⟩
end Guarded

/-- "the frame is DF17/18 and its type code satisfies `P`" -/
def TC (bits : Bits) (P : Nat → Prop) : Prop := ∃ tc, tcB bits = some tc ∧ P tc

theorem guarded_tc {α : Type} {x : Res α} {bits : Bits} {P : Nat → Prop}
    (hnone : tcB bits = none → x = .rte)
    (hsome : ∀ tc, tcB bits = some tc → tc < 32 → Guarded (P tc) x) : Guarded (TC bits P) x := by
  cases h : tcB bits with
  | none =>
    refine ⟨?_, fun _ => hnone h⟩
    rintro ⟨tc, h1, _⟩
    rw [h] at h1; cases h1
  | some tc =>
    have g := hsome tc h (Fields.tcB_lt h)
    constructor
    · rintro ⟨tc', h1, h2⟩
      rw [h] at h1; cases h1; exact g.1 h2
    · intro hn; apply g.2; intro hp; exact hn ⟨tc, h, hp⟩

/-! ### in-range reads of a fixed-length bit string never raise -/

theorem idxR_val {l : Bits} {n : Nat} (hl : l.length = n) (i : Nat) (hi : i < n) :
    idxR l i = .val (l.getD i false) :=
  idxR_getD l i false (by omega)

theorem bin2intR_slice_val {l : Bits} {n : Nat} (hl : l.length = n) (a b : Nat) (hab : a < b) (hb : b ≤ n) :
    bin2intR (slice a b l) = .val (bin2int (slice a b l)) :=
  bin2intR_slice_of_lt hab (by omega)

theorem drop32_length {bits : Bits} (h : bits.length = 112) : (bits.drop 32).length = 80 := by simp [h]

theorem slice_32_88_length {bits : Bits} (h : bits.length = 112) : (slice 32 88 bits).length = 56 := by
  rw [slice_length_of_le (by omega)]

theorem mapM_isVal {α β : Type} (f : α → Res β) (l : List α) (h : ∀ a ∈ l, (f a).isVal = true) :
    (Res.mapM f l).isVal = true := by
  induction l with
  | nil => rfl
  | cons a t ih =>
    have ha := h a (by simp)
    have ht := ih (fun b hb => h b (by simp [hb]))
    unfold Res.mapM
    obtain ⟨b, hb⟩ := Res.isVal_iff.mp ha
    obtain ⟨bs, hbs⟩ := Res.isVal_iff.mp ht
    rw [hb, hbs]; rfl

/-- rewrite every in-range `idxR`/`bin2intR (slice ..)` on `bits` (length hypothesis `h`) and on
    `mb = bits.drop 32` into a value -/
macro "tot_reads" h:ident : tactic =>
  `(tactic| simp (disch := omega) only [idxR_val $h:ident, bin2intR_slice_val $h:ident,
      idxR_val (drop32_length $h:ident), bin2intR_slice_val (drop32_length $h:ident),
      Res.bind_val, Res.pure_eq])

/-- structural proof of `(e).isVal = true` for `e` built from values, binds, `if`s and `match`es -/
syntax "tot_isVal" : tactic
macro_rules
  | `(tactic| tot_isVal) => `(tactic| first
      | with_reducible exact Res.isVal_val _
      | with_reducible exact Res.isVal_pure _
      | with_reducible assumption
      | (with_reducible refine Res.bind_isVal' ?_ (fun _ => ?_) <;> tot_isVal)
      | (split <;> tot_isVal))

theorem altitude13_isVal (b : Bits) (h : b.length = 13) : (altitude13 b).isVal = true :=
  Res.isVal_of_eq (Infer.altitude13_val b h)

theorem altitude13_ne_exc (b : Bits) : altitude13 b ≠ .exc := by
  unfold altitude13
  repeat' split
  all_goals simp

theorem squawk_isVal (b : Bits) (h : b.length = 13) : (squawk b).isVal = true := by
  obtain ⟨_, _, _, _, _, _, _, _, _, _, _, _, _, rfl⟩ := bits13 h
  rfl

theorem squawk_ne_exc (b : Bits) : squawk b ≠ .exc := by
  unfold squawk
  split <;> simp

end PyModeS.Tot
