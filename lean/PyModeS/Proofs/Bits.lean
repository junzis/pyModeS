/-
  Core lemmas on bit strings: `natToBits` and `bin2int` are inverse (`snoc_induction` is the induction both
  are proved by), the zero test, the 13-element list written out, slices and their values, reads in range
  (`idxR`, `bin2intR`), and the fields of a frame made by `build`.
-/
import PyModeS.Basic
namespace PyModeS

theorem natToBitsA_eq (w v : Nat) (acc : Bits) : natToBitsA w v acc = natToBitsA w v [] ++ acc := by
  induction w generalizing v acc with
  | zero => simp [natToBitsA]
  | succ w ih =>
    simp only [natToBitsA]
    rw [ih (v / 2) ((v % 2 == 1) :: acc), ih (v / 2) [(v % 2 == 1)]]
    simp

theorem natToBits_zero (v : Nat) : natToBits 0 v = [] := rfl

theorem natToBits_succ (w v : Nat) : natToBits (w + 1) v = natToBits w (v / 2) ++ [v % 2 == 1] := by
  unfold natToBits
  simp only [natToBitsA]
  rw [natToBitsA_eq]

@[simp] theorem natToBits_length (w v : Nat) : (natToBits w v).length = w := by
  induction w generalizing v with
  | zero => rfl
  | succ w ih => rw [natToBits_succ]; simp [ih]

/-- bit `i` of the string is binary digit `w - 1 - i` of the number -/
theorem getD_natToBits (w v i : Nat) (h : i < w) : (natToBits w v).getD i false = v.testBit (w - 1 - i) := by
  induction w generalizing v i with
  | zero => omega
  | succ w ih =>
    rw [natToBits_succ, List.getD_eq_getElem?_getD]
    by_cases hi : i < w
    · rw [List.getElem?_append_left (by rwa [natToBits_length]), ← List.getD_eq_getElem?_getD, ih _ _ hi,
        show w + 1 - 1 - i = (w - 1 - i) + 1 by omega, Nat.testBit_succ]
    · rw [List.getElem?_append_right (by rw [natToBits_length]; omega), natToBits_length,
        show i - w = 0 by omega, show w + 1 - 1 - i = 0 by omega, Nat.testBit_zero]
      rfl

/-- the high and the low digits -/
theorem natToBits_add (a b v : Nat) : natToBits (a + b) v = natToBits a (v / 2 ^ b) ++ natToBits b v := by
  induction b generalizing v with
  | zero => simp [natToBits_zero]
  | succ b ih =>
    rw [← Nat.add_assoc, natToBits_succ, natToBits_succ, ih, List.append_assoc, Nat.pow_succ,
      Nat.div_div_eq_div_mul, Nat.mul_comm 2]

theorem bin2int_append_single (l : Bits) (b : Bool) : bin2int (l ++ [b]) = 2 * bin2int l + b.toNat := by
  simp [bin2int, List.foldl_append]

theorem bin2int_nil : bin2int [] = 0 := rfl

theorem bin2int_natToBits (w v : Nat) : bin2int (natToBits w v) = v % 2 ^ w := by
  induction w generalizing v with
  | zero => simp [natToBits_zero, bin2int_nil, Nat.mod_one]
  | succ w ih =>
    rw [natToBits_succ, bin2int_append_single, ih]
    have h2 : (v % 2 == 1).toNat = v % 2 := by
      rcases Nat.mod_two_eq_zero_or_one v with h | h <;> simp [h]
    rw [h2, Nat.pow_succ, Nat.mul_comm (2 ^ w) 2, Nat.mod_mul]
    omega

theorem bin2int_natToBits_of_lt {w v : Nat} (h : v < 2 ^ w) : bin2int (natToBits w v) = v := by
  rw [bin2int_natToBits, Nat.mod_eq_of_lt h]

theorem snoc_induction {α} {P : List α → Prop} (nil : P [])
    (snoc : ∀ l a, P l → P (l ++ [a])) : ∀ l, P l := by
  intro l
  have : ∀ n, ∀ l : List α, l.length = n → P l := by
    intro n
    induction n with
    | zero =>
      intro l h
      have : l = [] := List.eq_nil_of_length_eq_zero h
      subst this; exact nil
    | succ n ih =>
      intro l h
      have hne : l ≠ [] := by intro h0; simp [h0] at h
      rw [← List.dropLast_concat_getLast hne]
      apply snoc; apply ih; simp [h]
  exact this _ l rfl

theorem bin2int_lt (l : Bits) : bin2int l < 2 ^ l.length := by
  induction l using snoc_induction with
  | nil => simp [bin2int_nil]
  | snoc l b ih =>
    rw [bin2int_append_single]
    simp only [List.length_append, List.length_singleton, Nat.pow_succ]
    cases b <;> simp <;> omega

theorem bin2int_append (a b : Bits) : bin2int (a ++ b) = bin2int a * 2 ^ b.length + bin2int b := by
  induction b using snoc_induction with
  | nil => simp [bin2int_nil]
  | snoc b c ih =>
    rw [← List.append_assoc, bin2int_append_single, bin2int_append_single, ih]
    simp only [List.length_append, List.length_singleton, Nat.pow_succ]
    generalize 2 ^ b.length = p
    have : 2 * (bin2int a * p) = bin2int a * (p * 2) := by ac_rfl
    omega

theorem natToBits_bin2int (l : Bits) : natToBits l.length (bin2int l) = l := by
  induction l using snoc_induction with
  | nil => rfl
  | snoc l b ih =>
    rw [bin2int_append_single]
    simp only [List.length_append, List.length_singleton]
    rw [natToBits_succ]
    have h1 : (2 * bin2int l + b.toNat) / 2 = bin2int l := by cases b <;> simp <;> omega
    have h2 : ((2 * bin2int l + b.toNat) % 2 == 1) = b := by cases b <;> simp <;> omega
    rw [h1, h2, ih]

theorem natToBits_bin2int_of_length {l : Bits} {w : Nat} (h : l.length = w) : natToBits w (bin2int l) = l :=
  h ▸ natToBits_bin2int l

/-- every bit string is the `natToBits` of its value -/
theorem exists_natToBits (l : Bits) : ∃ v, v < 2 ^ l.length ∧ l = natToBits l.length v :=
  ⟨bin2int l, bin2int_lt l, (natToBits_bin2int l).symm⟩

/-! ### the zero test -/

theorem bin2int_eq_zero_iff (l : Bits) : bin2int l = 0 ↔ ∀ b ∈ l, b = false := by
  induction l using snoc_induction with
  | nil => exact ⟨fun _ _ hb => (nomatch hb), fun _ => rfl⟩
  | snoc l a ih =>
    rw [bin2int_append_single, List.forall_mem_append, ← ih]
    cases a
    · simp only [Bool.toNat_false, Nat.add_zero, List.mem_singleton, forall_eq, and_true]; omega
    · simp

theorem bin2int_eq_zero {l : Bits} : bin2int l = 0 → ∀ b ∈ l, b = false := (bin2int_eq_zero_iff l).mp

/-- a bit string is non-zero exactly when one of its bits is 1 -/
theorem bin2int_ne_zero_iff (l : Bits) : bin2int l ≠ 0 ↔ true ∈ l := by
  rw [Ne, bin2int_eq_zero_iff]
  constructor
  · intro h
    apply Classical.byContradiction
    intro hn
    exact h fun b hb => by cases b; rfl; exact absurd hb hn
  · exact fun h hall => Bool.noConfusion (hall true h)

theorem bin2int_ne_zero {l : Bits} (h : true ∈ l) : bin2int l ≠ 0 := (bin2int_ne_zero_iff l).mpr h

/-- A list of thirteen elements, written out: the AC and ID fields of Mode S replies are matched whole by the model. -/
theorem bits13 {α} {b : List α} (h : b.length = 13) :
    ∃ b0 b1 b2 b3 b4 b5 b6 b7 b8 b9 b10 b11 b12, b = [b0, b1, b2, b3, b4, b5, b6, b7, b8, b9, b10, b11, b12] := by
  rcases b with _ | ⟨b0, _ | ⟨b1, _ | ⟨b2, _ | ⟨b3, _ | ⟨b4, _ | ⟨b5, _ | ⟨b6, _ | ⟨b7, _ | ⟨b8, _ | ⟨b9,
    _ | ⟨b10, _ | ⟨b11, _ | ⟨b12, _ | ⟨b13, t⟩⟩⟩⟩⟩⟩⟩⟩⟩⟩⟩⟩⟩⟩ <;> simp at h
  exact ⟨b0, b1, b2, b3, b4, b5, b6, b7, b8, b9, b10, b11, b12, rfl⟩

/-! ### slices -/

@[simp] theorem slice_length {α} (a b : Nat) (l : List α) : (slice a b l).length = min (b - a) (l.length - a) := by
  simp [slice]

theorem slice_length_of_le {α} {a b : Nat} {l : List α} (h : b ≤ l.length) : (slice a b l).length = b - a := by
  simp [slice]; omega

theorem slice_append_mid {α} (pre f post : List α) :
    slice pre.length (pre.length + f.length) (pre ++ f ++ post) = f := by
  simp [slice, List.append_assoc]

theorem slice_drop {α} (a b k : Nat) (l : List α) : slice a b (l.drop k) = slice (k + a) (k + b) l := by
  simp [slice, List.drop_drop]
  congr 1 <;> omega

theorem slice_map {α β} (f : α → β) (a b : Nat) (l : List α) : slice a b (l.map f) = (slice a b l).map f := by
  simp [slice, List.map_take, List.map_drop]

theorem slice_slice {α} (a b o e : Nat) (l : List α) (h : o + b ≤ e) :
    slice a b (slice o e l) = slice (o + a) (o + b) l := by
  simp only [slice, List.drop_take, List.take_take, List.drop_drop]
  congr 1
  omega

theorem slice_append_left {α} (l r : List α) (a b : Nat) (hb : b ≤ l.length) :
    slice a b (l ++ r) = slice a b l := by
  simp only [slice]
  by_cases ha : a ≤ l.length
  · rw [List.drop_append_of_le_length ha, List.take_append_of_le_length (by simp; omega)]
  · have h1 : b - a = 0 := by omega
    simp [h1]

theorem slice_append_slice {α} (a b c : Nat) (l : List α) (hab : a ≤ b) (hbc : b ≤ c) :
    slice a b l ++ slice b c l = slice a c l := by
  have e : c - a = (b - a) + (c - b) := by omega
  simp only [slice]
  rw [e, List.take_add, List.drop_drop]
  congr 3
  omega

/-- a list is its prefix, a slice and the rest -/
theorem split3 {α} (a b : Nat) (l : List α) (hab : a ≤ b) :
    l = l.take a ++ slice a b l ++ l.drop b := by
  have h1 : l.drop a = (l.drop a).take (b - a) ++ (l.drop a).drop (b - a) := (List.take_append_drop _ _).symm
  have h2 : (l.drop a).drop (b - a) = l.drop b := by
    rw [List.drop_drop]; congr 1; omega
  rw [h2] at h1
  unfold slice
  rw [List.append_assoc, ← h1, List.take_append_drop]

/-- the width of a slice bounds its value -/
theorem bin2int_slice_lt (bits : Bits) (a b : Nat) : bin2int (slice a b bits) < 2 ^ (b - a) := by
  have h2 : (slice a b bits).length ≤ b - a := by rw [slice_length]; exact Nat.min_le_left _ _
  exact Nat.lt_of_lt_of_le (bin2int_lt _) (Nat.pow_le_pow_right Nat.two_pos h2)

/-- the value of the slice `[a, b)` of a bit string, as digits of the value of the whole string -/
theorem bin2int_slice (l : Bits) (a b : Nat) (hab : a ≤ b) (hb : b ≤ l.length) :
    bin2int (slice a b l) = bin2int l / 2 ^ (l.length - b) % 2 ^ (b - a) := by
  have hs := split3 a b l hab
  have hlen : (slice a b l).length = b - a := slice_length_of_le hb
  have hS := bin2int_slice_lt l a b
  have hD : bin2int (l.drop b) < 2 ^ (l.length - b) := by
    have := bin2int_lt (l.drop b); rwa [List.length_drop] at this
  have hv : bin2int l = (bin2int (l.take a) * 2 ^ (b - a) + bin2int (slice a b l)) * 2 ^ (l.length - b)
      + bin2int (l.drop b) := by
    conv => lhs; rw [hs]
    rw [bin2int_append, bin2int_append, hlen, List.length_drop]
  rw [hv]
  have hp : 0 < 2 ^ (l.length - b) := Nat.two_pow_pos _
  rw [Nat.add_comm, Nat.add_mul_div_right _ _ hp, Nat.div_eq_of_lt hD, Nat.zero_add,
    Nat.add_comm, Nat.add_mul_mod_self_right, Nat.mod_eq_of_lt hS]

/-- two adjacent fields, the second of `k` bits -/
theorem bin2int_slice_add (bits : Bits) (a b k : Nat) (hab : a ≤ b) (h : b + k ≤ bits.length) :
    bin2int (slice a b bits) * 2 ^ k + bin2int (slice b (b + k) bits) = bin2int (slice a (b + k) bits) := by
  rw [← slice_append_slice a b (b + k) bits hab (Nat.le_add_right _ _), bin2int_append, slice_length_of_le h,
    Nat.add_sub_cancel_left]

/-- a one-bit slice is the bit (`0` beyond the end, like `getD`) -/
theorem slice_one (bits : Bits) (i : Nat) : bin2int (slice i (i + 1) bits) = (bits.getD i false).toNat := by
  unfold slice
  rw [Nat.add_sub_cancel_left, List.getD_eq_getElem?_getD]
  by_cases hi : i < bits.length
  · rw [List.drop_eq_getElem_cons hi, List.take_succ_cons, List.take_zero, List.getElem?_eq_getElem hi]
    simp [bin2int]
  · rw [List.drop_eq_nil_of_le (by omega), List.getElem?_eq_none (by omega)]
    rfl

/-- a bit, read as a one-bit field -/
theorem getD_eq_decide (bits : Bits) (i : Nat) :
    bits.getD i false = decide (bin2int (slice i (i + 1) bits) = 1) := by
  rw [slice_one bits i]
  cases bits.getD i false <;> rfl

/-! ### reads in range: `s[i]` and `int(s[a:b], 2)` return a value -/

theorem bin2intR_eq {l : Bits} (h : l ≠ []) : bin2intR l = .val (bin2int l) := by
  unfold bin2intR
  cases l with
  | nil => exact absurd rfl h
  | cons a t => simp

theorem bin2intR_of_length {l : Bits} (h : 0 < l.length) : bin2intR l = .val (bin2int l) :=
  bin2intR_eq (by intro h0; simp [h0] at h)

theorem idxR_eq {α} {l : List α} {i : Nat} (h : i < l.length) : idxR l i = .val l[i] := by
  simp [idxR, h]

theorem idxR_getD {α} (l : List α) (i : Nat) (dflt : α) (h : i < l.length) : idxR l i = .val (l.getD i dflt) := by
  simp [idxR, h]

theorem bin2intR_slice_of_lt {l : Bits} {a b : Nat} (hab : a < b) (ha : a < l.length) :
    bin2intR (slice a b l) = .val (bin2int (slice a b l)) :=
  bin2intR_of_length (by rw [slice_length]; omega)

/-! ### build / offset -/

theorem build_length (fs : List (Nat × Nat)) : (build fs).length = (fs.map (·.1)).sum := by
  induction fs with
  | nil => rfl
  | cons f fs ih => obtain ⟨w, v⟩ := f; simp [build, ih]

/-- the slice of `build fs` at field `i` is that field's bits -/
theorem slice_build (fs : List (Nat × Nat)) (i : Nat) (h : i < fs.length) :
    slice (offset fs i) (offset fs i + (fs[i]).1) (build fs) = natToBits (fs[i]).1 (fs[i]).2 := by
  induction fs generalizing i with
  | nil => simp at h
  | cons f fs ih =>
    obtain ⟨w, v⟩ := f
    cases i with
    | zero =>
      simp only [offset, build, List.getElem_cons_zero]
      have := slice_append_mid ([] : Bits) (natToBits w v) (build fs)
      simpa using this
    | succ i =>
      simp only [offset, build, List.getElem_cons_succ]
      have hi : i < fs.length := by simpa using h
      have := ih i hi
      simp only [slice] at this ⊢
      rw [List.drop_append]
      simp only [natToBits_length]
      have h1 : List.drop (w + offset fs i) (natToBits w v) = [] := by
        apply List.drop_eq_nil_of_le; simp
      rw [h1]
      simp only [List.nil_append]
      have h2 : w + offset fs i - w = offset fs i := by omega
      rw [h2]
      have h3 : w + offset fs i + fs[i].1 - (w + offset fs i) = offset fs i + fs[i].1 - offset fs i := by omega
      rw [h3]
      exact this

theorem offset_add_le (fs : List (Nat × Nat)) (i : Nat) (h : i < fs.length) :
    offset fs i + fs[i].1 ≤ (build fs).length := by
  induction fs generalizing i with
  | nil => simp at h
  | cons f fs ih =>
    obtain ⟨w, v⟩ := f
    cases i with
    | zero => simp [offset, build]
    | succ i =>
      have := ih i (by simpa using h)
      simp only [offset, build, List.getElem_cons_succ, List.length_append, natToBits_length]
      omega

theorem offset_succ (F : List (Nat × Nat)) (i w v : Nat) (h : F[i]? = some (w, v)) :
    offset F (i + 1) = offset F i + w := by
  induction F generalizing i with
  | nil => simp at h
  | cons f F ih =>
    obtain ⟨w', v'⟩ := f
    cases i with
    | zero =>
      obtain ⟨rfl, _⟩ : w' = w ∧ v' = v := by simpa using h
      cases F <;> simp [offset]
    | succ i =>
      have := ih i (by simpa using h)
      simp only [offset, this]
      omega

/-- a slice inside field `i` of a built frame, found at bit `o`, as digits of the value placed there
    (`ho`, `hf` are `rfl` on a concrete layout; for a late field `simp [offset]` is cheaper) -/
theorem field_slice (fs : List (Nat × Nat)) (rest : Bits) (i o w v : Nat) (ho : offset fs i = o)
    (hf : fs[i]? = some (w, v)) (hv : v < 2 ^ w) (a b : Nat) (hab : a ≤ b) (hb : b ≤ w) :
    bin2int (slice (o + a) (o + b) (build fs ++ rest)) = v / 2 ^ (w - b) % 2 ^ (b - a) := by
  subst ho
  obtain ⟨hi, e⟩ := List.getElem?_eq_some_iff.mp hf
  have hl := offset_add_le fs i hi
  have hs := slice_build fs i hi
  rw [e] at hl hs
  rw [slice_append_left _ rest _ _ (by omega), ← slice_slice a b _ (offset fs i + w) _ (by omega),
    hs, bin2int_slice _ a b hab (by rw [natToBits_length]; exact hb), natToBits_length,
    bin2int_natToBits_of_lt hv]

/-- field `i` of a built frame reads back the value placed there -/
theorem field_val (fs : List (Nat × Nat)) (rest : Bits) (i o w v : Nat) (ho : offset fs i = o)
    (hf : fs[i]? = some (w, v)) (hv : v < 2 ^ w) : bin2int (slice o (o + w) (build fs ++ rest)) = v := by
  have := field_slice fs rest i o w v ho hf hv 0 w (Nat.zero_le _) (Nat.le_refl _)
  rwa [Nat.sub_self, Nat.pow_zero, Nat.div_one, Nat.sub_zero, Nat.mod_eq_of_lt hv] at this

/-- a one-bit field holding a Boolean -/
theorem field_bit (fs : List (Nat × Nat)) (rest : Bits) (i o : Nat) (b : Bool) (ho : offset fs i = o)
    (hf : fs[i]? = some (1, b.toNat)) : (build fs ++ rest).getD o false = b := by
  rw [getD_eq_decide, field_val fs rest i o 1 b.toNat ho hf (Bool.toNat_lt b)]
  cases b <;> rfl

/-- fields filling `w` bits are one `w`-bit field -/
theorem build_single (fs : List (Nat × Nat)) (w : Nat) (hw : (fs.map (·.1)).sum = w) :
    ∃ sd, sd < 2 ^ w ∧ build fs = build [(w, sd)] := by
  obtain ⟨sd, h1, h2⟩ := exists_natToBits (build fs)
  rw [build_length, hw] at h1 h2
  exact ⟨sd, h1, by rw [build, build, List.append_nil]; exact h2⟩

/-- … whose digits are the fields -/
theorem field_digits (fs : List (Nat × Nat)) (w sd : Nat) (e : build fs = build [(w, sd)]) (hsd : sd < 2 ^ w)
    (i wi vi : Nat) (hf : fs[i]? = some (wi, vi)) (hv : vi < 2 ^ wi) :
    sd / 2 ^ (w - (offset fs i + wi)) % 2 ^ wi = vi := by
  obtain ⟨hi, ei⟩ := List.getElem?_eq_some_iff.mp hf
  have hl := offset_add_le fs i hi
  rw [ei, e, build, build, List.append_nil, natToBits_length] at hl
  have A := field_val fs [] i _ wi vi rfl hf hv
  have B := field_slice [(w, sd)] [] 0 0 w sd rfl rfl hsd (offset fs i) (offset fs i + wi) (Nat.le_add_right _ _) hl
  rw [← e, Nat.zero_add, Nat.zero_add, A, Nat.add_sub_cancel_left] at B
  exact B.symm

/-! ### a list with one entry replaced -/

theorem forall_mem_set {P : Nat → Prop} {cs : List Nat} {k c' : Nat} (h : ∀ c ∈ cs, P c) (h' : P c') :
    ∀ d ∈ cs.set k c', P d := by
  intro d hm
  rcases List.mem_or_eq_of_mem_set hm with h1 | h1
  · exact h d h1
  · rw [h1]; exact h'

/-- mapping `f` over a list of codes and over the same list with code `k` replaced by `c'` -/
theorem map_set_independent {α} (f : Nat → α) {cs ds : List Nat} {k c' : Nat} (hd : ds = cs.set k c') :
    (∀ j : Nat, (cs.map f)[j]? = (cs[j]?).map f) ∧ (∀ j : Nat, (ds.map f)[j]? = (ds[j]?).map f) ∧
    ds.map f = (cs.map f).set k (f c') ∧ (∀ j : Nat, j ≠ k → (cs.map f)[j]? = (ds.map f)[j]?) ∧
    (k < cs.length → (cs.map f)[k]? = (cs[k]?).map f ∧ (ds.map f)[k]? = some (f c')) := by
  have hs : ds.map f = (cs.map f).set k (f c') := by rw [hd, List.map_set]
  refine ⟨fun j => List.getElem?_map .., fun j => List.getElem?_map .., hs, fun j hj => ?_,
    fun hk => ⟨List.getElem?_map .., ?_⟩⟩
  · rw [hs, List.getElem?_set_ne (Ne.symm hj)]
  · rw [hs, List.getElem?_set_self (by simpa using hk)]

end PyModeS
