/-
  C19, the open 10–14 dB band, machine-checked on one buffer: the property's literal hypothesis
  ("pulse amplitude between 0.3 and 1.4, at least 10 dB above the noise floor") is NOT enough for
  `_process_buffer`.  Same frame and layout as `CleanEval.exBuf`, but every non-pulse sample is
  0.15 = 0.3 × amplitude (10.46 dB below the pulses, so `3.162 × noise ≤ amplitude` holds): the
  bit slicer's threshold is `0.2 × 0.5 = 0.1`, the trailing noise pairs are not "both below the
  threshold", the slicer reads a 113th bit, and the 29-digit result fails `_check_msg`.
  Nothing is returned.  (Kernel evaluation of the list form, `processBuffer_list`.)
-/
import PyModeS.Proofs.Demod.Clean
namespace PyModeS.Demod
open PyModeS

/-- 200 samples at 0.15, the DF17 frame 8D406B902015A678D4D220AA4BDA at amplitude 0.5 with lows at
    0.15, 10 samples at 0.15 -/
def noisyBuf : List Rat :=
  List.replicate 200 (3 / 20) ++
    modulate (1 / 2) (fun _ => 3 / 20) (hex2binM "8D406B902015A678D4D220AA4BDA".toList) ++
    List.replicate 10 (3 / 20)

/-- the buffer satisfies the property's wording: amplitude in [0.3, 1.4]; every non-pulse sample
    (0.15) at least 10 dB below the pulse amplitude (factor 3.162 in amplitude); the frame is valid -/
theorem noisyBuf_meets_10dB :
    (3 / 10 : Rat) ≤ 1 / 2 ∧ (1 / 2 : Rat) ≤ 14 / 10 ∧ (3162 / 1000 : Rat) * (3 / 20) ≤ 1 / 2 ∧
    checkMsg "8D406B902015A678D4D220AA4BDA".toList = true ∧
    ¬ ((3 / 20 : Rat) < (1 / 2) / 5) :=
  ⟨by decide +kernel, by decide +kernel, by decide +kernel, exMsg_ok.2, by decide +kernel⟩

/-- … yet the frame is lost: no message is returned -/
theorem noisyBuf_lost : processBuffer 1000000 noisyBuf.toArray = .val ([], 3 / 20, 0) := by
  rw [processBuffer_list]
  decide +kernel

end PyModeS.Demod
