/-
  The demodulator's main loop (`demodLoop`) read as a consumer of the list of samples still ahead:
  `scan` iterates `turn`, which consumes at least one sample and makes at most one frame attempt.
  From that: every emitted message passed `checkMsg`; the index never decreases, so the modelled
  fuel `buf.size + 1` never cuts the loop short.
-/
import PyModeS.Model.Demod
namespace PyModeS.Demod
open PyModeS

/-- table obligation: the preamble is 8 µs long (16 samples) -/
theorem rtlPbits_eq : Tables.rtlPbits = 8 := by decide

/-- the output list after one frame attempt -/
def frameOut (out : List Msg) (msgbin : List Bool) : List Msg :=
  if msgbin.isEmpty then out else
    if checkMsg (bin2hexNoPad msgbin) then out ++ [bin2hexNoPad msgbin] else out

/-! ### the buffer read as a list

  `Array.extract` reduces badly in the kernel (quadratically, through `Array.push`) and hides that the loop
  only ever looks at the samples still ahead of it; the list forms below are what the proofs and the
  evaluations of test buffers work with. -/

/-- the means of the complete 200-sample windows -/
def meansL (b : List Rat) : List Rat :=
  (List.range (b.length / 200)).map (fun k => ((b.drop (k * 200)).take 200).foldl (· + ·) 0 / 200)

/-- `calcNoise` on a list -/
def calcNoiseL (b : List Rat) : Res Rat :=
  match meansL b with
  | [] => .exc
  | m :: ms => .val (ms.foldl min m)

theorem calcNoise_list (buf : Array Rat) : calcNoise buf = calcNoiseL buf.toList := by
  have hm : (List.range (buf.size / (Tables.rtlSamplesPerMicrosec * 100))).map
      (fun k => (buf.extract (k * (Tables.rtlSamplesPerMicrosec * 100))
        (k * (Tables.rtlSamplesPerMicrosec * 100) + (Tables.rtlSamplesPerMicrosec * 100))).foldl (· + ·) 0 /
          ((Tables.rtlSamplesPerMicrosec * 100 : Nat) : Rat)) = meansL buf.toList := by
    have hw : Tables.rtlSamplesPerMicrosec * 100 = 200 := rfl
    rw [hw, meansL, Array.length_toList]
    apply List.map_congr_left
    intro k _
    rw [← Array.foldl_toList, Array.toList_extract, List.extract_eq_take_drop, Nat.add_sub_cancel_left]
    rfl
  unfold calcNoise calcNoiseL
  dsimp only
  rw [hm]
  rfl

/-- the slicer stops where the next two samples are missing or both below the threshold -/
theorem sliceBits_stop (fp : List Rat) (thr : Rat) (fuel j : Nat) (acc : List Bool)
    (h : ∀ a b, (fp.drop j).take 2 = [a, b] → a < thr ∧ b < thr) :
    sliceBits fp thr (fuel + 1) j acc = (acc, j) := by
  rw [sliceBits]
  generalize (fp.drop j).take 2 = p2 at h
  rcases p2 with _ | ⟨a, _ | ⟨b, _ | ⟨c, t⟩⟩⟩
  · rfl
  · rfl
  · exact if_pos (h a b rfl)
  · rfl

/-- ... and otherwise reads one bit from them -/
theorem sliceBits_go (fp : List Rat) (thr : Rat) (fuel j : Nat) (acc : List Bool) (a b : Rat)
    (hp : (fp.drop j).take 2 = [a, b]) (h : ¬ (a < thr ∧ b < thr)) :
    sliceBits fp thr (fuel + 1) j acc =
      if fuel = 0 then (acc ++ [decide (a ≥ b)], j)
      else sliceBits fp thr fuel (j + 2) (acc ++ [decide (a ≥ b)]) := by
  rw [sliceBits, hp]
  exact if_neg h

/-- `sliceBits` consuming the window pair by pair: `s` is the window from sample offset `j` on -/
def sliceL (thr : Rat) : Nat → List Rat → Nat → List Bool → List Bool × Nat
  | 0, _, j, acc => (acc, j)
  | fuel + 1, a :: b :: s, j, acc =>
    if a < thr ∧ b < thr then (acc, j)
    else if fuel = 0 then (acc ++ [decide (a ≥ b)], j)
    else sliceL thr fuel s (j + 2) (acc ++ [decide (a ≥ b)])
  | _ + 1, _, j, acc => (acc, j)

theorem sliceBits_list (fp : List Rat) (thr : Rat) : ∀ (fuel j : Nat) (acc : List Bool),
    sliceBits fp thr fuel j acc = sliceL thr fuel (fp.drop j) j acc := by
  intro fuel
  induction fuel with
  | zero => intro j acc; rfl
  | succ fuel ih =>
    intro j acc
    rw [sliceBits]
    rcases h : fp.drop j with _ | ⟨a, _ | ⟨b, s⟩⟩
    · rfl
    · rfl
    · have hd : fp.drop (j + 2) = s := by rw [← List.drop_drop, h]; rfl
      show (if a < thr ∧ b < thr then _ else if fuel = 0 then _ else sliceBits fp thr fuel (j + 2) _) = _
      rw [ih, hd]
      rfl

/-- one turn of the `while` loop with the samples `s` (not empty) still ahead: how many of them it consumes,
    and the new output -/
def turn (minAmp : Rat) (s : List Rat) (out : List Msg) : Res (Nat × List Msg) :=
  if s.headD 0 < minAmp then .val (1, out)
  else if checkPreamble (s.take 16) then
    match (s.drop 16).take 226 with
    | [] => .exc
    | x :: xs =>
      let (bits, j) := sliceL (xs.foldl max x * (1 / 5)) 113 (x :: xs) 0 []
      .val (16 + j, frameOut out bits)
  else .val (1, out)

/-- `turn` with the slicer of the model -/
theorem turn_sliceBits (minAmp : Rat) (s : List Rat) (out : List Msg) :
    turn minAmp s out =
      if s.headD 0 < minAmp then .val (1, out)
      else if checkPreamble (s.take 16) then
        match (s.drop 16).take 226 with
        | [] => .exc
        | x :: xs =>
          let (bits, j) := sliceBits (x :: xs) (xs.foldl max x * (1 / 5)) 113 0 []
          .val (16 + j, frameOut out bits)
      else .val (1, out) := by
  simp only [sliceBits_list, List.drop_zero]
  rfl

/-- `demodLoop` with the samples still ahead as a list, `i` counting those consumed -/
def scan (minAmp : Rat) : Nat → Nat → List Rat → List Msg → Res (List Msg × Nat)
  | 0, i, _, out => .val (out, i)
  | fuel + 1, i, s, out =>
    if s.isEmpty then .val (out, i)
    else turn minAmp s out >>= fun r => scan minAmp fuel (i + r.1) (s.drop r.1) r.2

theorem demodLoop_eq_scan (buf : Array Rat) (minAmp : Rat) : ∀ (fuel i : Nat) (out : List Msg),
    demodLoop buf minAmp fuel i out = scan minAmp fuel i (buf.toList.drop i) out := by
  intro fuel
  induction fuel with
  | zero => intro i out; rfl
  | succ fuel ih =>
    intro i out
    refine Eq.trans (b := if i ≥ buf.size then Res.val (out, i) else _) rfl ?_
    cases hs : buf.toList.drop i with
    | nil =>
      have : i ≥ buf.size := by simpa using hs
      rw [if_pos this]; rfl
    | cons x s =>
      have hi : ¬ i ≥ buf.size := by
        intro h
        rw [List.drop_eq_nil_of_le (by simpa using h)] at hs
        cases hs
      have hd : ∀ n, buf.toList.drop (i + n) = (x :: s).drop n := by
        intro n; rw [← hs, List.drop_drop]
      have hx : buf.getD i 0 = (x :: s).headD 0 := by
        have h : buf.toList[i]? = some x := by rw [← List.head?_drop, hs]; rfl
        rw [Array.getD_eq_getD_getElem?, ← Array.getElem?_toList, h]; rfl
      have hp : (buf.extract i (i + Tables.rtlPbits * 2)).toList = (x :: s).take 16 := by
        rw [← hs, Array.toList_extract, List.extract_eq_take_drop, Nat.add_sub_cancel_left]; rfl
      have hf : (buf.extract (i + Tables.rtlPbits * 2)
          (i + Tables.rtlPbits * 2 + (Tables.rtlFbits + 1) * 2)).toList = ((x :: s).drop 16).take 226 := by
        rw [Array.toList_extract, List.extract_eq_take_drop, Nat.add_sub_cancel_left, hd]; rfl
      rw [if_neg hi, hx]
      dsimp only
      rw [hp, hf, scan, turn_sliceBits]
      simp only [ih, hd]
      by_cases h1 : (x :: s).headD 0 < minAmp
      · rw [if_pos h1, if_pos h1]; rfl
      · rw [if_neg h1, if_neg h1]
        by_cases h2 : checkPreamble ((x :: s).take 16) = true
        · rw [if_pos h2, if_pos h2]
          generalize ((x :: s).drop 16).take 226 = fp
          cases fp with
          | nil => rfl
          | cons y ys =>
            show scan minAmp fuel (i + 16 + _) (List.drop (i + 16 + _) buf.toList) _ = _
            rw [Nat.add_assoc i 16, hd]; rfl
        · rw [if_neg h2, if_neg h2]; rfl

theorem processBuffer_list (nf0 : Rat) (buf : Array Rat) :
    processBuffer nf0 buf = (do
      let nf := min (← calcNoiseL buf.toList) nf0
      let (out, i) ← scan ((3162 : Rat) / 1000 * nf) (buf.size + 1) 0 buf.toList []
      pure (out, nf, buf.size - i)) := by
  unfold processBuffer
  simp only [calcNoise_list, demodLoop_eq_scan, List.drop_zero]

/-! ### what every run of the loop satisfies -/

theorem scan_nil (minAmp : Rat) (fuel i : Nat) (out : List Msg) :
    scan minAmp fuel i [] out = .val (out, i) := by
  cases fuel <;> rfl

theorem scan_succ (minAmp : Rat) (fuel i : Nat) (s : List Rat) (out : List Msg) (hs : s ≠ []) :
    scan minAmp (fuel + 1) i s out =
      turn minAmp s out >>= fun r => scan minAmp fuel (i + r.1) (s.drop r.1) r.2 := by
  cases s with
  | nil => exact absurd rfl hs
  | cons x s => rfl

/-- a turn consumes at least one sample; it leaves the output as it is or makes one frame attempt -/
theorem turn_val (minAmp : Rat) (s : List Rat) (out : List Msg) (r : Nat × List Msg)
    (h : turn minAmp s out = .val r) : 0 < r.1 ∧ (r.2 = out ∨ ∃ bits, r.2 = frameOut out bits) := by
  unfold turn at h
  split at h
  · cases h; exact ⟨Nat.one_pos, .inl rfl⟩
  · split at h
    · split at h
      · cases h
      · cases h; exact ⟨by omega, .inr ⟨_, rfl⟩⟩
    · cases h; exact ⟨Nat.one_pos, .inl rfl⟩

/-- a property of everything `bin2hex` produces and `_check_msg` accepts is kept by a frame attempt -/
theorem frameOut_inv (P : Msg → Prop) (hP : ∀ bits, checkMsg (bin2hexNoPad bits) = true → P (bin2hexNoPad bits))
    (out : List Msg) (bits : List Bool) (hinv : ∀ m ∈ out, P m) : ∀ m ∈ frameOut out bits, P m := by
  intro m hm
  unfold frameOut at hm
  split at hm
  · exact hinv m hm
  · split at hm
    · rename_i hc
      rcases List.mem_append.mp hm with h | h
      · exact hinv m h
      · rw [List.mem_singleton.mp h]; exact hP _ hc
    · exact hinv m hm

/-- ... hence by the whole loop -/
theorem scan_inv (P : Msg → Prop) (hP : ∀ bits, checkMsg (bin2hexNoPad bits) = true → P (bin2hexNoPad bits))
    (minAmp : Rat) : ∀ (fuel i : Nat) (s : List Rat) (out res : List Msg) (i' : Nat), (∀ m ∈ out, P m) →
      scan minAmp fuel i s out = .val (res, i') → ∀ m ∈ res, P m := by
  intro fuel
  induction fuel with
  | zero => intro i s out res i' hinv h; cases h; exact hinv
  | succ fuel ih =>
    intro i s out res i' hinv h
    by_cases hs : s = []
    · rw [hs, scan_nil] at h; cases h; exact hinv
    · rw [scan_succ _ _ _ _ _ hs] at h
      cases ht : turn minAmp s out with
      | val r =>
        rw [ht] at h
        refine ih _ _ _ _ _ ?_ h
        rcases (turn_val _ _ _ _ ht).2 with e | ⟨bits, e⟩ <;> rw [e]
        · exact hinv
        · exact frameOut_inv P hP out bits hinv
      | rte => rw [ht] at h; cases h
      | exc => rw [ht] at h; cases h

/-- the index never decreases, and with more fuel than samples ahead the loop ends by its own condition
    (nothing ahead): each turn consumes at least one sample -/
theorem scan_index (minAmp : Rat) : ∀ (fuel i : Nat) (s : List Rat) (out res : List Msg) (i' : Nat),
    scan minAmp fuel i s out = .val (res, i') → i ≤ i' ∧ (s.length < fuel → i + s.length ≤ i') := by
  intro fuel
  induction fuel with
  | zero => intro i s out res i' h; cases h; exact ⟨Nat.le_refl _, fun h => absurd h (Nat.not_lt_zero _)⟩
  | succ fuel ih =>
    intro i s out res i' h
    by_cases hs : s = []
    · subst hs; rw [scan_nil] at h; cases h; exact ⟨Nat.le_refl _, fun _ => Nat.le_refl _⟩
    · rw [scan_succ _ _ _ _ _ hs] at h
      cases ht : turn minAmp s out with
      | val r =>
        rw [ht] at h
        have hr := (turn_val _ _ _ _ ht).1
        have := ih _ _ _ _ _ h
        rw [List.length_drop] at this
        exact ⟨by omega, fun hf => by omega⟩
      | rte => rw [ht] at h; cases h
      | exc => rw [ht] at h; cases h

/-- more fuel than samples ahead is as good as any larger amount -/
theorem scan_fuel (minAmp : Rat) : ∀ (fuel i : Nat) (s : List Rat) (out : List Msg) (extra : Nat),
    s.length < fuel → scan minAmp (fuel + extra) i s out = scan minAmp fuel i s out := by
  intro fuel
  induction fuel with
  | zero => intro i s out extra hf; exact absurd hf (Nat.not_lt_zero _)
  | succ fuel ih =>
    intro i s out extra hf
    by_cases hs : s = []
    · rw [hs, scan_nil, scan_nil]
    · rw [Nat.add_right_comm, scan_succ _ _ _ _ _ hs, scan_succ _ _ _ _ _ hs]
      cases ht : turn minAmp s out with
      | val r =>
        have hr := (turn_val _ _ _ _ ht).1
        have hl : s.length ≠ 0 := fun h => hs (List.length_eq_zero_iff.mp h)
        exact ih _ _ _ _ (by rw [List.length_drop]; omega)
      | rte => rfl
      | exc => rfl

end PyModeS.Demod
