/-
  C19, positive half: a cleanly pulse-position-modulated Mode S frame is recovered by the
  sample-buffer processor (`processBuffer`, model of `RtlReader._process_buffer`).

  Signal model: 2 samples per µs; the 16-sample preamble `1010000101000000` (pulse amplitude `a`,
  low samples `lo k`), then 2 samples per bit (1 ↦ pulse,low; 0 ↦ low,pulse).
  Noise hypothesis (what the code really needs): every non-pulse sample is `< a/5` (the slicer's
  threshold `max(frame_pulses) * 0.2`) and `< 1/5` (so that it can never pass the preamble test
  `|x - 1| ≤ 0.8` at preamble position 0).

  The argument: a clean preamble passes `_check_preamble` and a sample below 0.2 never does; the
  slicer reads clean PPM samples back bit by bit; so one loop turn at the first sample of a
  transmission consumes exactly that transmission (`turn_frame`) and quiet samples cost one turn
  each (`scan_quiet`); the noise floor of a quiet lead-in puts the amplitude gate below the pulses.
  `processBuffer_clean` is the result on bits, for any number of transmissions, each with its own
  amplitude; `clean_bits_recovered` and `clean_signal_recovered` are the case of one transmission.
  The message-level statements about sequences are in `CleanMulti.lean`, an independent kernel
  evaluation of `processBuffer` on a concrete buffer in `CleanEval.lean`.
-/
import PyModeS.Proofs.Demod.Loop
import PyModeS.Proofs.CRC.HexStr
import PyModeS.Proofs.CPR.Floor
import Mathlib.Tactic.Linarith
import Mathlib.Tactic.NormNum
import Mathlib.Tactic.Ring
namespace PyModeS.Demod
open PyModeS

/-! ### table obligations -/

theorem rtlPreamble_eq : Tables.rtlPreamble = [1, 0, 1, 0, 0, 0, 0, 1, 0, 1, 0, 0, 0, 0, 0, 0] := by decide
theorem rtlFbits_eq : Tables.rtlFbits = 112 := by decide
theorem rtlThAmpDiff_eq : Tables.rtlThAmpDiff = 4 / 5 := rfl
theorem rtlSamplesPerMicrosec_eq : Tables.rtlSamplesPerMicrosec = 2 := by decide

theorem rtlPreamble_01 : ∀ k, k < 16 →
    Tables.rtlPreamble.getD k 0 = 0 ∨ Tables.rtlPreamble.getD k 0 = 1 := by decide
theorem rtlPreamble_head : Tables.rtlPreamble.getD 0 0 = 1 := by decide

/-! ### the modulator -/

/-- the 16 preamble samples: amplitude `a` where `Tables.rtlPreamble` has 1, the low sample
    `lo k` elsewhere -/
def preambleSamples (a : Rat) (lo : Nat → Rat) : List Rat :=
  (List.range 16).map (fun k => if Tables.rtlPreamble.getD k 0 = 1 then a else lo k)

/-- PPM, 2 samples per bit: 1 ↦ (pulse, low), 0 ↦ (low, pulse); `lo` is indexed by the sample
    offset inside the transmission -/
def ppm (a : Rat) (lo : Nat → Rat) : Nat → Bits → List Rat
  | _, [] => []
  | k, b :: bs => (if b then [a, lo (k + 1)] else [lo k, a]) ++ ppm a lo (k + 2) bs

/-- preamble followed by the PPM data samples -/
def modulate (a : Rat) (lo : Nat → Rat) (bits : Bits) : List Rat :=
  preambleSamples a lo ++ ppm a lo 16 bits

@[simp] theorem preambleSamples_length (a : Rat) (lo : Nat → Rat) : (preambleSamples a lo).length = 16 := by
  simp [preambleSamples]

@[simp] theorem ppm_length (a : Rat) (lo : Nat → Rat) (k : Nat) (bits : Bits) :
    (ppm a lo k bits).length = 2 * bits.length := by
  induction bits generalizing k with
  | nil => rfl
  | cons b bs ih => cases b <;> simp [ppm, ih] <;> omega

@[simp] theorem modulate_length (a : Rat) (lo : Nat → Rat) (bits : Bits) :
    (modulate a lo bits).length = 16 + 2 * bits.length := by
  simp [modulate]

theorem ppm_mem (a : Rat) (lo : Nat → Rat) (k : Nat) (bits : Bits) :
    ∀ x ∈ ppm a lo k bits, x = a ∨ ∃ j, x = lo j := by
  induction bits generalizing k with
  | nil => intro x hx; simp [ppm] at hx
  | cons b bs ih =>
    intro x hx
    simp only [ppm, List.mem_append] at hx
    rcases hx with hx | hx
    · cases b
      · simp at hx; rcases hx with hx | hx
        · exact Or.inr ⟨_, hx⟩
        · exact Or.inl hx
      · simp at hx; rcases hx with hx | hx
        · exact Or.inl hx
        · exact Or.inr ⟨_, hx⟩
    · exact ih _ x hx

theorem ppm_has_pulse (a : Rat) (lo : Nat → Rat) (k : Nat) (bits : Bits) (h : bits ≠ []) :
    a ∈ ppm a lo k bits := by
  cases bits with
  | nil => exact absurd rfl h
  | cons b bs => cases b <;> simp [ppm]

/-! ### the preamble test on a clean preamble -/

/-- a clean preamble passes `_check_preamble` whenever the pulse
    amplitude is within `[0.2, 1.8]` and the low samples within `[-0.8, 0.8]` -/
theorem checkPreamble_modulated (a : Rat) (lo : Nat → Rat) (ha : 1 / 5 ≤ a ∧ a ≤ 9 / 5)
    (hlo : ∀ k, k < 16 → -(4 / 5) ≤ lo k ∧ lo k ≤ 4 / 5) :
    checkPreamble (preambleSamples a lo) = true := by
  unfold checkPreamble
  simp only [preambleSamples_length, beq_self_eq_true, Bool.true_and, List.all_eq_true,
    List.mem_range, Bool.not_eq_true', decide_eq_false_iff_not, gt_iff_lt, not_lt]
  intro k hk
  have hget : (preambleSamples a lo).getD k 0 =
      if Tables.rtlPreamble.getD k 0 = 1 then a else lo k := by
    simp [preambleSamples, List.getD_eq_getElem?_getD, hk]
  rw [hget, rtlThAmpDiff_eq, CPR.rabs_le_iff]
  rcases rtlPreamble_01 k hk with h | h
  · rw [h]; simp only [Nat.zero_ne_one, if_false, Nat.cast_zero, sub_zero]
    exact hlo k hk
  · rw [h]; simp only [if_true, Nat.cast_one]
    constructor <;> linarith [ha.1, ha.2]

/-- non-vacuity: amplitude 0.5 over lows of 0.05 -/
example : checkPreamble (preambleSamples (1 / 2) (fun _ => 1 / 20)) = true :=
  checkPreamble_modulated _ _ (by norm_num) (fun _ _ => by norm_num)

/-- what a quiet sample can never do: pass the preamble test at position 0 -/
theorem checkPreamble_head (p : List Rat) (h : checkPreamble p = true) : 1 / 5 ≤ p.getD 0 0 := by
  unfold checkPreamble at h
  simp only [Bool.and_eq_true, List.all_eq_true, List.mem_range, Bool.not_eq_true',
    decide_eq_false_iff_not, gt_iff_lt, not_lt] at h
  have := h.2 0 (by omega)
  rw [rtlPreamble_head, rtlThAmpDiff_eq, CPR.rabs_le_iff] at this
  simp only [Nat.cast_one] at this
  linarith [this.1]

/-! ### the bit slicer on clean PPM samples -/

/-- the slicer, generalised for the induction: from sample offset `j`, where the window `fp`
    continues with the PPM samples of `rest` and then `tl` -/
theorem sliceBits_core (a thr : Rat) (lo : Nat → Rat) (fp tl : List Rat)
    (hthr : thr ≤ a) (hlo : ∀ k, lo k < thr) (htl : ∀ x ∈ tl.take 2, x < thr) :
    ∀ (rest : Bits) (fuel j k : Nat) (acc : List Bool),
      fp.drop j = ppm a lo k rest ++ tl → rest.length < fuel →
      sliceBits fp thr fuel j acc = (acc ++ rest, j + 2 * rest.length) := by
  intro rest
  induction rest with
  | nil =>
    intro fuel j k acc hdrop hfuel
    obtain ⟨f, rfl⟩ : ∃ f, fuel = f + 1 := ⟨fuel - 1, by omega⟩
    have hstop : ∀ x y, (fp.drop j).take 2 = [x, y] → x < thr ∧ y < thr := by
      intro x y h
      rw [hdrop] at h
      have h' : tl.take 2 = [x, y] := h
      exact ⟨htl x (by rw [h']; exact List.mem_cons_self),
        htl y (by rw [h']; exact List.mem_cons_of_mem _ List.mem_cons_self)⟩
    rw [sliceBits_stop fp thr f j acc hstop, List.append_nil]
    rfl
  | cons b bs ih =>
    intro fuel j k acc hdrop hfuel
    rw [List.length_cons] at hfuel
    obtain ⟨f, rfl⟩ : ∃ f, fuel = f + 1 := ⟨fuel - 1, by omega⟩
    have hf : f ≠ 0 := by omega
    have hdrop2 : fp.drop (j + 2) = ppm a lo (k + 2) bs ++ tl := by
      rw [← List.drop_drop, hdrop]
      cases b <;> rfl
    have hrec := ih f (j + 2) (k + 2) (acc ++ [b]) hdrop2 (by omega)
    have hres : (acc ++ [b] ++ bs, j + 2 + 2 * bs.length) = (acc ++ b :: bs, j + 2 * (bs.length + 1)) := by
      rw [List.append_assoc, List.singleton_append, Nat.mul_add, Nat.add_assoc, Nat.add_comm 2]
    cases b
    · rw [sliceBits_go fp thr f j acc (lo k) a (by rw [hdrop]; rfl) (fun h => not_lt.mpr hthr h.2), if_neg hf,
        decide_eq_false (not_le.mpr (lt_of_lt_of_le (hlo k) hthr)), hrec, hres, List.length_cons]
    · rw [sliceBits_go fp thr f j acc a (lo (k + 1)) (by rw [hdrop]; rfl) (fun h => not_lt.mpr hthr h.1), if_neg hf,
        decide_eq_true (le_of_lt (lt_of_lt_of_le (hlo (k + 1)) hthr)), hrec, hres, List.length_cons]

/-- on the PPM samples of at most 112 bits (low samples below the
    threshold, pulses at or above it), followed by a tail that is shorter than two samples or
    starts with two samples below the threshold, the slicing loop of `_process_buffer`
    (113 turns at most) returns exactly the bits and stops right behind them -/
theorem sliceBits_modulated (a thr : Rat) (lo : Nat → Rat) (k : Nat) (bits : Bits) (tl : List Rat)
    (hlen : bits.length ≤ 112) (hthr : thr ≤ a) (hlo : ∀ k, lo k < thr)
    (htl : ∀ x ∈ tl.take 2, x < thr) :
    sliceBits (ppm a lo k bits ++ tl) thr 113 0 [] = (bits, 2 * bits.length) := by
  have := sliceBits_core a thr lo (ppm a lo k bits ++ tl) tl hthr hlo htl bits 113 0 k []
    (by simp) (by omega)
  simpa using this

/-- non-vacuity: three bits followed by two quiet samples -/
example : sliceBits (ppm (1 / 2) (fun _ => 1 / 20) 16 [true, false, true] ++ [1 / 20, 1 / 20])
    (1 / 10) 113 0 [] = ([true, false, true], 6) :=
  sliceBits_modulated (1 / 2) (1 / 10) (fun _ => 1 / 20) 16 [true, false, true] [1 / 20, 1 / 20]
    (by decide) (by norm_num) (fun _ => by norm_num)
    (fun x hx => by
      simp only [List.take_succ_cons, List.take_zero, List.mem_cons, List.not_mem_nil, or_false,
        or_self] at hx
      rw [hx]; norm_num)

/-! ### the slicer's threshold `max(frame_pulses) * 0.2` -/

theorem foldl_max_ge (xs : List Rat) (x : Rat) : x ≤ xs.foldl max x ∧ ∀ y ∈ xs, y ≤ xs.foldl max x := by
  induction xs generalizing x with
  | nil => simp
  | cons z zs ih =>
    simp only [List.foldl_cons, List.mem_cons, forall_eq_or_imp]
    have h := ih (max x z)
    exact ⟨le_trans (le_max_left _ _) h.1, le_trans (le_max_right _ _) h.1, h.2⟩

theorem foldl_max_le (xs : List Rat) (x a : Rat) (hx : x ≤ a) (hxs : ∀ y ∈ xs, y ≤ a) :
    xs.foldl max x ≤ a := by
  induction xs generalizing x with
  | nil => simpa
  | cons z zs ih =>
    simp only [List.foldl_cons]
    exact ih _ (max_le hx (hxs z (by simp))) (fun y hy => hxs y (by simp [hy]))

theorem foldl_max_eq (x : Rat) (xs : List Rat) (a : Rat) (hle : ∀ y ∈ x :: xs, y ≤ a)
    (hmem : a ∈ x :: xs) : xs.foldl max x = a := by
  apply le_antisymm
  · exact foldl_max_le xs x a (hle x (by simp)) (fun y hy => hle y (by simp [hy]))
  · have h := foldl_max_ge xs x
    rcases List.mem_cons.mp hmem with h1 | h1
    · rw [h1]; exact h.1
    · exact h.2 a h1

/-! ### one loop turn at the start of a clean transmission -/

theorem preambleSamples_head (a : Rat) (lo : Nat → Rat) : (preambleSamples a lo).head? = some a := by
  show some (if Tables.rtlPreamble.getD 0 0 = 1 then a else lo 0) = some a
  rw [rtlPreamble_head, if_pos rfl]

/-- at the first sample of a clean transmission of `bits` (followed by
    `226 - 2·len` samples below the slicer threshold `a/5`), one loop turn recovers exactly `bits`
    and consumes exactly the transmission -/
theorem turn_frame (minAmp a : Rat) (lo : Nat → Rat) (bits : Bits) (tl : List Rat) (out : List Msg)
    (hgate : minAmp ≤ a) (ha : 1 / 5 ≤ a ∧ a ≤ 9 / 5)
    (hlo : ∀ k, -(4 / 5) ≤ lo k ∧ lo k < a / 5)
    (hbits : bits ≠ []) (hlen : bits.length ≤ 112)
    (htl : ∀ x ∈ tl.take (226 - 2 * bits.length), x < a / 5) :
    turn minAmp (modulate a lo bits ++ tl) out = .val (16 + 2 * bits.length, frameOut out bits) := by
  have ha5 : a / 5 ≤ a := by linarith [ha.1]
  have hhead : (modulate a lo bits ++ tl).headD 0 = a := by
    rw [List.headD_eq_head?_getD, modulate, List.append_assoc, List.head?_append, preambleSamples_head]
    rfl
  have hpre : (modulate a lo bits ++ tl).take 16 = preambleSamples a lo := by
    rw [modulate, List.append_assoc]
    exact List.take_left' (by simp)
  have hfp : ((modulate a lo bits ++ tl).drop 16).take 226 =
      ppm a lo 16 bits ++ tl.take (226 - 2 * bits.length) := by
    rw [modulate, List.append_assoc, List.drop_left' (by simp), List.take_append,
      List.take_of_length_le (by simp; omega)]
    simp
  rw [turn_sliceBits, hhead, if_neg (not_lt.mpr hgate), hpre,
    checkPreamble_modulated a lo ha (fun k _ => ⟨(hlo k).1, by linarith [(hlo k).2, ha.2]⟩), if_pos rfl,
    hfp]
  obtain ⟨x, xs, hx⟩ : ∃ x xs, ppm a lo 16 bits ++ tl.take (226 - 2 * bits.length) = x :: xs := by
    cases bits with
    | nil => exact absurd rfl hbits
    | cons b bs => cases b <;> exact ⟨_, _, rfl⟩
  rw [hx]
  simp only
  have hthr : xs.foldl max x = a := by
    apply foldl_max_eq
    · intro y hy
      rw [← hx, List.mem_append] at hy
      rcases hy with hy | hy
      · rcases ppm_mem a lo 16 bits y hy with h | ⟨j, h⟩
        · rw [h]
        · rw [h]; linarith [(hlo j).2]
      · linarith [htl y hy]
    · rw [← hx]; exact List.mem_append_left _ (ppm_has_pulse a lo 16 bits hbits)
  have hs := sliceBits_modulated a (a / 5) lo 16 bits (tl.take (226 - 2 * bits.length)) hlen ha5
    (fun k => (hlo k).2)
    (fun y hy => htl y (List.mem_of_mem_take hy))
  rw [hthr, ← hx, show a * (1 / 5) = a / 5 by ring, hs]


/-! ### quiet samples are walked through one by one -/

/-- a sample below 0.2 is never the start of a frame: either the amplitude gate
    skips it or the preamble test fails on it (or on a window cut short by the buffer end) -/
theorem turn_quiet (minAmp : Rat) (s : List Rat) (out : List Msg) (hq : s.headD 0 < 1 / 5) :
    turn minAmp s out = .val (1, out) := by
  unfold turn
  split
  · rfl
  · split
    · rename_i hp
      have := checkPreamble_head _ hp
      cases s <;> exact absurd this (not_le.mpr hq)
    · rfl

/-- a stretch of quiet samples costs one turn each and changes nothing else -/
theorem scan_quiet (minAmp : Rat) (rest : List Rat) (out : List Msg) :
    ∀ (gap : List Rat) (fuel i : Nat), (∀ x ∈ gap, x < 1 / 5) →
      scan minAmp (fuel + gap.length) i (gap ++ rest) out = scan minAmp fuel (i + gap.length) rest out := by
  intro gap
  induction gap with
  | nil => intro fuel i _; rfl
  | cons x gap ih =>
    intro fuel i h
    rw [List.length_cons, ← Nat.add_assoc, List.cons_append, scan_succ _ _ _ _ _ (List.cons_ne_nil _ _),
      turn_quiet _ (x :: (gap ++ rest)) _ (h x List.mem_cons_self)]
    show scan minAmp (fuel + gap.length) (i + 1) (gap ++ rest) out = _
    rw [ih fuel (i + 1) (fun y hy => h y (List.mem_cons_of_mem _ hy)), Nat.add_right_comm, Nat.add_assoc]


/-- a clean transmission followed by a quiet gap: the frame is sliced in one
    turn, the gap is walked through sample by sample -/
theorem scan_frame_gap (minAmp a : Rat) (lo : Nat → Rat) (bits : Bits)
    (gap rest : List Rat) (fuel i : Nat) (out : List Msg)
    (hgate : minAmp ≤ a) (ha : 1 / 5 ≤ a ∧ a ≤ 9 / 5)
    (hlo : ∀ k, -(4 / 5) ≤ lo k ∧ lo k < a / 5)
    (hbits : bits ≠ []) (hlen : bits.length ≤ 112)
    (hquiet : ∀ x ∈ gap, x < 1 / 5)
    (htl : ∀ x ∈ (gap ++ rest).take (226 - 2 * bits.length), x < a / 5) :
    scan minAmp (fuel + gap.length + 1) i (modulate a lo bits ++ gap ++ rest) out =
      scan minAmp fuel (i + (modulate a lo bits ++ gap).length) rest (frameOut out bits) := by
  rw [List.append_assoc, scan_succ _ _ _ _ _ (by intro h; have := congrArg List.length h; simp at this),
    turn_frame minAmp a lo bits (gap ++ rest) out hgate ha hlo hbits hlen htl]
  show scan minAmp (fuel + gap.length) _ (List.drop _ (modulate a lo bits ++ (gap ++ rest))) _ = _
  rw [List.drop_left' (by simp), scan_quiet minAmp rest _ gap fuel _ hquiet, List.length_append,
    modulate_length, Nat.add_assoc]


/-! ### the noise floor and the amplitude gate -/

theorem foldl_add_le (l : List Rat) (t s : Rat) (h : ∀ x ∈ l, x ≤ t) :
    l.foldl (· + ·) s ≤ s + l.length * t := by
  induction l generalizing s with
  | nil => simp
  | cons z zs ih =>
    simp only [List.foldl_cons, List.length_cons, Nat.cast_add, Nat.cast_one]
    have h1 := ih (s + z) (fun x hx => h x (by simp [hx]))
    have h2 := h z (by simp)
    linarith

theorem foldl_min_le (ms : List Rat) (m : Rat) : ms.foldl min m ≤ m := by
  induction ms generalizing m with
  | nil => simp
  | cons z zs ih => exact le_trans (ih _) (min_le_left _ _)

/-- `_calc_noise` succeeds on a buffer of at least 200 samples, and its result (the quietest
    200-sample window mean) is at most any bound on the first 200 samples -/
theorem calcNoise_le (L : List Rat) (hlen : 200 ≤ L.length) :
    ∃ c, calcNoise L.toArray = .val c ∧ ∀ t, (∀ x ∈ L.take 200, x ≤ t) → c ≤ t := by
  unfold calcNoise
  simp only [rtlSamplesPerMicrosec_eq, List.size_toArray]
  obtain ⟨n, hn⟩ : ∃ n, L.length / (2 * 100) = n + 1 := ⟨L.length / 200 - 1, by omega⟩
  rw [hn, List.range_succ_eq_map]
  simp only [List.map_cons]
  refine ⟨_, rfl, fun t h => le_trans (foldl_min_le _ _) ?_⟩
  simp only [Nat.zero_mul, Nat.zero_add, List.extract_toArray, List.foldl_toArray,
    List.extract_eq_take_drop, List.drop_zero, Nat.sub_zero]
  have h1 := foldl_add_le (L.take (2 * 100)) t 0 h
  have h2 : (L.take (2 * 100)).length = 200 := by simp; omega
  rw [h2] at h1
  rw [div_le_iff₀ (by norm_num)]
  push_cast at h1 ⊢
  linarith


/-- at least 200 quiet samples in front of any signal `sig`: the noise
    floor `c` is at most any bound on the first 200 of them, and the loop walks through them to
    the first sample of `sig` -/
theorem processBuffer_leadin (nf0 : Rat) (pre sig : List Rat) (hprelen : 200 ≤ pre.length)
    (hpre : ∀ x ∈ pre, x < 1 / 5) :
    ∃ c, calcNoise (pre ++ sig).toArray = .val c ∧ (∀ t, (∀ x ∈ pre.take 200, x ≤ t) → c ≤ t) ∧
      processBuffer nf0 (pre ++ sig).toArray =
        (scan ((3162 : Rat) / 1000 * min c nf0) (sig.length + 1) pre.length sig [] >>= fun r =>
          .val (r.1, min c nf0, pre.length + sig.length - r.2)) := by
  obtain ⟨c, hc, hle⟩ := calcNoise_le (pre ++ sig) (by rw [List.length_append]; omega)
  rw [List.take_append_of_le_length hprelen] at hle
  refine ⟨c, hc, hle, ?_⟩
  rw [calcNoise_list] at hc
  rw [processBuffer_list, hc]
  simp only [Res.bind_val, List.size_toArray, List.length_append]
  rw [show pre.length + sig.length + 1 = sig.length + 1 + pre.length by omega,
    scan_quiet _ _ _ pre _ 0 hpre, Nat.zero_add]
  rfl


/-! ### a whole sequence of transmissions, each with its own amplitude -/

/-- one transmission: (pulse amplitude, low samples, bits, the gap behind it) -/
abbrev TxB := Rat × (Nat → Rat) × Bits × List Rat

/-- the samples of a sequence of transmissions -/
def signalB (tx : List TxB) : List Rat :=
  tx.flatMap fun t => modulate t.1 t.2.1 t.2.2.1 ++ t.2.2.2

/-- what is asked of one transmission `(a, lo, bits, gap)`: amplitude in `[0.2, 1.8]`
    (`_check_preamble` tolerates `|a - 1| ≤ 0.8`); low samples in `[-0.8, a/5)`; at most 112 bits,
    which `bin2hex` turns into a frame that `_check_msg` accepts; every gap sample below 0.2; the
    first `226 - 2·len` gap samples (what is left of the slicer's 226-sample window behind the data:
    2 samples behind a long frame, 114 behind a short one) below the slicer's threshold `a/5` -/
def CleanTx (t : TxB) : Prop :=
  (1 / 5 ≤ t.1 ∧ t.1 ≤ 9 / 5) ∧ (∀ j, -(4 / 5) ≤ t.2.1 j ∧ t.2.1 j < t.1 / 5) ∧
  t.2.2.1.length ≤ 112 ∧ checkMsg (bin2hexNoPad t.2.2.1) = true ∧
  (∀ x ∈ t.2.2.2, x < 1 / 5) ∧ ∀ x ∈ t.2.2.2.take (226 - 2 * t.2.2.1.length), x < t.1 / 5

/-- every gap except the last covers what is left of the slicer's window -/
def Spaced : List TxB → Prop
  | [] => True
  | t :: fs => (fs = [] ∨ 226 - 2 * t.2.2.1.length ≤ t.2.2.2.length) ∧ Spaced fs

theorem spaced_of_forall : ∀ (tx : List TxB),
    (∀ t ∈ tx, 226 - 2 * t.2.2.1.length ≤ t.2.2.2.length) → Spaced tx
  | [], _ => trivial
  | t :: fs, h => ⟨Or.inr (h t List.mem_cons_self),
      spaced_of_forall fs fun u hu => h u (List.mem_cons_of_mem _ hu)⟩

theorem signalB_cons (t : TxB) (fs : List TxB) :
    signalB (t :: fs) = modulate t.1 t.2.1 t.2.2.1 ++ t.2.2.2 ++ signalB fs :=
  List.flatMap_cons

/-- no bit string that `bin2hex` turns into an accepted frame is empty -/
theorem ne_nil_of_checkMsg (bits : Bits) (hok : checkMsg (bin2hexNoPad bits) = true) : bits ≠ [] := by
  intro h; subst h; revert hok; decide

/-- sliced bits that make an accepted frame are emitted -/
theorem frameOut_ok (out : List Msg) (bits : Bits) (hok : checkMsg (bin2hexNoPad bits) = true) :
    frameOut out bits = out ++ [bin2hexNoPad bits] := by
  have hne := ne_nil_of_checkMsg bits hok
  unfold frameOut
  simp [hne, hok]

/-- from the first sample of a sequence of clean transmissions (each above the amplitude gate) to
    the end of the buffer: every transmission is sliced to exactly its bits, in order, and the loop
    ends exactly at the end of the buffer -/
theorem scan_clean (minAmp : Rat) :
    ∀ (tx : List TxB) (fuel i : Nat) (out : List Msg),
      (signalB tx).length < fuel → (∀ t ∈ tx, CleanTx t) → Spaced tx → (∀ t ∈ tx, minAmp ≤ t.1) →
      scan minAmp fuel i (signalB tx) out =
        .val (out ++ tx.map (bin2hexNoPad ·.2.2.1), i + (signalB tx).length) := by
  intro tx
  induction tx with
  | nil =>
    intro fuel i out _ _ _ _
    rw [List.map_nil, List.append_nil]
    exact scan_nil _ _ _ _
  | cons t fs ih =>
    intro fuel i out hfuel hclean hsp hgate
    obtain ⟨a, lo, bits, gap⟩ := t
    obtain ⟨ha, hlo, hlen, hmsg, hquiet, hgap5⟩ := hclean _ List.mem_cons_self
    obtain ⟨hlong, hfs⟩ := hsp
    simp only at ha hlo hlen hmsg hquiet hgap5 hlong
    rw [signalB_cons] at hfuel ⊢
    simp only [List.length_append] at hfuel ⊢
    obtain ⟨fuel', rfl⟩ : ∃ fuel', fuel = fuel' + gap.length + 1 :=
      ⟨fuel - gap.length - 1, by rw [modulate_length] at hfuel; omega⟩
    have htl : ∀ x ∈ (gap ++ signalB fs).take (226 - 2 * bits.length), x < a / 5 := by
      intro x hx
      rcases hlong with h | h
      · subst h
        rw [show signalB [] = [] from rfl, List.append_nil] at hx
        exact hgap5 x hx
      · rw [List.take_append_of_le_length h] at hx
        exact hgap5 x hx
    rw [scan_frame_gap minAmp a lo bits gap (signalB fs) fuel' i out
      (hgate _ List.mem_cons_self) ha hlo (ne_nil_of_checkMsg bits hmsg) hlen hquiet htl,
      ih fuel' _ _ (by rw [modulate_length] at hfuel; omega)
        (fun t ht => hclean t (List.mem_cons_of_mem _ ht)) hfs
        (fun t ht => hgate t (List.mem_cons_of_mem _ ht)),
      frameOut_ok out bits hmsg, List.length_append, Nat.add_assoc, List.map_cons, List.append_assoc]
    rfl

/-- A buffer that starts with at least 200 quiet samples (the first 200 also `≤ a_k/5` for every
    transmission, which puts the amplitude gate `3.162·min(c, nf0)` below every frame's pulses,
    whatever the previous noise floor `nf0`, even a non-positive one) and continues with a sequence
    of clean transmissions: `_process_buffer` returns exactly `bin2hex` of the transmitted bit
    strings, in order; the new noise floor is `min(c, nf0)`; nothing remains. -/
theorem processBuffer_clean (nf0 : Rat) (pre : List Rat) (tx : List TxB)
    (hprelen : 200 ≤ pre.length) (hpre : ∀ x ∈ pre, x < 1 / 5)
    (hpre5 : ∀ t ∈ tx, ∀ x ∈ pre.take 200, x ≤ t.1 / 5)
    (hclean : ∀ t ∈ tx, CleanTx t) (hsp : Spaced tx) :
    ∃ c, calcNoise (pre ++ signalB tx).toArray = .val c ∧
      processBuffer nf0 (pre ++ signalB tx).toArray =
        .val (tx.map (bin2hexNoPad ·.2.2.1), min c nf0, 0) := by
  obtain ⟨c, hc, hle, hp⟩ := processBuffer_leadin nf0 pre (signalB tx) hprelen hpre
  refine ⟨c, hc, ?_⟩
  have hgate : ∀ t ∈ tx, (3162 : Rat) / 1000 * min c nf0 ≤ t.1 := by
    intro t ht
    have : min c nf0 ≤ t.1 / 5 := le_trans (min_le_left _ _) (hle _ (hpre5 t ht))
    linarith [(hclean t ht).1.1]
  rw [hp, scan_clean _ tx _ _ _ (Nat.lt_succ_self _) hclean hsp hgate]
  simp

/-- One transmission, quiet samples behind it.  Compared with the property text of C19: the frame
    length need not be 56 or 112; amplitude `0.2 ≤ a ≤ 1.8` and lows `≥ -0.8` suffice; of the noise
    only the first 200 samples before and the first `226 - 2·len` behind the frame need to be below
    `a/5` (`processBuffer_clean` asks exactly that). -/
theorem clean_bits_recovered (nf0 a : Rat) (lo : Nat → Rat) (pre post : List Rat) (bits : Bits)
    (hlen : bits.length ≤ 112)
    (hok : checkMsg (bin2hexNoPad bits) = true)
    (ha : 1 / 5 ≤ a ∧ a ≤ 9 / 5)
    (hlo : ∀ k, -(4 / 5) ≤ lo k ∧ lo k < a / 5)
    (hpre : ∀ x ∈ pre, x < a / 5 ∧ x < 1 / 5) (hpost : ∀ x ∈ post, x < a / 5 ∧ x < 1 / 5)
    (hprelen : 200 ≤ pre.length) :
    ∃ c, calcNoise (pre ++ modulate a lo bits ++ post).toArray = .val c ∧
      processBuffer nf0 (pre ++ modulate a lo bits ++ post).toArray =
        .val ([bin2hexNoPad bits], min c nf0, 0) := by
  have h := processBuffer_clean nf0 pre [(a, lo, bits, post)] hprelen (fun x hx => (hpre x hx).2)
    (fun t ht x hx => by
      rw [List.mem_singleton.mp ht]
      exact le_of_lt (hpre x (List.mem_of_mem_take hx)).1)
    (fun t ht => by
      rw [List.mem_singleton.mp ht]
      exact ⟨ha, hlo, hlen, hok, fun x hx => (hpost x hx).2,
        fun x hx => (hpost x (List.mem_of_mem_take hx)).1⟩)
    ⟨Or.inl rfl, trivial⟩
  simpa [signalB, List.append_assoc] using h

/-! ### bits → hex → bits: `bin2hex` gives back an accepted upper-case frame -/

theorem upper_facts : ∀ c ∈ "0123456789ABCDEF".toList, (hexVal? c).isSome = true ∧ c.toUpper = c := by
  decide

theorem upper_isHex (m : Msg) (hup : ∀ c ∈ m, c ∈ "0123456789ABCDEF".toList) : CRC.IsHex m :=
  fun c hc => (upper_facts c (hup c hc)).1

theorem upper_map (m : Msg) (hup : ∀ c ∈ m, c ∈ "0123456789ABCDEF".toList) : m.map Char.toUpper = m := by
  induction m with
  | nil => rfl
  | cons c cs ih =>
    simp only [List.map_cons]
    rw [(upper_facts c (hup c (by simp))).2, ih (fun x hx => hup x (by simp [hx]))]

/-- `bin2hex(hex2bin(m)) = m` for a non-empty upper-case hex string without a leading zero digit
    (`"{0:X}".format` does not pad) -/
theorem bin2hexNoPad_hex2binM (m : Msg) (hup : ∀ c ∈ m, c ∈ "0123456789ABCDEF".toList)
    (hne : m ≠ []) (h0 : m.head? ≠ some '0') : bin2hexNoPad (hex2binM m) = m := by
  unfold bin2hexNoPad
  rw [← CRC.hexToNatM_eq_bin2int]
  obtain ⟨k, hk⟩ : ∃ k, m.length = k + 1 := ⟨m.length - 1, by
    have : m.length ≠ 0 := fun h => hne (List.length_eq_zero_iff.mp h)
    omega⟩
  have hpad := CRC.pad_toDigits_eq_hexN k (hexToNatM m) (by rw [← hk]; exact CRC.hexToNatM_lt m)
  rw [← hk, ← CRC.map_toUpper_eq_hexN m (upper_isHex m hup), upper_map m hup] at hpad
  generalize List.map Char.toUpper (Nat.toDigits 16 (hexToNatM m)) = D at hpad ⊢
  cases hr : m.length - D.length with
  | zero => rw [hr] at hpad; simpa using hpad
  | succ r =>
    rw [hr, List.replicate_succ] at hpad
    rw [← hpad] at h0
    simp at h0

/-- a frame whose first hex digit is 0 has DF 0 or 1 -/
theorem df_zero_head (rest : Msg) : df ('0' :: rest) ≤ 1 := by
  unfold df
  have h : hex2binM (('0' :: rest).take 2) = [false, false, false, false] ++ hex2binM (rest.take 1) := by
    simp only [List.take_succ_cons, hex2binM, List.flatMap_cons]
    rfl
  rw [h]
  generalize hex2binM (rest.take 1) = X
  rcases X with _ | ⟨b, X⟩
  · decide
  · cases b <;> simp [slice, bin2int]

/-- what `_check_msg` accepts: DF 4/5/11 with 14 digits, DF 17/20/21 with 28 digits -/
theorem checkMsg_facts (m : Msg) (hok : checkMsg m = true) :
    4 ≤ df m ∧ (m.length = 14 ∨ m.length = 28) := by
  unfold checkMsg at hok
  simp only at hok
  split at hok
  · rename_i h; omega
  · split at hok
    · rename_i h; omega
    · split at hok
      · rename_i h; omega
      · cases hok

/-- an accepted upper-case frame survives `hex2bin` followed by `bin2hex` -/
theorem bin2hexNoPad_hex2binM_of_checkMsg (m : Msg) (hup : ∀ c ∈ m, c ∈ "0123456789ABCDEF".toList)
    (hok : checkMsg m = true) : bin2hexNoPad (hex2binM m) = m := by
  obtain ⟨hdf, hl⟩ := checkMsg_facts m hok
  apply bin2hexNoPad_hex2binM m hup
  · intro h; subst h; simp at hl
  · intro h
    cases m with
    | nil => simp at h
    | cons c cs =>
      simp only [List.head?_cons, Option.some.injEq] at h
      subst h
      have := df_zero_head cs
      omega

/-! ### two real frames for the non-vacuity checks -/

/-- a real DF17 frame -/
def exMsg : Msg := "8D406B902015A678D4D220AA4BDA".toList

theorem exMsg_ok : (∀ c ∈ exMsg, c ∈ "0123456789ABCDEF".toList) ∧ checkMsg exMsg = true :=
  ⟨by decide +kernel, by decide +kernel⟩

/-- ... and a real DF11 frame -/
theorem exShort_ok : (∀ c ∈ "5D484FDEA248F5".toList, c ∈ "0123456789ABCDEF".toList) ∧
    checkMsg "5D484FDEA248F5".toList = true :=
  ⟨by decide +kernel, by decide +kernel⟩

theorem replicate_lt {n : Nat} {x t : Rat} (h : x < t) : ∀ y ∈ List.replicate n x, y < t :=
  fun _ hy => List.eq_of_mem_replicate hy ▸ h

/-- Message level: for an upper-case hex frame `m` that
    `_check_msg` accepts (DF 4/5/11 with 14 digits, DF 20/21 with 28 digits, DF 17 with 28 digits
    and zero CRC remainder), modulated cleanly behind at least 200 quiet samples and followed by
    quiet samples, `_process_buffer` returns exactly `[m]` — upper-case, of the right length —
    for every previous noise floor `nf0`; the new noise floor is `min(c, nf0)` and nothing of the
    buffer remains.  (Same hypotheses as `clean_bits_recovered`.) -/
theorem clean_signal_recovered (nf0 a : Rat) (lo : Nat → Rat) (pre post : List Rat) (m : Msg)
    (hup : ∀ c ∈ m, c ∈ "0123456789ABCDEF".toList) (hok : checkMsg m = true)
    (ha : 1 / 5 ≤ a ∧ a ≤ 9 / 5)
    (hlo : ∀ k, -(4 / 5) ≤ lo k ∧ lo k < a / 5)
    (hpre : ∀ x ∈ pre, x < a / 5 ∧ x < 1 / 5) (hpost : ∀ x ∈ post, x < a / 5 ∧ x < 1 / 5)
    (hprelen : 200 ≤ pre.length) :
    ∃ c, calcNoise (pre ++ modulate a lo (hex2binM m) ++ post).toArray = .val c ∧
      processBuffer nf0 (pre ++ modulate a lo (hex2binM m) ++ post).toArray =
        .val ([m], min c nf0, 0) := by
  have hrt := bin2hexNoPad_hex2binM_of_checkMsg m hup hok
  have hl := (checkMsg_facts m hok).2
  have h := clean_bits_recovered nf0 a lo pre post (hex2binM m)
    (by rw [hex2binM_length]; omega) (by rw [hrt]; exact hok) ha hlo hpre hpost hprelen
  rw [hrt] at h
  exact h

/-- the amplitudes (0.3 to 1.4) and low samples (non-negative) the text of C19 speaks of are among
    those the theorems cover -/
theorem c19_range {a : Rat} {lo : Nat → Rat} (ha : 3 / 10 ≤ a ∧ a ≤ 14 / 10)
    (hlo : ∀ k, 0 ≤ lo k ∧ lo k < a / 5) :
    (1 / 5 ≤ a ∧ a ≤ 9 / 5) ∧ ∀ k, -(4 / 5) ≤ lo k ∧ lo k < a / 5 :=
  ⟨⟨le_trans (by norm_num) ha.1, le_trans ha.2 (by norm_num)⟩,
    fun k => ⟨le_trans (by norm_num) (hlo k).1, (hlo k).2⟩⟩

/-- the hypotheses are met (hence those of `clean_bits_recovered` and `processBuffer_clean`): a
    real DF17 frame at amplitude 0.5 over a 0.05 floor -/
example : ∃ c,
    calcNoise (List.replicate 200 (1 / 20) ++
      modulate (1 / 2) (fun _ => 1 / 20) (hex2binM "8D406B902015A678D4D220AA4BDA".toList) ++
      List.replicate 10 (1 / 20)).toArray = .val c ∧
    processBuffer 1000000 (List.replicate 200 (1 / 20) ++
      modulate (1 / 2) (fun _ => 1 / 20) (hex2binM "8D406B902015A678D4D220AA4BDA".toList) ++
      List.replicate 10 (1 / 20)).toArray =
      .val (["8D406B902015A678D4D220AA4BDA".toList], min c 1000000, 0) :=
  clean_signal_recovered 1000000 (1 / 2) (fun _ => 1 / 20) (List.replicate 200 (1 / 20))
    (List.replicate 10 (1 / 20)) exMsg exMsg_ok.1 exMsg_ok.2 (by norm_num) (fun _ => by norm_num)
    (fun x hx => ⟨replicate_lt (by norm_num) x hx, replicate_lt (by norm_num) x hx⟩)
    (fun x hx => ⟨replicate_lt (by norm_num) x hx, replicate_lt (by norm_num) x hx⟩)
    (by rw [List.length_replicate])

end PyModeS.Demod
