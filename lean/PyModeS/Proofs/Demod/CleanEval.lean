/-
  C19: an independent check of `clean_signal_recovered` by direct kernel evaluation of the model
  `processBuffer` on one concrete buffer (no use of the theorem): 200 samples at 0.05, the DF17
  frame 8D406B902015A678D4D220AA4BDA modulated at amplitude 0.5 over lows at 0.05, 10 samples at
  0.05; previous noise floor 1e6 (the reader's initial value).

  The kernel evaluates the list form (`processBuffer_list`), not the `Array.extract`s of the model.
-/
import PyModeS.Proofs.Demod.Clean
namespace PyModeS.Demod
open PyModeS

/-- 200 samples at 0.05, the frame at amplitude 0.5 with lows at 0.05, 10 samples at 0.05 -/
def exBuf : List Rat :=
  List.replicate 200 (1 / 20) ++ modulate (1 / 2) (fun _ => 1 / 20) (hex2binM exMsg) ++
    List.replicate 10 (1 / 20)

/-- direct evaluation: the frame comes back, the noise floor drops to 0.05, nothing remains -/
theorem exBuf_eval : processBuffer 1000000 exBuf.toArray = .val ([exMsg], 1 / 20, 0) := by
  rw [processBuffer_list]
  decide +kernel

/-- the same result from the theorem (with `c = 1/20` read off the evaluation) -/
example : ∃ c, calcNoise exBuf.toArray = .val c ∧
    processBuffer 1000000 exBuf.toArray = .val ([exMsg], min c 1000000, 0) :=
  clean_signal_recovered 1000000 (1 / 2) (fun _ => 1 / 20) (List.replicate 200 (1 / 20))
    (List.replicate 10 (1 / 20)) exMsg exMsg_ok.1 exMsg_ok.2 (by norm_num)
    (fun _ => by norm_num)
    (fun x hx => ⟨replicate_lt (by norm_num) x hx, replicate_lt (by norm_num) x hx⟩)
    (fun x hx => ⟨replicate_lt (by norm_num) x hx, replicate_lt (by norm_num) x hx⟩)
    (by rw [List.length_replicate])

end PyModeS.Demod
