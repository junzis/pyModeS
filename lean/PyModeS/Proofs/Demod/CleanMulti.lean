/-
  C19, positive half, sequences at message level: valid frames from DIFFERENT transmitters — every
  transmission has its own pulse amplitude `a_k` and its own low samples `lo_k` — separated by
  gaps of noise, behind at least 200 quiet samples, are recovered exactly and in order by
  `processBuffer` (model of `RtlReader._process_buffer`), under the hypotheses as the property
  words them.  An instance of `processBuffer_clean` (`Clean.lean`): a frame that `_check_msg`
  accepts has 56 or 112 bits, so a gap of 114 samples covers the slicer's window, and `bin2hex`
  gives the frame back.  One shared amplitude is the special case `clean_frames_recovered_c19`.
-/
import PyModeS.Proofs.Demod.Clean
namespace PyModeS.Demod
open PyModeS

/-- one transmission: (pulse amplitude, low samples, frame, the gap behind it) -/
abbrev Tx := Rat × (Nat → Rat) × Msg × List Rat

/-- the samples of a sequence of transmissions -/
def signalG (tx : List Tx) : List Rat :=
  tx.flatMap fun t => modulate t.1 t.2.1 (hex2binM t.2.2.1) ++ t.2.2.2

/-- the transmission as a bit string -/
def txBits (t : Tx) : TxB := (t.1, t.2.1, hex2binM t.2.2.1, t.2.2.2)

/-- one transmission as the property words it: pulse amplitude between 0.3 and 1.4, low samples in
    `[0, a/5)`, an upper-case hex frame accepted by `_check_msg`, at least 114 noise samples behind
    it (one frame length, 224, is more than enough), all below `a/5` and below 0.2 -/
def TxC19 (t : Tx) : Prop :=
  (3 / 10 ≤ t.1 ∧ t.1 ≤ 14 / 10) ∧ (∀ j, 0 ≤ t.2.1 j ∧ t.2.1 j < t.1 / 5) ∧
  (∀ c ∈ t.2.2.1, c ∈ "0123456789ABCDEF".toList) ∧ checkMsg t.2.2.1 = true ∧
  114 ≤ t.2.2.2.length ∧ ∀ x ∈ t.2.2.2, x < t.1 / 5 ∧ x < 1 / 5

theorem txC19_clean (t : Tx) (h : TxC19 t) :
    CleanTx (txBits t) ∧ 226 - 2 * (hex2binM t.2.2.1).length ≤ t.2.2.2.length ∧
      bin2hexNoPad (hex2binM t.2.2.1) = t.2.2.1 := by
  obtain ⟨a, lo, m, gap⟩ := t
  obtain ⟨ha, hlo, hup, hmsg, hlong, hgap⟩ := h
  simp only [txBits, CleanTx] at ha hlo hup hmsg hlong hgap ⊢
  have hl := (checkMsg_facts m hmsg).2
  have hlen : (hex2binM m).length = 4 * m.length := hex2binM_length m
  have hrt := bin2hexNoPad_hex2binM_of_checkMsg m hup hmsg
  exact ⟨⟨(c19_range ha hlo).1, (c19_range ha hlo).2, by omega, by rw [hrt]; exact hmsg,
    fun x hx => (hgap x hx).2, fun x hx => (hgap x (List.mem_of_mem_take hx)).1⟩, by omega, hrt⟩

/-- the statement of C19 for frames from different transmitters; the lead-in has at least 200
    samples, all below 0.2 and below every `a_k/5` -/
theorem clean_frames_recovered_multi_c19 (nf0 : Rat) (pre : List Rat) (tx : List Tx)
    (hprelen : 200 ≤ pre.length)
    (hpre : ∀ x ∈ pre, x < 1 / 5 ∧ ∀ t ∈ tx, x < t.1 / 5)
    (htx : ∀ t ∈ tx, TxC19 t) :
    ∃ c, calcNoise (pre ++ signalG tx).toArray = .val c ∧
      processBuffer nf0 (pre ++ signalG tx).toArray = .val (tx.map (·.2.2.1), min c nf0, 0) := by
  have h := processBuffer_clean nf0 pre (tx.map txBits) hprelen (fun x hx => (hpre x hx).1)
    (List.forall_mem_map.mpr fun t ht x hx => le_of_lt ((hpre x (List.mem_of_mem_take hx)).2 t ht))
    (List.forall_mem_map.mpr fun t ht => (txC19_clean t (htx t ht)).1)
    (spaced_of_forall _ (List.forall_mem_map.mpr fun t ht => (txC19_clean t (htx t ht)).2.1))
  have e : (tx.map txBits).map (bin2hexNoPad ·.2.2.1) = tx.map (·.2.2.1) := by
    rw [List.map_map]
    exact List.map_congr_left fun t ht => (txC19_clean t (htx t ht)).2.2
  rw [signalB, List.flatMap_map, e] at h
  exact h

/-- two transmissions of different strength for the non-vacuity check: a long DF17 frame at
    amplitude 0.5 and a short DF11 frame at amplitude 1, lows at 0.05, 226 samples at 0.05 behind
    each -/
def exTx : List Tx :=
  [(1 / 2, fun _ => 1 / 20, "8D406B902015A678D4D220AA4BDA".toList, List.replicate 226 (1 / 20)),
   (1, fun _ => 1 / 20, "5D484FDEA248F5".toList, List.replicate 226 (1 / 20))]

/-- the hypotheses of `clean_frames_recovered_multi_c19` are met -/
example : ∃ c, calcNoise (List.replicate 200 (1 / 20) ++ signalG exTx).toArray = .val c ∧
    processBuffer 1000000 (List.replicate 200 (1 / 20) ++ signalG exTx).toArray =
      .val (["8D406B902015A678D4D220AA4BDA".toList, "5D484FDEA248F5".toList], min c 1000000, 0) :=
  clean_frames_recovered_multi_c19 1000000 (List.replicate 200 (1 / 20)) exTx
    (by rw [List.length_replicate])
    (by
      intro x hx
      rw [List.eq_of_mem_replicate hx]
      refine ⟨by norm_num, fun t ht => ?_⟩
      simp only [exTx, List.mem_cons, List.not_mem_nil, or_false] at ht
      rcases ht with rfl | rfl <;> norm_num)
    (by
      intro t ht
      simp only [exTx, List.mem_cons, List.not_mem_nil, or_false] at ht
      rcases ht with rfl | rfl
      · exact ⟨by norm_num, fun _ => by norm_num, exMsg_ok.1, exMsg_ok.2, by rw [List.length_replicate]; omega,
          fun x hx => ⟨replicate_lt (by norm_num) x hx, replicate_lt (by norm_num) x hx⟩⟩
      · exact ⟨by norm_num, fun _ => by norm_num, exShort_ok.1, exShort_ok.2, by rw [List.length_replicate]; omega,
          fun x hx => ⟨replicate_lt (by norm_num) x hx, replicate_lt (by norm_num) x hx⟩⟩)

/-- one shared amplitude and low-sample pattern: frames `(m, gap)` -/
theorem clean_frames_recovered_c19 (nf0 a : Rat) (lo : Nat → Rat) (pre : List Rat)
    (frames : List (Msg × List Rat))
    (ha : 3 / 10 ≤ a ∧ a ≤ 14 / 10)
    (hlo : ∀ k, 0 ≤ lo k ∧ lo k < a / 5)
    (hpre : ∀ x ∈ pre, x < a / 5 ∧ x < 1 / 5) (hprelen : 200 ≤ pre.length)
    (hframes : ∀ f ∈ frames, (∀ c ∈ f.1, c ∈ "0123456789ABCDEF".toList) ∧ checkMsg f.1 = true ∧
      114 ≤ f.2.length ∧ ∀ x ∈ f.2, x < a / 5 ∧ x < 1 / 5) :
    ∃ c, calcNoise (pre ++ (frames.flatMap fun f => modulate a lo (hex2binM f.1) ++ f.2)).toArray = .val c ∧
      processBuffer nf0 (pre ++ (frames.flatMap fun f => modulate a lo (hex2binM f.1) ++ f.2)).toArray =
        .val (frames.map (·.1), min c nf0, 0) := by
  have h := clean_frames_recovered_multi_c19 nf0 pre (frames.map fun f => (a, lo, f.1, f.2)) hprelen
    (fun x hx => ⟨(hpre x hx).2, List.forall_mem_map.mpr fun _ _ => (hpre x hx).1⟩)
    (List.forall_mem_map.mpr fun f hf => ⟨ha, hlo, hframes f hf⟩)
  rw [signalG, List.flatMap_map, List.map_map] at h
  exact h

/-- two transmissions for the non-vacuity check: a long DF17 frame and a short DF11 frame, 226
    samples at 0.05 behind each -/
def exFrames : List (Msg × List Rat) :=
  [("8D406B902015A678D4D220AA4BDA".toList, List.replicate 226 (1 / 20)),
   ("5D484FDEA248F5".toList, List.replicate 226 (1 / 20))]

/-- the buffer of the non-vacuity check: 200 samples at 0.05, then the two transmissions at
    amplitude 0.5 over lows at 0.05 -/
def exBuf2 : List Rat :=
  List.replicate 200 (1 / 20) ++
    exFrames.flatMap fun f => modulate (1 / 2) (fun _ => 1 / 20) (hex2binM f.1) ++ f.2

/-- the hypotheses of `clean_frames_recovered_c19` are met -/
example : ∃ c, calcNoise exBuf2.toArray = .val c ∧
    processBuffer 0 exBuf2.toArray =
      .val (["8D406B902015A678D4D220AA4BDA".toList, "5D484FDEA248F5".toList], min c 0, 0) :=
  clean_frames_recovered_c19 0 (1 / 2) (fun _ => 1 / 20) (List.replicate 200 (1 / 20)) exFrames
    (by norm_num) (fun _ => by norm_num)
    (fun x hx => ⟨replicate_lt (by norm_num) x hx, replicate_lt (by norm_num) x hx⟩)
    (by rw [List.length_replicate])
    (by
      have hgap : ∀ x ∈ List.replicate 226 (1 / 20 : Rat), x < 1 / 2 / 5 ∧ x < 1 / 5 :=
        fun x hx => ⟨replicate_lt (by norm_num) x hx, replicate_lt (by norm_num) x hx⟩
      intro f hf
      simp only [exFrames, List.mem_cons, List.not_mem_nil, or_false] at hf
      rcases hf with rfl | rfl
      · exact ⟨exMsg_ok.1, exMsg_ok.2, by rw [List.length_replicate]; omega, hgap⟩
      · exact ⟨exShort_ok.1, exShort_ok.2, by rw [List.length_replicate]; omega, hgap⟩)

end PyModeS.Demod
