/-
  The `ℝ` instance of the aero model (PyModeS/Model/Aero.lean) and its unfolding lemmas.
  `atan2 y x := Complex.arg ⟨x, y⟩` (the argument of the complex number `x + i y`, in `(-π, π]`,
  which is the value C `atan2(y, x)` returns, including `atan2 0 0 = 0`).
-/
import PyModeS.Model.Aero
import Mathlib.Analysis.SpecialFunctions.Pow.Real
import Mathlib.Analysis.SpecialFunctions.Sqrt
import Mathlib.Analysis.SpecialFunctions.Exp
import Mathlib.Analysis.SpecialFunctions.Trigonometric.Basic
import Mathlib.Analysis.SpecialFunctions.Trigonometric.Inverse
import Mathlib.Analysis.SpecialFunctions.Complex.Arg
import Mathlib.Algebra.Order.Floor.Ring
import Mathlib.Tactic.Linarith
import Mathlib.Tactic.Positivity
import Mathlib.Tactic.NormNum
import Mathlib.Tactic.FieldSimp
import Mathlib.Tactic.Ring

namespace PyModeS.Aero

noncomputable instance instAeroOpsReal : AeroOps ℝ where
  sqrt := Real.sqrt
  exp := Real.exp
  pow := fun x y => x ^ y
  sin := Real.sin
  cos := Real.cos
  acos := Real.arccos
  atan2 := fun y x => Complex.arg ⟨x, y⟩
  pi := Real.pi
  mod360 := fun x => x - 360 * ⌊x / 360⌋

namespace RealModel

/-- ISA temperature -/
noncomputable def T (H : ℝ) : ℝ := max (288.15 - 0.0065 * H) 216.65
/-- ISA density -/
noncomputable def rho (H : ℝ) : ℝ :=
  1.225 * (T H / 288.15) ^ (4.256848030018761 : ℝ) * Real.exp (-(max 0 (H - 11000)) / 6341.552161)
/-- ISA pressure -/
noncomputable def p (H : ℝ) : ℝ := rho H * 287.05287 * T H

end RealModel
open RealModel

/-! the model writes whole numbers as Python float literals -/
theorem lit_0 : (0.0 : ℝ) = 0 := by norm_num
theorem lit_1 : (1.0 : ℝ) = 1 := by norm_num
theorem lit_2 : (2.0 : ℝ) = 2 := by norm_num
theorem lit_7 : (7.0 : ℝ) = 7 := by norm_num
theorem lit_180 : (180.0 : ℝ) = 180 := by norm_num
theorem lit_360 : (360.0 : ℝ) = 360 := by norm_num
theorem lit_11000 : (11000.0 : ℝ) = 11000 := by norm_num
theorem lit_p0 : (101325.0 : ℝ) = 101325 := by norm_num

theorem temperature_eq (H : ℝ) : temperature H = T H := rfl
theorem density_eq (H : ℝ) : density H = rho H := by
  show 1.225 * (T H / 288.15) ^ (4.256848030018761 : ℝ) * Real.exp (-(max 0.0 (H - 11000.0)) / 6341.552161) = _
  rw [lit_0, lit_11000]; rfl
theorem pressure_eq (H : ℝ) : pressure H = p H := by
  show density H * 287.05287 * T H = _
  rw [density_eq]; rfl
theorem vsound_eq (H : ℝ) : vsound H = Real.sqrt (1.40 * 287.05287 * T H) := rfl
theorem p0_eq : (p0 : ℝ) = 101325 := lit_p0
theorem rho0_eq : (rho0 : ℝ) = 1.225 := rfl

theorem tas2mach_eq (v H : ℝ) : tas2mach v H = v / vsound H := rfl
theorem mach2tas_eq (m H : ℝ) : mach2tas m H = m * vsound H := rfl
theorem eas2tas_eq (v H : ℝ) : eas2tas v H = v * Real.sqrt (1.225 / rho H) := by
  show v * Real.sqrt (1.225 / density H) = _
  rw [density_eq]
theorem tas2eas_eq (v H : ℝ) : tas2eas v H = v * Real.sqrt (rho H / 1.225) := by
  show v * Real.sqrt (density H / 1.225) = _
  rw [density_eq]

theorem cas2tas_eq (v H : ℝ) : cas2tas v H =
    Real.sqrt (7 * p H / rho H *
      ((1 + 101325 * ((1 + 1.225 * v * v / (7 * 101325)) ^ (3.5 : ℝ) - 1) / p H) ^ ((2 : ℝ) / 7) - 1)) := by
  show Real.sqrt (7.0 * pressure H / density H *
      ((1.0 + 101325.0 * ((1.0 + 1.225 * v * v / (7.0 * 101325.0)) ^ (3.5 : ℝ) - 1.0) / pressure H) ^ ((2.0 : ℝ) / 7.0) - 1.0)) = _
  rw [pressure_eq, density_eq, lit_1, lit_2, lit_7, lit_p0]

theorem tas2cas_eq (v H : ℝ) : tas2cas v H =
    Real.sqrt (7 * 101325 / 1.225 *
      ((p H * ((1 + rho H * v * v / (7 * p H)) ^ (3.5 : ℝ) - 1) / 101325 + 1) ^ ((2 : ℝ) / 7) - 1)) := by
  show Real.sqrt (7.0 * 101325.0 / 1.225 *
      ((pressure H * ((1.0 + density H * v * v / (7.0 * pressure H)) ^ (3.5 : ℝ) - 1.0) / 101325.0 + 1.0) ^ ((2.0 : ℝ) / 7.0) - 1.0)) = _
  rw [pressure_eq, density_eq, lit_1, lit_2, lit_7, lit_p0]

theorem mach2cas_eq (m H : ℝ) : mach2cas m H = tas2cas (mach2tas m H) H := rfl
theorem cas2mach_eq (v H : ℝ) : cas2mach v H = tas2mach (cas2tas v H) H := rfl

theorem radians_eq (x : ℝ) : radians x = x * (Real.pi / 180) := by
  show x * (Real.pi / 180.0) = _
  rw [lit_180]
theorem degrees_eq (x : ℝ) : degrees x = x * (180 / Real.pi) := by
  show x * (180.0 / Real.pi) = _
  rw [lit_180]

/-- the un-clamped law-of-cosines value -/
noncomputable def cosArc (lat1 lon1 lat2 lon2 : ℝ) : ℝ :=
  Real.sin (radians (90.0 - lat1)) * Real.sin (radians (90.0 - lat2)) * Real.cos (radians lon1 - radians lon2)
    + Real.cos (radians (90.0 - lat1)) * Real.cos (radians (90.0 - lat2))

theorem distance_eq (lat1 lon1 lat2 lon2 H : ℝ) : distance lat1 lon1 lat2 lon2 H =
    Real.arccos (max (-1) (min 1 (cosArc lat1 lon1 lat2 lon2))) * (6371000 + H) := by
  have hr : (rEarth : ℝ) = 6371000 := by unfold rEarth; norm_num
  show Real.arccos
      (if (if (1.0 : ℝ) < cosArc lat1 lon1 lat2 lon2 then 1.0 else cosArc lat1 lon1 lat2 lon2) < (-1.0 : ℝ)
        then -1.0 else (if (1.0 : ℝ) < cosArc lat1 lon1 lat2 lon2 then 1.0 else cosArc lat1 lon1 lat2 lon2))
      * (rEarth + H) = _
  rw [hr, lit_1]
  congr 2
  generalize cosArc lat1 lon1 lat2 lon2 = c
  by_cases hc : 1 < c
  · rw [if_pos hc, min_eq_left hc.le, if_neg (by norm_num), max_eq_right (by norm_num)]
  · rw [if_neg hc, min_eq_right (not_lt.mp hc)]
    by_cases hc' : c < -1
    · rw [if_pos hc', max_eq_left hc'.le]
    · rw [if_neg hc', max_eq_right (not_lt.mp hc')]

theorem bearing_eq (lat1 lon1 lat2 lon2 : ℝ) : bearing lat1 lon1 lat2 lon2 =
    (let b := degrees (Complex.arg ⟨Real.cos (radians lat1) * Real.sin (radians lat2)
        - Real.sin (radians lat1) * Real.cos (radians lat2) * Real.cos (radians lon2 - radians lon1),
        Real.sin (radians lon2 - radians lon1) * Real.cos (radians lat2)⟩) + 360
     b - 360 * ⌊b / 360⌋) := by
  show (let b := degrees (Complex.arg ⟨Real.cos (radians lat1) * Real.sin (radians lat2)
        - Real.sin (radians lat1) * Real.cos (radians lat2) * Real.cos (radians lon2 - radians lon1),
        Real.sin (radians lon2 - radians lon1) * Real.cos (radians lat2)⟩) + 360.0
     b - 360 * ⌊b / 360⌋) = _
  rw [lit_360]

end PyModeS.Aero
