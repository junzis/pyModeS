/-
  ISA atmosphere over ℝ: positivity, continuity, monotonicity in altitude, sea-level values.
-/
import PyModeS.Proofs.Aero.Real
import Mathlib.Analysis.SpecialFunctions.Pow.Continuity

namespace PyModeS.Aero
open RealModel

/-! ### positivity -/

theorem T_ge (H : ℝ) : (216.65 : ℝ) ≤ T H := le_max_right _ _
theorem T_pos (H : ℝ) : 0 < T H := lt_of_lt_of_le (by norm_num) (T_ge H)
theorem rho_pos (H : ℝ) : 0 < rho H := by
  unfold rho
  have h1 : 0 < T H / 288.15 := div_pos (T_pos H) (by norm_num)
  have h2 := Real.rpow_pos_of_pos h1 (4.256848030018761 : ℝ)
  have h3 := Real.exp_pos (-(max 0 (H - 11000)) / 6341.552161)
  positivity
theorem p_pos (H : ℝ) : 0 < p H := by
  unfold p
  have := rho_pos H; have := T_pos H
  positivity

theorem temperature_pos (H : ℝ) : 0 < temperature H := T_pos H
theorem density_pos (H : ℝ) : 0 < density H := by rw [density_eq]; exact rho_pos H
theorem pressure_pos (H : ℝ) : 0 < pressure H := by rw [pressure_eq]; exact p_pos H
theorem vsound_pos (H : ℝ) : 0 < vsound H := by
  rw [vsound_eq]
  apply Real.sqrt_pos.mpr
  have := T_pos H
  positivity

/-! ### continuity -/

theorem T_continuous : Continuous T := by
  unfold T
  exact (continuous_const.sub (continuous_const.mul continuous_id)).max continuous_const

theorem rho_continuous : Continuous rho := by
  unfold rho
  refine (continuous_const.mul ?_).mul ?_
  · exact (T_continuous.div_const _).rpow_const (fun _ => Or.inr (by norm_num))
  · exact Real.continuous_exp.comp
      (((continuous_const.max (continuous_id.sub continuous_const)).neg).div_const _)

theorem p_continuous : Continuous p := by
  unfold p
  exact (rho_continuous.mul continuous_const).mul T_continuous

theorem temperature_continuous : Continuous (fun H : ℝ => temperature H) := T_continuous
theorem density_continuous : Continuous (fun H : ℝ => density H) := by
  simpa only [density_eq] using rho_continuous
theorem pressure_continuous : Continuous (fun H : ℝ => pressure H) := by
  simpa only [pressure_eq] using p_continuous
theorem vsound_continuous : Continuous (fun H : ℝ => vsound H) := by
  simp only [vsound_eq]
  exact Real.continuous_sqrt.comp (continuous_const.mul T_continuous)

/-! ### monotonicity in altitude -/

theorem T_antitone : Antitone T := by
  intro a b hab
  unfold T
  exact max_le_max (by linarith) le_rfl

theorem rho_antitone : Antitone rho := by
  intro a b hab
  unfold rho
  have hTb : 0 ≤ T b / 288.15 := (div_pos (T_pos b) (by norm_num)).le
  have h1 : (T b / 288.15) ^ (4.256848030018761 : ℝ) ≤ (T a / 288.15) ^ (4.256848030018761 : ℝ) :=
    Real.rpow_le_rpow hTb (div_le_div_of_nonneg_right (T_antitone hab) (by norm_num)) (by norm_num)
  have h2 : Real.exp (-(max 0 (b - 11000)) / 6341.552161) ≤ Real.exp (-(max 0 (a - 11000)) / 6341.552161) := by
    apply Real.exp_le_exp.mpr
    apply div_le_div_of_nonneg_right _ (by norm_num)
    exact neg_le_neg (max_le_max le_rfl (by linarith))
  have h3 : 0 ≤ (T b / 288.15) ^ (4.256848030018761 : ℝ) := Real.rpow_nonneg hTb _
  have h4 := (Real.exp_pos (-(max 0 (a - 11000)) / 6341.552161)).le
  have h5 := (Real.exp_pos (-(max 0 (b - 11000)) / 6341.552161)).le
  apply mul_le_mul (mul_le_mul_of_nonneg_left h1 (by norm_num)) h2 h5
  exact mul_nonneg (by norm_num) (h3.trans h1)

theorem p_antitone : Antitone p := by
  intro a b hab
  unfold p
  have := rho_antitone hab; have := T_antitone hab
  have := (rho_pos a).le; have := (rho_pos b).le; have := (T_pos b).le
  apply mul_le_mul (mul_le_mul_of_nonneg_right ‹_› (by norm_num)) ‹_› ‹_›
  positivity

theorem temperature_antitone : Antitone (fun H : ℝ => temperature H) := T_antitone
theorem density_antitone : Antitone (fun H : ℝ => density H) := by
  simpa only [density_eq] using rho_antitone
theorem pressure_antitone : Antitone (fun H : ℝ => pressure H) := by
  simpa only [pressure_eq] using p_antitone

/-! ### sea level -/

theorem T_zero : T 0 = 288.15 := by unfold T; norm_num
theorem rho_zero : rho 0 = 1.225 := by
  unfold rho; rw [T_zero, div_self (by norm_num), Real.one_rpow]
  have : -(max (0:ℝ) (0 - 11000)) / 6341.552161 = 0 := by
    rw [max_eq_left (by norm_num)]; norm_num
  rw [this, Real.exp_zero]; norm_num
theorem p_zero : p 0 = 1.225 * 287.05287 * 288.15 := by
  unfold p; rw [T_zero, rho_zero]

theorem temperature_zero : temperature (0 : ℝ) = 288.15 := T_zero
theorem density_zero : density (0 : ℝ) = 1.225 := by rw [density_eq, rho_zero]
theorem density_zero' : density (0 : ℝ) = rho0 := density_zero
theorem pressure_zero : pressure (0 : ℝ) = 1.225 * 287.05287 * 288.15 := by rw [pressure_eq, p_zero]

theorem pressure_zero_le_p0 : pressure (0 : ℝ) ≤ p0 := by
  rw [pressure_zero, p0_eq]; norm_num
theorem pressure_zero_near_p0 : |pressure (0 : ℝ) - p0| ≤ 0.0016 := by
  rw [pressure_zero, p0_eq, abs_le]; constructor <;> norm_num

theorem density_le_rho0 {H : ℝ} (hH : 0 ≤ H) : density H ≤ rho0 := by
  rw [← density_zero']; exact density_antitone hH
theorem pressure_le_p0 {H : ℝ} (hH : 0 ≤ H) : pressure H ≤ p0 :=
  (pressure_antitone hH).trans pressure_zero_le_p0
theorem temperature_le_T0 {H : ℝ} (hH : 0 ≤ H) : temperature H ≤ 288.15 := by
  rw [← temperature_zero]; exact temperature_antitone hH

/-- no jump at the tropopause: both branches of `T` agree at 11000 m -/
theorem T_tropopause : T 11000 = 216.65 := by unfold T; norm_num

end PyModeS.Aero
