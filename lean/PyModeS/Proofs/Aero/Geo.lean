/-
  aero.distance / aero.bearing over ℝ: symmetry, range, the haversine identity, and the fact that
  over ℝ the clamp in `distance` never fires.
-/
import PyModeS.Proofs.Aero.Real

namespace PyModeS.Aero

theorem cosArc_comm (lat1 lon1 lat2 lon2 : ℝ) : cosArc lat1 lon1 lat2 lon2 = cosArc lat2 lon2 lat1 lon1 := by
  unfold cosArc
  rw [← Real.cos_neg (radians lon1 - radians lon2), neg_sub]
  ring

theorem distance_comm (lat1 lon1 lat2 lon2 H : ℝ) :
    distance lat1 lon1 lat2 lon2 H = distance lat2 lon2 lat1 lon1 H := by
  rw [distance_eq, distance_eq, cosArc_comm]

theorem cos_eq_half (x : ℝ) : Real.cos x = 1 - 2 * Real.sin (x / 2) ^ 2 := by
  have h := Real.cos_two_mul (x / 2)
  rw [mul_div_cancel₀ _ two_ne_zero] at h
  rw [h, Real.cos_sq']; ring

/-- the haversine form of the law-of-cosines value (a pure trig identity) -/
theorem haversine_identity (φ1 φ2 θ1 θ2 : ℝ) :
    Real.sin φ1 * Real.sin φ2 * Real.cos (θ1 - θ2) + Real.cos φ1 * Real.cos φ2 =
      1 - 2 * (Real.sin ((φ1 - φ2) / 2) ^ 2 + Real.sin φ1 * Real.sin φ2 * Real.sin ((θ1 - θ2) / 2) ^ 2) := by
  have h := cos_eq_half (φ1 - φ2)
  rw [Real.cos_sub] at h
  rw [cos_eq_half (θ1 - θ2)]
  linear_combination h

theorem cosArc_haversine (lat1 lon1 lat2 lon2 : ℝ) : cosArc lat1 lon1 lat2 lon2 =
    1 - 2 * (Real.sin ((radians (90 - lat1) - radians (90 - lat2)) / 2) ^ 2
      + Real.sin (radians (90 - lat1)) * Real.sin (radians (90 - lat2))
        * Real.sin ((radians lon1 - radians lon2) / 2) ^ 2) := by
  unfold cosArc
  have : (90.0 : ℝ) = 90 := by norm_num
  rw [this]
  exact haversine_identity _ _ _ _

/-- over ℝ the law-of-cosines value is already in `[-1, 1]`: the clamp is only there for rounding -/
theorem cosArc_mem (lat1 lon1 lat2 lon2 : ℝ) :
    -1 ≤ cosArc lat1 lon1 lat2 lon2 ∧ cosArc lat1 lon1 lat2 lon2 ≤ 1 := by
  unfold cosArc
  generalize radians (90.0 - lat1) = φ1
  generalize radians (90.0 - lat2) = φ2
  generalize radians lon1 - radians lon2 = θ
  -- linear in `cos θ ∈ [-1, 1]`, with the values `cos (φ1 + φ2)` at `-1` and `cos (φ1 - φ2)` at `1`
  have lo := Real.neg_one_le_cos θ
  have hi := Real.cos_le_one θ
  have a1 := Real.neg_one_le_cos (φ1 + φ2)
  have a2 := Real.cos_le_one (φ1 + φ2)
  have s1 := Real.neg_one_le_cos (φ1 - φ2)
  have s2 := Real.cos_le_one (φ1 - φ2)
  rw [Real.cos_add] at a1 a2
  rw [Real.cos_sub] at s1 s2
  constructor
  · linarith [mul_nonneg (sub_nonneg.2 hi) (sub_nonneg.2 a1), mul_nonneg (sub_nonneg.2 lo) (sub_nonneg.2 s1)]
  · linarith [mul_nonneg (sub_nonneg.2 hi) (sub_nonneg.2 a2), mul_nonneg (sub_nonneg.2 lo) (sub_nonneg.2 s2)]

/-- `distance` over ℝ is the great-circle arc times the radius, with no clamping -/
theorem distance_eq_arccos (lat1 lon1 lat2 lon2 H : ℝ) :
    distance lat1 lon1 lat2 lon2 H = Real.arccos (cosArc lat1 lon1 lat2 lon2) * (6371000 + H) := by
  rw [distance_eq]
  obtain ⟨h1, h2⟩ := cosArc_mem lat1 lon1 lat2 lon2
  rw [min_eq_right h2, max_eq_right h1]

theorem distance_nonneg (lat1 lon1 lat2 lon2 : ℝ) {H : ℝ} (hH : -6371000 ≤ H) :
    0 ≤ distance lat1 lon1 lat2 lon2 H := by
  rw [distance_eq_arccos]
  exact mul_nonneg (Real.arccos_nonneg _) (by linarith)

theorem distance_le (lat1 lon1 lat2 lon2 : ℝ) {H : ℝ} (hH : -6371000 ≤ H) :
    distance lat1 lon1 lat2 lon2 H ≤ Real.pi * (6371000 + H) := by
  rw [distance_eq_arccos]
  exact mul_le_mul_of_nonneg_right (Real.arccos_le_pi _) (by linarith)

theorem distance_self (lat lon H : ℝ) : distance lat lon lat lon H = 0 := by
  rw [distance_eq_arccos]
  have : cosArc lat lon lat lon = 1 := by
    unfold cosArc
    rw [sub_self, Real.cos_zero, mul_one]
    linear_combination Real.sin_sq_add_cos_sq (radians (90.0 - lat))
  rw [this, Real.arccos_one, zero_mul]

/-- `x % 360` lands in `[0, 360)` -/
theorem mod360_mem (x : ℝ) : 0 ≤ x - 360 * (⌊x / 360⌋ : ℝ) ∧ x - 360 * (⌊x / 360⌋ : ℝ) < 360 := by
  have h1 := Int.floor_le (x / 360)
  have h2 := Int.lt_floor_add_one (x / 360)
  constructor <;> linarith

/-- `x % 360` is the identity on `[0, 360)`, whatever number of turns is added -/
theorem mod360_eq {y : ℝ} (h0 : 0 ≤ y) (h1 : y < 360) (k : ℤ) :
    y + 360 * k - 360 * (⌊(y + 360 * k) / 360⌋ : ℝ) = y := by
  have : ⌊(y + 360 * k) / 360⌋ = k := by
    rw [Int.floor_eq_iff, le_div_iff₀ (by norm_num), div_lt_iff₀ (by norm_num)]
    constructor <;> linarith
  rw [this]; ring

theorem bearing_mem (lat1 lon1 lat2 lon2 : ℝ) :
    0 ≤ bearing lat1 lon1 lat2 lon2 ∧ bearing lat1 lon1 lat2 lon2 < 360 := by
  rw [bearing_eq]
  exact mod360_mem _

/-- the bearing is the `atan2` angle in degrees, shifted by one turn when negative -/
theorem bearing_cases (lat1 lon1 lat2 lon2 : ℝ) :
    let θ := Complex.arg ⟨Real.cos (radians lat1) * Real.sin (radians lat2)
        - Real.sin (radians lat1) * Real.cos (radians lat2) * Real.cos (radians lon2 - radians lon1),
        Real.sin (radians lon2 - radians lon1) * Real.cos (radians lat2)⟩
    bearing lat1 lon1 lat2 lon2 = if 0 ≤ θ then degrees θ else degrees θ + 360 := by
  intro θ
  rw [bearing_eq]
  show degrees θ + 360 - 360 * (⌊(degrees θ + 360) / 360⌋ : ℝ) = _
  have hπ := Real.pi_pos
  have hd : degrees θ = θ / Real.pi * 180 := by rw [degrees_eq]; ring
  have hlo : -180 < degrees θ := by
    have h1 : -Real.pi < θ := Complex.neg_pi_lt_arg _
    have : -1 < θ / Real.pi := by rw [lt_div_iff₀ hπ]; linarith
    linarith
  have hhi : degrees θ ≤ 180 := by
    have : θ / Real.pi ≤ 1 := (div_le_one hπ).2 (Complex.arg_le_pi _)
    linarith
  split
  · rename_i h0
    have := mod360_eq (y := degrees θ) (by rw [hd]; positivity) (by linarith) 1
    rwa [Int.cast_one, mul_one] at this
  · rename_i h0
    have hd0 : degrees θ < 0 := by
      have : θ / Real.pi < 0 := div_neg_of_neg_of_pos (not_le.mp h0) hπ
      linarith
    have := mod360_eq (y := degrees θ + 360) (by linarith) (by linarith) 0
    rwa [Int.cast_zero, mul_zero, add_zero] at this

end PyModeS.Aero
