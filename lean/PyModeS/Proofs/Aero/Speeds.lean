/-
  Airspeed conversions over ℝ: inverse pairs, strict monotonicity in speed, orderings.
  `conv a b c d v` is the compressible-flow conversion of a speed `v` measured in air of pressure `a`,
  density `b` to the speed giving the same impact pressure in air of pressure `c`, density `d`:
  `tas2cas v H = conv p ρ p0 ρ0 v` and `cas2tas v H = conv p0 ρ0 p ρ v`.
-/
import PyModeS.Proofs.Aero.Atmos
import Mathlib.Analysis.Convex.SpecificFunctions.Basic

namespace PyModeS.Aero
open RealModel

theorem rpow_35_27 {x : ℝ} (hx : 0 ≤ x) : (x ^ (3.5 : ℝ)) ^ ((2 : ℝ) / 7) = x := by
  rw [← Real.rpow_mul hx]
  have : (3.5 : ℝ) * (2 / 7) = 1 := by norm_num
  rw [this, Real.rpow_one]

theorem rpow_27_35 {x : ℝ} (hx : 0 ≤ x) : (x ^ ((2 : ℝ) / 7)) ^ (3.5 : ℝ) = x := by
  rw [← Real.rpow_mul hx]
  have : ((2 : ℝ) / 7) * 3.5 = 1 := by norm_num
  rw [this, Real.rpow_one]

/-- impact-pressure ratio term `(1 + b v² / (7a))^3.5` -/
noncomputable def qA (a b v : ℝ) : ℝ := (1 + b * v * v / (7 * a)) ^ (3.5 : ℝ)
/-- `1 + qdyn / c` -/
noncomputable def qX (a b c v : ℝ) : ℝ := 1 + a * (qA a b v - 1) / c
noncomputable def conv (a b c d v : ℝ) : ℝ :=
  Real.sqrt (7 * c / d * (qX a b c v ^ ((2 : ℝ) / 7) - 1))

theorem cas2tas_conv (v H : ℝ) : cas2tas v H = conv 101325 1.225 (p H) (rho H) v := cas2tas_eq v H
theorem tas2cas_conv (v H : ℝ) : tas2cas v H = conv (p H) (rho H) 101325 1.225 v := by
  rw [tas2cas_eq]; unfold conv qX qA; rw [add_comm]

section
variable {a b c d : ℝ} (ha : 0 < a) (hb : 0 < b) (hc : 0 < c) (hd : 0 < d)
include ha hb

theorem qarg_nonneg (v : ℝ) : 0 ≤ b * v * v / (7 * a) := by
  have : 0 ≤ v * v := mul_self_nonneg v
  rw [mul_assoc]; positivity

theorem one_le_qA (v : ℝ) : 1 ≤ qA a b v := by
  unfold qA
  exact Real.one_le_rpow (by linarith [qarg_nonneg ha hb v]) (by norm_num)

theorem qA_rpow (v : ℝ) : qA a b v ^ ((2 : ℝ) / 7) = 1 + b * v * v / (7 * a) :=
  rpow_35_27 (add_nonneg zero_le_one (qarg_nonneg ha hb v))

include hc
theorem one_le_qX (v : ℝ) : 1 ≤ qX a b c v := by
  unfold qX
  have h := one_le_qA ha hb v
  have : 0 ≤ a * (qA a b v - 1) / c := by
    apply div_nonneg (mul_nonneg ha.le (by linarith)) hc.le
  linarith

theorem one_le_qX_rpow (v : ℝ) : 1 ≤ qX a b c v ^ ((2 : ℝ) / 7) :=
  Real.one_le_rpow (one_le_qX ha hb hc v) (by norm_num)

omit ha hb hc in
theorem conv_nonneg (v : ℝ) : 0 ≤ conv a b c d v := Real.sqrt_nonneg _

include hd

omit ha hb in
theorem coef_pos : 0 < 7 * c / d := div_pos (mul_pos (by norm_num) hc) hd

theorem conv_mul_self (v : ℝ) :
    conv a b c d v * conv a b c d v = 7 * c / d * (qX a b c v ^ ((2 : ℝ) / 7) - 1) := by
  unfold conv
  apply Real.mul_self_sqrt
  exact mul_nonneg (coef_pos hc hd).le (sub_nonneg.2 (one_le_qX_rpow ha hb hc v))

/-- `qA c d` of the converted speed is the `qX` it was computed from -/
theorem qA_conv (v : ℝ) : qA c d (conv a b c d v) = qX a b c v := by
  have h1 : 1 + d * conv a b c d v * conv a b c d v / (7 * c) = qX a b c v ^ ((2 : ℝ) / 7) := by
    rw [mul_assoc, conv_mul_self ha hb hc hd]; field_simp; ring
  unfold qA
  rw [h1, rpow_27_35 (zero_le_one.trans (one_le_qX ha hb hc v))]

theorem qX_conv (v : ℝ) : qX c d a (conv a b c d v) = qA a b v := by
  unfold qX; rw [qA_conv ha hb hc hd]; unfold qX; field_simp; ring

/-- the two conversions are mutually inverse on non-negative speeds -/
theorem conv_conv {v : ℝ} (hv : 0 ≤ v) : conv c d a b (conv a b c d v) = v := by
  rw [conv.eq_1 c d a b, qX_conv ha hb hc hd, qA_rpow ha hb]
  have : 7 * a / b * (1 + b * v * v / (7 * a) - 1) = v * v := by field_simp; ring
  rw [this, Real.sqrt_mul_self hv]

theorem conv_strictMonoOn : StrictMonoOn (conv a b c d) (Set.Ici 0) := by
  intro x hx y hy hxy
  have h1 : x * x < y * y := mul_self_lt_mul_self hx hxy
  have h2 : 1 + b * x * x / (7 * a) < 1 + b * y * y / (7 * a) := by
    rw [mul_assoc, mul_assoc]
    exact add_lt_add_right (div_lt_div_of_pos_right (mul_lt_mul_of_pos_left h1 hb) (by positivity)) 1
  have h3 : qA a b x < qA a b y :=
    Real.rpow_lt_rpow (add_nonneg zero_le_one (qarg_nonneg ha hb x)) h2 (by norm_num)
  have h4 : qX a b c x < qX a b c y :=
    add_lt_add_right (div_lt_div_of_pos_right (mul_lt_mul_of_pos_left (sub_lt_sub_right h3 1) ha) hc) 1
  have h5 : qX a b c x ^ ((2 : ℝ) / 7) < qX a b c y ^ ((2 : ℝ) / 7) :=
    Real.rpow_lt_rpow (zero_le_one.trans (one_le_qX ha hb hc x)) h4 (by norm_num)
  unfold conv
  apply Real.sqrt_lt_sqrt
  · exact mul_nonneg (coef_pos hc hd).le (sub_nonneg.2 (one_le_qX_rpow ha hb hc x))
  · exact mul_lt_mul_of_pos_left (sub_lt_sub_right h5 1) (coef_pos hc hd)

/-- Jensen: with `a ≤ c` the converted speed is at least the incompressible (EAS-type) one -/
theorem conv_lower (hac : a ≤ c) (v : ℝ) : b * v * v / d ≤ conv a b c d v * conv a b c d v := by
  rw [conv_mul_self ha hb hc hd]
  set u := b * v * v / (7 * a) with hu
  have hu0 : 0 ≤ u := qarg_nonneg ha hb v
  have hδ0 : 0 ≤ a / c := (div_pos ha hc).le
  have hδ1 : a / c ≤ 1 := (div_le_one hc).mpr hac
  -- convexity of x ↦ x^3.5
  have hconv := (convexOn_rpow (p := (3.5 : ℝ)) (by norm_num)).2
    (show (1 + u) ∈ Set.Ici (0 : ℝ) by simp only [Set.mem_Ici]; linarith)
    (show (1 : ℝ) ∈ Set.Ici (0 : ℝ) by simp)
    hδ0 (show 0 ≤ 1 - a / c by linarith) (by ring)
  simp only [smul_eq_mul, Real.one_rpow, mul_one] at hconv
  have hX : (1 + a / c * u) ^ (3.5 : ℝ) ≤ qX a b c v := by
    have e1 : a / c * (1 + u) + (1 - a / c) = 1 + a / c * u := by ring
    have e2 : qX a b c v = a / c * (1 + u) ^ (3.5 : ℝ) + (1 - a / c) := by
      unfold qX qA; rw [← hu]; ring
    rw [e2, ← e1]; exact hconv
  have hbase : 0 ≤ 1 + a / c * u := by positivity
  have h27 : 1 + a / c * u ≤ qX a b c v ^ ((2 : ℝ) / 7) := by
    calc 1 + a / c * u = ((1 + a / c * u) ^ (3.5 : ℝ)) ^ ((2 : ℝ) / 7) := (rpow_35_27 hbase).symm
      _ ≤ _ := Real.rpow_le_rpow (Real.rpow_nonneg hbase _) hX (by norm_num)
  have e3 : b * v * v / d = 7 * c / d * (a / c * u) := by rw [hu]; field_simp
  rw [e3]
  exact mul_le_mul_of_nonneg_left (le_sub_iff_add_le'.2 h27) (coef_pos hc hd).le

/-- with `a ≤ c` the converted speed is at most the incompressible one scaled by `c / a` -/
theorem conv_upper (hac : a ≤ c) (v : ℝ) :
    conv a b c d v * conv a b c d v ≤ c / a * (b * v * v / d) := by
  rw [conv_mul_self ha hb hc hd]
  have hA := one_le_qA ha hb v
  have hX : qX a b c v ≤ qA a b v := by
    unfold qX
    have : a * (qA a b v - 1) / c ≤ qA a b v - 1 := by
      rw [div_le_iff₀ hc, mul_comm]; exact mul_le_mul_of_nonneg_left hac (sub_nonneg.2 hA)
    linarith
  have h27 : qX a b c v ^ ((2 : ℝ) / 7) ≤ 1 + b * v * v / (7 * a) := by
    calc _ ≤ qA a b v ^ ((2 : ℝ) / 7) :=
          Real.rpow_le_rpow (by linarith [one_le_qX ha hb hc v]) hX (by norm_num)
      _ = _ := qA_rpow ha hb v
  have e : c / a * (b * v * v / d) = 7 * c / d * (1 + b * v * v / (7 * a) - 1) := by
    field_simp; ring
  rw [e]
  exact mul_le_mul_of_nonneg_left (sub_le_sub_right h27 1) (coef_pos hc hd).le

end

/-! ### the aero.py conversions -/

private theorem h101325 : (0 : ℝ) < 101325 := by norm_num
private theorem h1225 : (0 : ℝ) < 1.225 := by norm_num

theorem tas2cas_nonneg (v H : ℝ) : 0 ≤ tas2cas v H := by rw [tas2cas_conv]; exact conv_nonneg v
theorem cas2tas_nonneg (v H : ℝ) : 0 ≤ cas2tas v H := by rw [cas2tas_conv]; exact conv_nonneg v

theorem cas2tas_tas2cas {V : ℝ} (hV : 0 ≤ V) (H : ℝ) : cas2tas (tas2cas V H) H = V := by
  rw [tas2cas_conv, cas2tas_conv]
  exact conv_conv (p_pos H) (rho_pos H) h101325 h1225 hV

theorem tas2cas_cas2tas {V : ℝ} (hV : 0 ≤ V) (H : ℝ) : tas2cas (cas2tas V H) H = V := by
  rw [tas2cas_conv, cas2tas_conv]
  exact conv_conv h101325 h1225 (p_pos H) (rho_pos H) hV

theorem eas2tas_tas2eas (V H : ℝ) : eas2tas (tas2eas V H) H = V := by
  rw [eas2tas_eq, tas2eas_eq, mul_assoc, ← Real.sqrt_mul (div_pos (rho_pos H) h1225).le]
  have : rho H / 1.225 * (1.225 / rho H) = 1 := by
    have := (rho_pos H).ne'; field_simp
  rw [this, Real.sqrt_one, mul_one]

theorem tas2eas_eas2tas (V H : ℝ) : tas2eas (eas2tas V H) H = V := by
  rw [eas2tas_eq, tas2eas_eq, mul_assoc, ← Real.sqrt_mul (div_pos h1225 (rho_pos H)).le]
  have : 1.225 / rho H * (rho H / 1.225) = 1 := by
    have := (rho_pos H).ne'; field_simp
  rw [this, Real.sqrt_one, mul_one]

theorem mach2tas_tas2mach (V H : ℝ) : mach2tas (tas2mach V H) H = V := by
  rw [mach2tas_eq, tas2mach_eq]; exact div_mul_cancel₀ V (vsound_pos H).ne'

theorem tas2mach_mach2tas (M H : ℝ) : tas2mach (mach2tas M H) H = M := by
  rw [mach2tas_eq, tas2mach_eq]; exact mul_div_cancel_right₀ M (vsound_pos H).ne'

theorem cas2mach_mach2cas {M : ℝ} (hM : 0 ≤ M) (H : ℝ) : cas2mach (mach2cas M H) H = M := by
  rw [cas2mach_eq, mach2cas_eq, cas2tas_tas2cas _ H, tas2mach_mach2tas]
  rw [mach2tas_eq]; exact mul_nonneg hM (vsound_pos H).le

theorem mach2cas_cas2mach {V : ℝ} (hV : 0 ≤ V) (H : ℝ) : mach2cas (cas2mach V H) H = V := by
  rw [cas2mach_eq, mach2cas_eq, mach2tas_tas2mach, tas2cas_cas2tas hV]

/-! ### strict monotonicity in speed -/

theorem tas2cas_strictMonoOn (H : ℝ) : StrictMonoOn (fun V : ℝ => tas2cas V H) (Set.Ici 0) := by
  simp only [tas2cas_conv]
  exact conv_strictMonoOn (p_pos H) (rho_pos H) h101325 h1225

theorem cas2tas_strictMonoOn (H : ℝ) : StrictMonoOn (fun V : ℝ => cas2tas V H) (Set.Ici 0) := by
  simp only [cas2tas_conv]
  exact conv_strictMonoOn h101325 h1225 (p_pos H) (rho_pos H)

theorem tas2eas_strictMono (H : ℝ) : StrictMono (fun V : ℝ => tas2eas V H) := by
  intro x y hxy
  simp only [tas2eas_eq]
  exact mul_lt_mul_of_pos_right hxy (Real.sqrt_pos.mpr (div_pos (rho_pos H) h1225))

theorem eas2tas_strictMono (H : ℝ) : StrictMono (fun V : ℝ => eas2tas V H) := by
  intro x y hxy
  simp only [eas2tas_eq]
  exact mul_lt_mul_of_pos_right hxy (Real.sqrt_pos.mpr (div_pos h1225 (rho_pos H)))

theorem tas2mach_strictMono (H : ℝ) : StrictMono (fun V : ℝ => tas2mach V H) := by
  intro x y hxy
  simp only [tas2mach_eq]
  exact div_lt_div_of_pos_right hxy (vsound_pos H)

theorem mach2tas_strictMono (H : ℝ) : StrictMono (fun M : ℝ => mach2tas M H) := by
  intro x y hxy
  simp only [mach2tas_eq]
  exact mul_lt_mul_of_pos_right hxy (vsound_pos H)

theorem mach2cas_strictMonoOn (H : ℝ) : StrictMonoOn (fun M : ℝ => mach2cas M H) (Set.Ici 0) := by
  intro x hx y hy hxy
  simp only [mach2cas_eq]
  apply tas2cas_strictMonoOn H
  · show 0 ≤ mach2tas x H
    rw [mach2tas_eq]; exact mul_nonneg hx (vsound_pos H).le
  · show 0 ≤ mach2tas y H
    rw [mach2tas_eq]; exact mul_nonneg hy (vsound_pos H).le
  · exact mach2tas_strictMono H hxy

theorem cas2mach_strictMonoOn (H : ℝ) : StrictMonoOn (fun V : ℝ => cas2mach V H) (Set.Ici 0) := by
  intro x hx y hy hxy
  simp only [cas2mach_eq]
  exact tas2mach_strictMono H (cas2tas_strictMonoOn H hx hy hxy)

/-! ### orderings -/

theorem tas2eas_le_self {V H : ℝ} (hV : 0 ≤ V) (hρ : density H ≤ rho0) : tas2eas V H ≤ V := by
  rw [tas2eas_eq]
  rw [density_eq, rho0_eq] at hρ
  have : Real.sqrt (rho H / 1.225) ≤ 1 := by
    have := Real.sqrt_le_sqrt ((div_le_one h1225).mpr hρ)
    rwa [Real.sqrt_one] at this
  calc V * Real.sqrt (rho H / 1.225) ≤ V * 1 := mul_le_mul_of_nonneg_left this hV
    _ = V := mul_one V

theorem tas2eas_mul_self (V H : ℝ) : tas2eas V H * tas2eas V H = rho H * V * V / 1.225 := by
  rw [tas2eas_eq]
  have := Real.mul_self_sqrt (div_pos (rho_pos H) h1225).le
  calc V * Real.sqrt (rho H / 1.225) * (V * Real.sqrt (rho H / 1.225))
      = V * V * (Real.sqrt (rho H / 1.225) * Real.sqrt (rho H / 1.225)) := by ring
    _ = _ := by rw [this]; ring

/-- CAS ≥ EAS wherever the pressure is at most `p0` -/
theorem tas2eas_le_tas2cas {V H : ℝ} (hV : 0 ≤ V) (hp : pressure H ≤ p0) : tas2eas V H ≤ tas2cas V H := by
  rw [pressure_eq, p0_eq] at hp
  have h := conv_lower (p_pos H) (rho_pos H) h101325 h1225 hp V
  rw [← tas2cas_conv, ← tas2eas_mul_self] at h
  have h0 : 0 ≤ tas2eas V H := by
    rw [tas2eas_eq]; exact mul_nonneg hV (Real.sqrt_nonneg _)
  exact (mul_self_le_mul_self_iff h0 (tas2cas_nonneg V H)).mpr h

/-- CAS ≤ EAS · √(p0/p) wherever the pressure is at most `p0` -/
theorem tas2cas_mul_self_le {V H : ℝ} (hp : pressure H ≤ p0) :
    tas2cas V H * tas2cas V H ≤ 101325 / p H * (tas2eas V H * tas2eas V H) := by
  rw [pressure_eq, p0_eq] at hp
  have h := conv_upper (p_pos H) (rho_pos H) h101325 h1225 hp V
  rwa [← tas2cas_conv, ← tas2eas_mul_self] at h

/-! ### sea level -/

theorem tas2eas_zero (V : ℝ) : tas2eas V 0 = V := by
  rw [tas2eas_eq, rho_zero, div_self h1225.ne', Real.sqrt_one, mul_one]
theorem eas2tas_zero (V : ℝ) : eas2tas V 0 = V := by
  rw [eas2tas_eq, rho_zero, div_self h1225.ne', Real.sqrt_one, mul_one]

theorem self_le_tas2cas_zero {V : ℝ} (hV : 0 ≤ V) : V ≤ tas2cas V 0 := by
  have := tas2eas_le_tas2cas hV pressure_zero_le_p0
  rwa [tas2eas_zero] at this

theorem tas2cas_zero_le {V : ℝ} (hV : 0 ≤ V) : tas2cas V 0 ≤ (1 + 2e-8) * V := by
  have h := tas2cas_mul_self_le (V := V) pressure_zero_le_p0
  rw [tas2eas_zero, p_zero] at h
  apply (mul_self_le_mul_self_iff (tas2cas_nonneg V 0) (by positivity)).mpr
  refine h.trans ?_
  have hVV : 0 ≤ V * V := mul_self_nonneg V
  have : (101325 : ℝ) / (1.225 * 287.05287 * 288.15) ≤ (1 + 2e-8) * (1 + 2e-8) := by
    rw [div_le_iff₀ (by norm_num)]; norm_num
  calc 101325 / (1.225 * 287.05287 * 288.15) * (V * V) ≤ (1 + 2e-8) * (1 + 2e-8) * (V * V) :=
        mul_le_mul_of_nonneg_right this hVV
    _ = _ := by ring

/-- at sea level `tas2cas` is the identity up to the relative mismatch (below 2e-8) between
    `rho0 * R * T0` and `p0` (for every `V ≥ 0`, not only `V ≤ 450`) -/
theorem tas2cas_zero_near {V : ℝ} (hV : 0 ≤ V) : |tas2cas V 0 - V| ≤ 2e-8 * V := by
  rw [abs_of_nonneg (sub_nonneg.2 (self_le_tas2cas_zero hV))]
  linarith [tas2cas_zero_le hV]

end PyModeS.Aero
