/-
  C09 — ADS-B velocity: airborne (TC 19) and surface movement (TC 5–8).
-/
import PyModeS.Proofs.Enum
import PyModeS.Proofs.Bits
import PyModeS.Model.Adsb
import PyModeS.Spec.Velocity
import PyModeS.Proofs.Fields.Velocity
namespace PyModeS.C09
open Spec

/-- All 128 movement codes: the decoder's piecewise table (regenerated from bds06.py on every run)
    equals the DO-260B quantisation table. -/
theorem movement_table_spec : (List.range 128).all
    (fun mov => decide (movSpeed mov = .val (movementSpeed mov))) = true := by
  decide +kernel

theorem movement_spec (mov : Nat) (h : mov < 128) : movSpeed mov = .val (movementSpeed mov) := by
  simpa using all_range_imp movement_table_spec mov h

/-- GNSS–baro difference: `±(N−1)·25 ft`, `None` for N = 0 (and, as coded, for the saturated
    code 127 — recorded as an open finding, see known_findings.json) on any 112-bit TC 19 frame. -/
theorem altitude_diff_partial (bits : Bits) (h : bits.length = 112) (htc : tcB bits = some 19) :
    altitudeDiff bits =
      let v := bin2int (slice 81 88 bits)
      let sign : Int := if bits[80]'(by omega) then -1 else 1
      .val (if v = 0 ∨ v = 127 then none else some (sign * ((v : Int) - 1) * 25)) := by
  unfold altitudeDiff
  have l : 0 < (slice 81 88 bits).length := by rw [slice_length_of_le (by omega)]; omega
  simp only [htc, ne_eq, not_true_eq_false, if_false]
  rw [idxR_eq (by omega), bin2intR_of_length l]
  simp only [Res.bind_val]
  split <;> rfl

theorem altitude_diff_guard (bits : Bits) (htc : tcB bits ≠ some 19) : altitudeDiff bits = .rte := by
  unfold altitudeDiff; simp [htc]

/-! ## Frame-level field theorems (airborne velocity, surface velocity, routing) -/

open Fields

/-- **Airborne velocity.** On every 112-bit TC 19 frame `airborne_velocity(msg, source=True)` is the
    DO-260B function of ME bits 6-8 (subtype) and 14-46 and of nothing else. -/
theorem airborne_velocity_spec (bits : Bits) (h : bits.length = 112) (htc : tcB bits = some 19) :
    airborneVelocity bits = .val (airborneSpec
      (bin2int (slice 37 40 bits)) (bits[45]'(by omega)) (bin2int (slice 46 56 bits))
      (bits[56]'(by omega)) (bin2int (slice 57 67 bits))
      (bits[67]'(by omega)) (bits[68]'(by omega)) (bin2int (slice 69 78 bits))) := by
  exact airborneVelocity_fields bits htc _ _ _ _ _ _ _ _ (bin2intR_slice_drop h 32 5 8 (by omega) (by omega))
    (bin2intR_slice_drop h 32 14 24 (by omega) (by omega)) (bin2intR_slice_drop h 32 25 35 (by omega) (by omega))
    (bin2intR_slice_drop h 32 37 46 (by omega) (by omega)) (idxR_drop 32 13 (by omega)) (idxR_drop 32 24 (by omega))
    (idxR_drop 32 35 (by omega)) (idxR_drop 32 36 (by omega))

theorem airborne_velocity_guard (bits : Bits) (htc : tcB bits ≠ some 19) : airborneVelocity bits = .rte :=
  airborneVelocity_rte bits htc

/-- non-vacuity: two real frames from tests/ (subtype 1: 159 kt ground speed, −832 ft/min;
    subtype 3: 375 kt TAS, heading 243.98°, −2304 ft/min) satisfy the hypotheses, and the spec gives the
    documented values. -/
example : (hex2bin "8D485020994409940838175B284F").length = 112 ∧
    tcB (hex2bin "8D485020994409940838175B284F") = some 19 ∧
    airborneSpec 1 true 9 true 160 false true 14 =
      some ⟨some 159, Dir.track (-8) (-159), some (-832), "GS", "TRUE_NORTH", "GNSS"⟩ ∧
    airborneVelocity (hex2bin "8D485020994409940838175B284F") =
      .val (airborneSpec 1 true 9 true 160 false true 14) := by decide +kernel

example : (hex2bin "8DA05F219B06B6AF189400CBC33F").length = 112 ∧
    tcB (hex2bin "8DA05F219B06B6AF189400CBC33F") = some 19 ∧
    airborneVelocity (hex2bin "8DA05F219B06B6AF189400CBC33F") =
      .val (some ⟨some 375, Dir.heading ((15615 : Rat) / 64), some (-2304), "TAS", "MAGNETIC_NORTH", "BARO"⟩) := by
  decide +kernel

/-! ### surface velocity (TC 5-8) -/

/-- **Surface velocity.** On every 112-bit TC 5-8 frame: the ground speed is the DO-260B movement
    table of ME bits 6-12 (all 128 codes, `None` for "no information"/reserved), the track is
    `N·360/128` of ME bits 14-20 when the status bit (ME bit 13) is set and `None` otherwise. -/
theorem surface_velocity_spec (bits : Bits) (h : bits.length = 112) (tc : Nat) (htc : tcB bits = some tc)
    (h58 : 5 ≤ tc ∧ tc ≤ 8) :
    surfaceVelocity bits = .val (movementSpeed (bin2int (slice 37 44 bits)),
      if bits[44]'(by omega) then some ((bin2int (slice 45 52 bits) : Rat) * 360 / 128) else none) := by
  unfold surfaceVelocity
  have hg : ¬ (tc < 5 ∨ tc > 8) := by omega
  simp only [htc, hg, if_false]
  rw [idxR_drop 32 12 (by omega), bin2intR_slice_drop h 32 13 20 (by omega) (by omega),
    bin2intR_slice_drop h 32 5 12 (by omega) (by omega)]
  simp only [Nat.reduceAdd]
  have hm : bin2int (slice 37 44 bits) < 128 := bin2int_slice_lt bits 37 44
  cases hb : bits[44]'(by omega) <;>
    simp [movement_spec _ hm]

/-- outside TC 5-8 (or outside DF 17/18) `surface_velocity` raises RuntimeError -/
theorem surface_velocity_guard (bits : Bits) (hg : ∀ tc, tcB bits = some tc → tc < 5 ∨ tc > 8) :
    surfaceVelocity bits = .rte := by
  unfold surfaceVelocity
  cases htc : tcB bits with
  | none => rfl
  | some tc => simp [hg tc htc]

/-- non-vacuity: the surface frame of tests/test_adsb.py (19 kt, track 42.2°) -/
example : (hex2bin "8FC8200A3AB8F5F893096B000000").length = 112 ∧
    tcB (hex2bin "8FC8200A3AB8F5F893096B000000") = some 7 ∧
    surfaceVelocity (hex2bin "8FC8200A3AB8F5F893096B000000") = .val (some 19, some ((675 : Rat) / 16)) := by
  decide +kernel

/-! ### adsb.velocity routing -/

/-- **Routing.** `adsb.velocity` calls `surface_velocity` exactly for TC 5-8, `airborne_velocity`
    exactly for TC 19, and raises RuntimeError for every other type code and for frames without a
    type code (DF other than 17/18). -/
theorem velocity_routing (b : Bits) :
    (∀ tc, tcB b = some tc → 5 ≤ tc ∧ tc ≤ 8 → velocityRoute b = .val .surface) ∧
    (tcB b = some 19 → velocityRoute b = .val .airborne) ∧
    (∀ tc, tcB b = some tc → ¬ (5 ≤ tc ∧ tc ≤ 8) → tc ≠ 19 → velocityRoute b = .rte) ∧
    (tcB b = none → velocityRoute b = .rte) := by
  unfold velocityRoute
  refine ⟨?_, ?_, ?_, ?_⟩
  · intro tc htc h; simp [htc, h]
  · intro htc; simp [htc]
  · intro tc htc h1 h2; simp [htc, h1, h2]
  · intro htc; simp [htc]

/-- the routing as an "iff": which decoder runs is a function of the type code alone -/
theorem velocity_routing_iff (b : Bits) :
    (velocityRoute b = .val .surface ↔ ∃ tc, tcB b = some tc ∧ 5 ≤ tc ∧ tc ≤ 8) ∧
    (velocityRoute b = .val .airborne ↔ tcB b = some 19) := by
  unfold velocityRoute
  cases htc : tcB b with
  | none => simp
  | some tc =>
    by_cases h1 : 5 ≤ tc ∧ tc ≤ 8
    · simp [h1]; omega
    · by_cases h2 : tc = 19
      · simp [h2]
      · simp [h1, h2]

example : velocityRoute (hex2bin "8FC8200A3AB8F5F893096B000000") = .val .surface ∧
    velocityRoute (hex2bin "8D485020994409940838175B284F") = .val .airborne ∧
    velocityRoute (hex2bin "8D406B902015A678D4D220AA4BDA") = .rte := by decide +kernel

/-! ## Encoder round-trip (DO-260B 2.2.3.2.6.1 layout) -/

/-- DF17/18 airborne-velocity frame: DF, CA, ICAO | TC = 19, subtype, (intent, IFR, NUCr/NACv) |
    E/W sign+speed (or heading status+heading) | N/S sign+speed (or airspeed type+airspeed) |
    vertical-rate source, sign, rate | reserved | GNSS-baro difference sign+value | parity -/
def velFrame (df ca icao st x1 : Nat) (s_ew : Bool) (v_ew : Nat) (s_ns : Bool) (v_ns : Nat)
    (vrsrc s_vr : Bool) (vr x2 : Nat) (dsign : Bool) (diff parity : Nat) : List (Nat × Nat) :=
  [(5, df), (3, ca), (24, icao), (5, 19), (3, st), (5, x1), (1, b2n s_ew), (10, v_ew), (1, b2n s_ns),
   (10, v_ns), (1, b2n vrsrc), (1, b2n s_vr), (9, vr), (2, x2), (1, b2n dsign), (7, diff), (24, parity)]

/-- **Encoder round-trip.** Any field values within their widths, framed per DO-260B with arbitrary
    CA, ICAO address, reserved/intent bits, altitude-difference field and parity, decode to the spec of
    exactly those values (and the altitude difference to `±(N−1)·25 ft`). -/
theorem airborne_velocity_roundtrip (df ca icao st x1 : Nat) (s_ew : Bool) (v_ew : Nat) (s_ns : Bool)
    (v_ns : Nat) (vrsrc s_vr : Bool) (vr x2 : Nat) (dsign : Bool) (diff parity : Nat)
    (hdf : df = 17 ∨ df = 18) (hst : st < 8) (hew : v_ew < 1024) (hns : v_ns < 1024) (hvr : vr < 512)
    (hd : diff < 128) :
    let bits := build (velFrame df ca icao st x1 s_ew v_ew s_ns v_ns vrsrc s_vr vr x2 dsign diff parity)
    bits.length = 112 ∧ tcB bits = some 19 ∧
    airborneVelocity bits = .val (airborneSpec st s_ew v_ew s_ns v_ns vrsrc s_vr vr) ∧
    altitudeDiff bits = .val (if diff = 0 ∨ diff = 127 then none
      else some ((if dsign then -1 else 1) * ((diff : Int) - 1) * 25)) := by
  intro bits
  have hlen : bits.length = 112 := by
    show (build _).length = 112
    simp [build_length, velFrame]
  -- field `i` of the layout, found at bit `o`, reads back the value placed there (offsets below: `rfl` is
  -- exponential in the field index, `simp` evaluates them at once)
  have V : ∀ i o w v, offset (velFrame df ca icao st x1 s_ew v_ew s_ns v_ns vrsrc s_vr vr x2 dsign diff parity) i = o →
      (velFrame df ca icao st x1 s_ew v_ew s_ns v_ns vrsrc s_vr vr x2 dsign diff parity)[i]? = some (w, v) →
      v < 2 ^ w → bin2int (slice o (o + w) bits) = v := by
    intro i o w v ho hf hv
    have := field_val _ [] i o w v ho hf hv
    rwa [List.append_nil] at this
  have B : ∀ i o (b : Bool) (h : o < bits.length),
      offset (velFrame df ca icao st x1 s_ew v_ew s_ns v_ns vrsrc s_vr vr x2 dsign diff parity) i = o →
      (velFrame df ca icao st x1 s_ew v_ew s_ns v_ns vrsrc s_vr vr x2 dsign diff parity)[i]? = some (1, b2n b) →
      bits[o] = b := by
    intro i o b h ho hf
    have := field_bit _ [] i o b ho hf
    rwa [List.append_nil, List.getD_eq_getElem?_getD, List.getElem?_eq_getElem h, Option.getD_some] at this
  have f0 : bin2int (slice 0 5 bits) = df := V 0 0 5 df rfl rfl (by omega)
  have f3 : bin2int (slice 32 37 bits) = 19 := V 3 32 5 19 (by simp [velFrame, offset]) rfl (by decide)
  have f4 : bin2int (slice 37 40 bits) = st := V 4 37 3 st (by simp [velFrame, offset]) rfl hst
  have f7 : bin2int (slice 46 56 bits) = v_ew := V 7 46 10 v_ew (by simp [velFrame, offset]) rfl hew
  have f9 : bin2int (slice 57 67 bits) = v_ns := V 9 57 10 v_ns (by simp [velFrame, offset]) rfl hns
  have f12 : bin2int (slice 69 78 bits) = vr := V 12 69 9 vr (by simp [velFrame, offset]) rfl hvr
  have f15 : bin2int (slice 81 88 bits) = diff := V 15 81 7 diff (by simp [velFrame, offset]) rfl hd
  have htc : tcB bits = some 19 := by
    unfold tcB dfB
    rw [f0, f3]
    rcases hdf with rfl | rfl <;> rfl
  refine ⟨hlen, htc, ?_, ?_⟩
  · rw [airborne_velocity_spec bits hlen htc, f4, f7, f9, f12, B 6 45 s_ew (by omega) (by simp [velFrame, offset]) rfl,
      B 8 56 s_ns (by omega) (by simp [velFrame, offset]) rfl, B 10 67 vrsrc (by omega) (by simp [velFrame, offset]) rfl, B 11 68 s_vr (by omega) (by simp [velFrame, offset]) rfl]
  · rw [altitude_diff_partial bits hlen htc]
    simp only [f15, B 14 80 dsign (by omega) (by simp [velFrame, offset]) rfl]

/-- non-vacuity: the frame of tests/test_adsb.py is such an encoding (ICAO 485020, parity 5B284F) -/
example : bitsToHexU (build (velFrame 17 5 0x485020 1 8 true 9 true 160 false true 14 0 false 23 0x5B284F)) =
    "8D485020994409940838175B284F" := by decide +kernel

end PyModeS.C09
