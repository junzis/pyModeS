/-
  C08 — Identity code and surveillance / all-call reply fields.
-/
import PyModeS.Proofs.Fields.Frame
import PyModeS.Spec.Fields
import PyModeS.Proofs.CRC.Icao
namespace PyModeS.C08
open Spec

/-- All 8192 identity patterns: the four octal digits come back exactly, whatever the X bit. -/
theorem squawk_spec (a b c d : Nat) (x : Bool) (ha : a < 8) (hb : b < 8) (hc : c < 8) (hd : d < 8) :
    squawk (id13 a b c d x) = .val [a, b, c, d] := by
  -- `id13` lays out the three bits of each digit, `squawk` gathers them again
  have octal : ∀ n, n < 8 → bin2int [n / 4 % 2 == 1, n / 2 % 2 == 1, n / 1 % 2 == 1] = n := by
    intro n h
    have e : [n / 4 % 2 == 1, n / 2 % 2 == 1, n / 1 % 2 == 1] = natToBits 3 n := by
      simp only [natToBits, natToBitsA, Nat.div_div_eq_div_mul, Nat.div_one]
    rw [e, bin2int_natToBits_of_lt (w := 3) h]
  simp only [id13, squawk, octal a ha, octal b hb, octal c hc, octal d hd]

/-- `squawk` rejects any other length with RuntimeError. -/
theorem squawk_bad_length (b : Bits) (h : b.length ≠ 13) : squawk b = .rte := squawk_of_length_ne h

/-- DF5 / DF21 (`common.idcode`, and `surv.identity` for DF5): the result is `squawk` of bits 20–32,
    a function of the DF and the ID field only; every other DF is rejected. -/
theorem idcode_frame (bits : Bits) :
    idcodeB bits = if dfB bits = 5 ∨ dfB bits = 21 then squawk (slice 19 32 bits) else .rte :=
  Fields.rte_unless (by simp only [not_or]) _

theorem idcode_msg (m : Msg) : idcode m = idcodeB (hex2binM m) := idcode_eq m

theorem surv_identity_frame (bits : Bits) :
    survIdentity bits = if dfB bits = 5 then squawk (slice 19 32 bits) else .rte := by
  unfold survIdentity
  rw [Fields.survGuard_eq, idcode_frame]
  by_cases h5 : dfB bits = 5
  · simp [h5]
  · by_cases h4 : dfB bits = 4
    · simp [h4]
    · simp [h4, h5]

/-- TC 28: the emergency squawk is `squawk` of ME bits 12–24. -/
theorem emergency_squawk_frame (bits : Bits) :
    emergencySquawk bits = if tcB bits = some 28 then squawk (slice 43 56 bits) else .rte :=
  Fields.rte_unless Iff.rfl _

/-- FS, DR, IIS, IDS of a DF4/5 reply of at least 19 bits are bits 6–8, 9–13, 14–17, 18–19,
    independent of every other bit; other DFs are rejected. -/
theorem surv_fields (bits : Bits) (h : 19 ≤ bits.length) :
    survFs bits = (if dfB bits = 4 ∨ dfB bits = 5 then .val (bin2int (slice 5 8 bits)) else .rte) ∧
    survDr bits = (if dfB bits = 4 ∨ dfB bits = 5 then .val (bin2int (slice 8 13 bits)) else .rte) ∧
    survUm bits = (if dfB bits = 4 ∨ dfB bits = 5
      then .val (bin2int (slice 13 17 bits), bin2int (slice 17 19 bits)) else .rte) := by
  unfold survFs survDr survUm
  rw [Fields.survGuard_eq, Fields.survGuard_eq, Fields.survGuard_eq,
    Fields.bin2intR_slice rfl 5 8 (by omega) (by omega), Fields.bin2intR_slice rfl 8 13 (by omega) (by omega),
    Fields.bin2intR_slice rfl 13 17 (by omega) (by omega), Fields.bin2intR_slice rfl 17 19 (by omega) h]
  exact ⟨rfl, rfl, rfl⟩

/-- CA of a DF11 reply is bits 6–8. -/
theorem capability_frame (bits : Bits) (h : 8 ≤ bits.length) :
    capability bits = if dfB bits = 11 then .val (bin2int (slice 5 8 bits)) else .rte := by
  unfold capability
  rw [Fields.allcallGuard_eq, Fields.bin2intR_slice rfl 5 8 (by omega) h]

/-- non-vacuity: frames from tests/ -/
example : idcodeB (hex2bin "2A00516D492B80") = .val [0, 3, 5, 6] := by decide +kernel

/-! ### DF11 interrogator code (`allcall.interrogator`) -/

/-- the label printed for a 7-bit CL‖IC code -/
def icLabel (code : Nat) : String :=
  if code > 79 then "corrupt IC" else if code < 16 then "II" ++ toString code
  else "SI" ++ toString (code - 16)

/-- If the last 24 bits of an all-call reply are `parity(data) XOR code` (PI field, Annex 10
    3.1.2.3.3.2: the interrogator code overlaid on the parity), `interrogator` returns the label
    of exactly that code; every other DF is rejected with RuntimeError.  Holds for any whole number
    ≥ 3 of bytes (a DF11 frame has 7); `code < 128` is not needed (the hypothesis forces
    `code < 2^24`, and everything above 79 is reported as corrupt). -/
theorem interrogator_spec (bits : Bits) (code : Nat) (h8 : bits.length % 8 = 0)
    (h24 : 24 ≤ bits.length)
    (hpi : bin2int (takeLast 24 bits) =
      Spec.remH (dropLast 24 bits ++ List.replicate 24 false) ^^^ code) :
    interrogator bits = if dfB bits = 11 then .val (icLabel code) else .rte := by
  unfold interrogator
  rw [Fields.allcallGuard_eq, CRC.crcBitsPy_code bits code h8 h24 hpi]
  simp only [icLabel, apply_ite Res.val]

/-- the hypothesis is satisfiable for every payload and every code: the encoded frame
    `data ++ (parity(data) xor code)` has the PI property -/
theorem interrogator_encoder (d : Bits) (code : Nat) (hc : code < 2 ^ 24)
    (h8 : d.length % 8 = 0) (h5 : 5 ≤ d.length) :
    interrogator (d ++ natToBits 24 (Spec.remH (d ++ List.replicate 24 false) ^^^ code)) =
      if dfB d = 11 then .val (icLabel code) else .rte := by
  have hs := CRC.frame_field_spec d code hc
  simp only at hs
  rw [interrogator_spec _ code (by simp; omega) (by simp) hs.2, CRC.dfB_append d _ h5]

/-- real DF11 reply: PI = parity xor 22 (CL=1, IC=6), i.e. "SI6"; its DF bits are 01011 -/
example : let bits := hex2bin "5D484FDEA248F5"
    bits.length % 8 = 0 ∧ 24 ≤ bits.length ∧ dfB bits = 11 ∧
    bin2int (takeLast 24 bits) = Spec.remH (dropLast 24 bits ++ List.replicate 24 false) ^^^ 22 ∧
    icLabel 22 = "SI6" ∧ interrogator bits = .val "SI6" := by decide +kernel
example : icLabel 0 = "II0" ∧ icLabel 15 = "II15" ∧ icLabel 16 = "SI0" ∧ icLabel 79 = "SI63" ∧
    icLabel 80 = "corrupt IC" ∧ interrogator (hex2bin "8D406B902015A678D4D220AA4BDA") = .rte := by
  decide +kernel

end PyModeS.C08
