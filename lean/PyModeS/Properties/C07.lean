/-
  C07 — Altitude codes decode to the Annex 10 altitude, exhaustively.

  Model: `altitude13`, `altcode`/`altcodeB`, `altitude05`, `adsbAltitude`, `survAltitude`
  (Model/Common.lean, Model/Adsb.lean, Model/Misc.lean).  Spec: Spec/Altitude.lean.
-/
import PyModeS.Proofs.C07.All
import PyModeS.Proofs.Hex
namespace PyModeS.C07
open Spec

/-- Every 13-bit string decodes to the altitude Annex 10 assigns to it (all 8192 codes). -/
theorem altitude13_spec (b : Bits) (h : b.length = 13) : altitude13 b = .val (alt13 (bin2int b)) := by
  have hb := natToBits_bin2int_of_length h
  obtain ⟨C1, A1, C2, A2, C4, A4, M, B1, Q, B2, D2, B4, D4, rfl⟩ := bits13 h
  unfold altitude13 alt13
  rw [hb]
  -- both start with the same test for the all-zero code
  by_cases h0 : bin2int [C1, A1, C2, A2, C4, A4, M, B1, Q, B2, D2, B4, D4] = 0
  · simp only [h0, if_true]
  simp only [h0, if_false]
  cases M
  · cases Q
    · exact congrArg Res.val (gray2alt_spec D2 D4 A1 A2 A4 B1 B2 B4 C1 C2 C4)
    · rfl
  · rfl

/-- Any other length is rejected with RuntimeError. -/
theorem altitude13_bad_length (b : Bits) (h : b.length ≠ 13) : altitude13 b = .rte := altitude13_of_length_ne h

/-! The spec value is the inverse of the Annex 10 *encoders*: -/

/-- Q = 0: the Gillham code of every legal altitude −1200 … 126700 ft decodes to it. -/
theorem gillham_roundtrip (k : Nat) (h : k < 1280) :
    altitude13 (ac13OfAlt k) = .val (some ((k : Int) * 100 - 1200)) := by
  obtain ⟨hk, hl⟩ := kOf_gillhamFields k h
  have hg : (gillhamFields k).1 < 256 := gray_lt (n := k / 5) (by omega)
  have hc : (gillhamFields k).2 < 8 := by
    unfold gillhamFields; simp only; split <;> omega
  show altitude13 (ac13OfGillham (gillhamFields k).1 (gillhamFields k).2) = _
  rw [altitude13_spec _ rfl, alt13_gillham _ _ hg hc, if_pos hl, hk]

/-- Q = 1: `N*25 − 1000` ft for every `N < 2048`. -/
theorem q25_roundtrip (n : Nat) (h : n < 2048) :
    altitude13 (ac13OfN25 n) = .val (some ((n : Int) * 25 - 1000)) := by
  obtain ⟨b0, b1, b2, b3, b4, b5, b6, b7, b8, b9, b10, e⟩ :
    ∃ b0 b1 b2 b3 b4 b5 b6 b7 b8 b9 b10, natToBits 11 n = [b0, b1, b2, b3, b4, b5, b6, b7, b8, b9, b10] :=
    ⟨_, _, _, _, _, _, _, _, _, _, _, rfl⟩
  have hn := bin2int_natToBits_of_lt (w := 11) h
  rw [e] at hn
  have e' : ac13OfN25 n = [b0, b1, b2, b3, b4, b5, false, b6, true, b7, b8, b9, b10] := by
    unfold ac13OfN25; rw [e]; rfl
  rw [e']
  unfold altitude13
  simp only
  rw [if_neg (bin2int_ne_zero (by simp)), hn, Int.natCast_mul]
  rfl

/-- M = 1: metres converted to feet, `⌊N·3.28084⌋`, for every `0 < N < 4096`. -/
theorem metric_roundtrip (n : Nat) (_ : 0 < n) (h : n < 4096) :
    altitude13 (ac13OfMetric n) = .val (some (((n * 328084 / 100000 : Nat) : Int))) :=
  altitude13_metric n h

/-- The all-zero code is "no altitude". -/
theorem zero_code_none : altitude13 (natToBits 13 0) = .val none := by decide

/-- Illegal Gillham patterns (C1 C2 C4 ∈ {000, 101, 111}) decode to `None` for every 500-ft field. -/
theorem illegal_gillham_none (g : Nat) (h : g < 256) :
    alt13 (bin2int (ac13OfGillham g 0)) = none ∧ alt13 (bin2int (ac13OfGillham g 5)) = none ∧
    alt13 (bin2int (ac13OfGillham g 7)) = none := by
  rw [alt13_gillham g 0 h (by omega), alt13_gillham g 5 h (by omega), alt13_gillham g 7 h (by omega)]
  exact ⟨rfl, rfl, rfl⟩

/-! Frame level: the decoders read exactly the AC field and ignore every other bit. -/

/-- DF 0/4/16/20, any frame of at least 32 bits: the result is the Annex 10 altitude of bits 20–32
    (a function of the DF and the AC field only); every other DF is rejected. -/
theorem altcode_frame (bits : Bits) (h : 32 ≤ bits.length) :
    altcodeB bits =
      if dfB bits = 0 ∨ dfB bits = 4 ∨ dfB bits = 16 ∨ dfB bits = 20
      then .val (alt13 (bin2int (slice 19 32 bits))) else .rte := by
  unfold altcodeB
  rw [altitude13_spec _ (slice_length_of_le h)]
  exact Fields.rte_unless (by simp only [not_or]) _

/-- The string-level `py_common.altcode` is that function of `hex2bin(msg)`. -/
theorem altcode_msg (m : Msg) : altcode m = altcodeB (hex2binM m) := altcode_eq m

/-- `surv.altitude`: DF 4 only (DF 5 carries an identity code). -/
theorem surv_altitude_frame (bits : Bits) (h : 32 ≤ bits.length) :
    survAltitude bits = if dfB bits = 4 then .val (alt13 (bin2int (slice 19 32 bits))) else .rte := by
  unfold survAltitude
  rw [Fields.survGuard_eq, altcode_frame bits h]
  by_cases h4 : dfB bits = 4
  · simp [h4]
  · by_cases h5 : dfB bits = 5
    · simp [h5]
    · simp [h4, h5]

/-- The 12-bit ADS-B altitude field (ME bits 9–20) with the M bit re-inserted as 0. -/
def ac13OfAdsb (bits : Bits) : Bits := slice 40 46 bits ++ [false] ++ slice 46 52 bits

/-- `adsb.altitude` / `bds05.altitude` on any 112-bit frame: TC 9–18 barometric code (12-bit field,
    M = 0), TC 20–22 GNSS height in metres × 3.28084, TC 5–8 zero, RuntimeError otherwise.
    The result is a function of DF, TC and ME bits 9–20 only. -/
theorem adsb_altitude_frame (bits : Bits) (h : bits.length = 112) :
    adsbAltitude bits =
      match tcB bits with
      | none => .rte
      | some tc =>
        if 5 ≤ tc ∧ tc ≤ 8 then .val (some 0)
        else if 9 ≤ tc ∧ tc ≤ 18 then .val (optIntToRat (alt13 (bin2int (ac13OfAdsb bits))))
        else if 20 ≤ tc ∧ tc ≤ 22 then .val (some ((bin2int (slice 40 52 bits) : Rat) * 328084 / 100000))
        else .rte := by
  unfold adsbAltitude
  cases htc : tcB bits with
  | none => rfl
  | some tc =>
    have hl : (ac13OfAdsb bits).length = 13 := by
      unfold ac13OfAdsb
      rw [List.length_append, List.length_append, slice_length_of_le (by omega), slice_length_of_le (by omega)]
      rfl
    have ha : altitude13 (slice 40 46 bits ++ [false] ++ slice 46 52 bits) = .val (alt13 (bin2int (ac13OfAdsb bits))) :=
      altitude13_spec (ac13OfAdsb bits) hl
    simp only
    rw [altitude05_frame bits h tc htc, ha, Res.bind_val, Res.pure_eq]
    by_cases g1 : tc < 5 ∨ tc = 19 ∨ tc > 22
    · rw [if_pos g1, if_neg (by omega), if_neg (by omega), if_neg (by omega)]
    rw [if_neg g1]
    by_cases g2 : 5 ≤ tc ∧ tc ≤ 8
    · rw [if_pos g2, if_pos g2]
    rw [if_neg g2, if_neg g2, if_neg (by omega)]
    by_cases g3 : tc < 19
    · rw [if_pos g3, if_pos (by omega)]
    · rw [if_neg g3, if_neg (by omega), if_pos (by omega)]

/-- non-vacuity: a real frame from tests/ (TC 11, 39000 ft) -/
example : adsbAltitude (hex2bin "8D40058B58C901375147EFD09357") = .val (some 39000) := by decide +kernel

end PyModeS.C07
