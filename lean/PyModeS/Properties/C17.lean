/-
  C17 — Live aircraft table: robust, correct positions, bounded staleness.
-/
import PyModeS.Model.Tracker
import PyModeS.Properties.C02
import PyModeS.Proofs.Tracker.Process
import PyModeS.Proofs.Tracker.Case
import PyModeS.Proofs.Tracker.NoCrash
import PyModeS.Proofs.Tracker.Position
import PyModeS.Proofs.Tracker.Quant
import PyModeS.Properties.C03
import PyModeS.Properties.C04
namespace PyModeS.C17

/-- after a call, every listed aircraft was heard at most `cache_timeout` (+ the truncation of `int(t)`) ago:
    nothing older than `tnow - live > 60` survives the clean-up -/
theorem stale_removed (ias : Rat → Int → Rat) (tr tr' : Tracker) (adsb commb : List (Rat × Msg)) (tnow : Rat)
    (h : processRaw ias tr adsb commb tnow = .val tr') :
    ∀ p ∈ tr'.acs, ¬ (tnow - (p.2.live : Rat) > (Tables.cacheTimeout : Rat)) := by
  obtain ⟨_, tr2, _, _, rfl⟩ := Tracker.processRaw_val h
  intro p hp
  simpa [Tracker.keep] using (List.mem_filter.1 hp).2

open PyModeS.Tracker (keys keyOf)

/-- the real DF17 identification frame (TC 4) and the real DF20 reply used in the examples below -/
def exAdsb : Msg := "8D406B902015A678D4D220AA4BDA".toList
def exCommb : Msg := "A0001839CA3800315800007448D9".toList
def exAdsb2 : Msg := "8D400940000000000000000C0F7E".toList

/-- vocabulary: `keys` is the key list of the dict in insertion order, `keyOf m` the key
    `process_raw` files a message under (`pms.icao(msg)`, Python `None` rendered as "None") -/
theorem keys_def (acs : List (Msg × Ac)) : keys acs = acs.map (·.1) := rfl
theorem keyOf_def (m : Msg) : keyOf m = (icao m).getD "None".toList := rfl

/-- table obligation -/
theorem cacheTimeout_eq : Tables.cacheTimeout = 60 := Tracker.cacheTimeout_eq

/-! ### `int(t)`: truncation toward zero -/

/-- `int(t)` is within one second of `t`, for every rational `t` -/
theorem pyInt_bounds (t : Rat) : (pyInt t : Rat) ≤ t + 1 ∧ t - 1 < (pyInt t : Rat) :=
  Tracker.pyInt_bounds t

theorem pyInt_of_nonneg (t : Rat) (h : 0 ≤ t) : (pyInt t : Rat) ≤ t ∧ t < (pyInt t : Rat) + 1 :=
  Tracker.pyInt_nonneg_bounds t h

theorem pyInt_of_neg (t : Rat) (h : t < 0) : t ≤ (pyInt t : Rat) ∧ (pyInt t : Rat) < t + 1 :=
  Tracker.pyInt_neg_bounds t h

/-- both at once: strictly less than one second off -/
theorem pyInt_abs_lt (t : Rat) : t - 1 < (pyInt t : Rat) ∧ (pyInt t : Rat) < t + 1 :=
  Tracker.pyInt_abs_lt t

theorem pyInt_mono {s t : Rat} (h : s ≤ t) : pyInt s ≤ pyInt t := Tracker.pyInt_mono h

example : pyInt (7/2) = 3 ∧ pyInt (-7/2) = -3 ∧ pyInt 0 = 0 ∧ pyInt (-1/2) = 0 := by decide +kernel

/-! ### Keys are only ever added by ADS-B messages -/

/-- a Comm-B step never adds (or removes, or reorders) a key -/
theorem commbStep_keys (ias : Rat → Int → Rat) (tr tr' : Tracker) (t : Rat) (m : Msg)
    (h : commbStep ias tr t m = .val tr') : tr'.acs.map (·.1) = tr.acs.map (·.1) :=
  Tracker.commbStep_keys h

/-- Comm-B gating: a reply whose address is not in the table leaves the table exactly as it is -/
theorem commb_gated (ias : Rat → Int → Rat) (tr : Tracker) (t : Rat) (m : Msg)
    (h : keyOf m ∉ keys tr.acs) : commbStep ias tr t m = .val tr :=
  Tracker.commbStep_unknown ias tr t m (Tracker.acsGet_of_not_mem h)

/-- … and for a known address only `live` of that record changes (to `max(live, int(t))`) -/
theorem commb_known (ias : Rat → Int → Rat) (tr tr' : Tracker) (t : Rat) (m : Msg)
    (h : commbStep ias tr t m = .val tr') (hk : keyOf m ∈ keys tr.acs) :
    ∃ ac, acsGet tr.acs (keyOf m) = some ac ∧
      tr' = { tr with acs := acsSet tr.acs (keyOf m) { ac with live := max ac.live (pyInt t) } } := by
  rcases Tracker.commbStep_val h with ⟨hn, _⟩ | h2
  · obtain ⟨a, ha⟩ := Tracker.acsGet_of_mem hk
    rw [hn] at ha; cases ha
  · exact h2

/-- an ADS-B step adds at most the key `icao(msg)`, keeps all others, and that key is present afterwards -/
theorem adsbStep_keys (tr tr' : Tracker) (t : Rat) (m : Msg) (h : adsbStep tr t m = .val tr') :
    (∀ k ∈ keys tr'.acs, k ∈ keys tr.acs ∨ k = keyOf m) ∧ (∀ k ∈ keys tr.acs, k ∈ keys tr'.acs) ∧
    keyOf m ∈ keys tr'.acs :=
  Tracker.adsbStep_keys h

/-- **keys_grow_only_by_adsb** — after `process_raw`, every listed key was in the table before or
    is the address of one of the ADS-B messages of this call; Comm-B messages contribute no key. -/
theorem keys_grow_only_by_adsb (ias : Rat → Int → Rat) (tr tr' : Tracker) (adsb commb : List (Rat × Msg))
    (tnow : Rat) (h : processRaw ias tr adsb commb tnow = .val tr') :
    ∀ k ∈ keys tr'.acs, k ∈ keys tr.acs ∨ ∃ p ∈ adsb, k = keyOf p.2 := by
  obtain ⟨tr1, tr2, h1, h2, rfl⟩ := Tracker.processRaw_val h
  intro k hk
  have hk2 := Tracker.filter_keys_subset _ _ k hk
  rw [Tracker.commbFold_keys h2] at hk2
  exact (Tracker.adsbFold_keys h1).1 k hk2

/-- the table stays a dict: if no key occurs twice before the call, none does after it
    (so `acsGet`, which returns the first match, reads THE record of a key) -/
theorem keys_nodup (ias : Rat → Int → Rat) (tr tr' : Tracker) (adsb commb : List (Rat × Msg)) (tnow : Rat)
    (h : processRaw ias tr adsb commb tnow = .val tr') (hn : (keys tr.acs).Nodup) : (keys tr'.acs).Nodup :=
  Tracker.processRaw_nodup h hn

example : (keys ({} : Tracker).acs).Nodup := by decide

/-! ### `live` -/

/-- **live_after_adsb** — after an ADS-B step the sender is in the table with `live = int(t)` -/
theorem live_after_adsb (tr tr' : Tracker) (t : Rat) (m : Msg) (h : adsbStep tr t m = .val tr') :
    ∃ ac', acsGet tr'.acs (keyOf m) = some ac' ∧ ac'.live = pyInt t :=
  Tracker.adsbStep_live h

/-- a Comm-B step only raises `live` (`max`), and only for its own address -/
theorem commb_only_raises_live (ias : Rat → Int → Rat) (tr tr' : Tracker) (t : Rat) (m : Msg)
    (h : commbStep ias tr t m = .val tr') (k : Msg) (ac : Ac) (hg : acsGet tr.acs k = some ac) :
    ∃ ac', acsGet tr'.acs k = some ac' ∧ ac.live ≤ ac'.live ∧
      (k = keyOf m → ac'.live = max ac.live (pyInt t)) ∧ (k ≠ keyOf m → ac' = ac) :=
  Tracker.commbStep_live h k ac hg

/-- **live_monotone** — within one call with non-decreasing ADS-B time stamps, every ADS-B message
    `(t, m)` of the batch leaves its sender with `live ≥ int(t)` when the two loops are over (`tr2` is
    the table just before the purge, `keep tnow p = not (tnow - p.live > cache_timeout)`):
    a later message of the same call never moves `live` backwards. -/
theorem live_monotone (ias : Rat → Int → Rat) (tr tr' : Tracker) (adsb commb : List (Rat × Msg)) (tnow : Rat)
    (h : processRaw ias tr adsb commb tnow = .val tr')
    (hs : adsb.Pairwise (fun p q => p.1 ≤ q.1)) (t : Rat) (m : Msg) (hm : (t, m) ∈ adsb) :
    ∃ tr2 : Tracker, tr'.acs = tr2.acs.filter (Tracker.keep tnow) ∧
      ∃ ac', acsGet tr2.acs (keyOf m) = some ac' ∧ pyInt t ≤ ac'.live := by
  obtain ⟨tr1, tr2, h1, h2, rfl⟩ := Tracker.processRaw_val h
  exact ⟨tr2, rfl, Tracker.commbFold_liveGe h2 _ _ (Tracker.adsbFold_heard_sorted h1 hs hm)⟩

/-- (the purge predicate used above) -/
theorem keep_def (tnow : Rat) (p : Msg × Ac) :
    Tracker.keep tnow p = !decide (tnow - (p.2.live : Rat) > (Tables.cacheTimeout : Rat)) := rfl

/-! ### Who is listed after a call -/

/-- **listed_if_recent** — non-decreasing ADS-B time stamps: an aircraft heard in this call by an
    ADS-B message at time `t` with `tnow - t ≤ 59` is listed afterwards, with `live ≥ int(t)`.
    (`int(t) > t - 1`, so `tnow - live < 60`, and the purge keeps everything with `tnow - live ≤ 60`.) -/
theorem listed_if_recent (ias : Rat → Int → Rat) (tr tr' : Tracker) (adsb commb : List (Rat × Msg)) (tnow : Rat)
    (h : processRaw ias tr adsb commb tnow = .val tr')
    (hs : adsb.Pairwise (fun p q => p.1 ≤ q.1)) (t : Rat) (m : Msg) (hm : (t, m) ∈ adsb)
    (hrecent : tnow - t ≤ 59) :
    keyOf m ∈ keys tr'.acs ∧ ∃ ac', acsGet tr'.acs (keyOf m) = some ac' ∧ pyInt t ≤ ac'.live := by
  obtain ⟨tr1, tr2, h1, h2, rfl⟩ := Tracker.processRaw_val h
  exact Tracker.liveGe_listed (Tracker.commbFold_liveGe h2 _ _ (Tracker.adsbFold_heard_sorted h1 hs hm)) hrecent

/-- the same without any ordering assumption on the batch, for a message that is followed (in the
    batch) only by messages which, if from the same address, have `int(t') ≥ int(t)` — in
    particular for the LAST message of each address -/
theorem listed_if_recent_last (ias : Rat → Int → Rat) (tr tr' : Tracker) (pre post commb : List (Rat × Msg))
    (tnow : Rat) (t : Rat) (m : Msg)
    (h : processRaw ias tr (pre ++ (t, m) :: post) commb tnow = .val tr')
    (hpost : ∀ p ∈ post, keyOf p.2 = keyOf m → pyInt t ≤ pyInt p.1)
    (hrecent : tnow - t ≤ 59) :
    keyOf m ∈ keys tr'.acs ∧ ∃ ac', acsGet tr'.acs (keyOf m) = some ac' ∧ pyInt t ≤ ac'.live := by
  obtain ⟨tr1, tr2, h1, h2, rfl⟩ := Tracker.processRaw_val h
  exact Tracker.liveGe_listed (Tracker.commbFold_liveGe h2 _ _ (Tracker.adsbFold_heard h1 hpost)) hrecent

/-- heard by Comm-B: a reply at `t` with `tnow - t ≤ 59` from an address that is in the table when
    the Comm-B loop starts (it was there before the call, or sent ADS-B in this call) keeps it listed -/
theorem listed_if_recent_commb (ias : Rat → Int → Rat) (tr tr' : Tracker) (adsb commb : List (Rat × Msg))
    (tnow : Rat) (h : processRaw ias tr adsb commb tnow = .val tr') (t : Rat) (m : Msg) (hm : (t, m) ∈ commb)
    (hknown : keyOf m ∈ keys tr.acs ∨ ∃ p ∈ adsb, keyOf m = keyOf p.2) (hrecent : tnow - t ≤ 59) :
    keyOf m ∈ keys tr'.acs ∧ ∃ ac', acsGet tr'.acs (keyOf m) = some ac' ∧ pyInt t ≤ ac'.live := by
  obtain ⟨tr1, tr2, h1, h2, rfl⟩ := Tracker.processRaw_val h
  have hk1 : keyOf m ∈ keys tr1.acs := by
    rcases hknown with hk | ⟨p, hp, e⟩
    · exact (Tracker.adsbFold_keys h1).2.1 _ hk
    · rw [e]; exact (Tracker.adsbFold_keys h1).2.2 p hp
  exact Tracker.liveGe_listed (Tracker.commbFold_heard h2 hm hk1) hrecent

/-- **absent_if_silent** — `L` bounds every `live` stamp the address `k` can end the loops with:
    the stamps of its records before the call and `int(t)` of every message (ADS-B or Comm-B) of this
    call filed under `k`.  If `tnow - L > 60` the address is not listed afterwards.
    (An address not touched by the call: `hadsb`, `hcommb` hold vacuously — this is `stale_removed`
    read as a statement about keys.) -/
theorem absent_if_silent (ias : Rat → Int → Rat) (tr tr' : Tracker) (adsb commb : List (Rat × Msg)) (tnow : Rat)
    (h : processRaw ias tr adsb commb tnow = .val tr') (k : Msg) (L : Int)
    (hold : ∀ p ∈ tr.acs, p.1 = k → p.2.live ≤ L)
    (hadsb : ∀ p ∈ adsb, keyOf p.2 = k → pyInt p.1 ≤ L)
    (hcommb : ∀ p ∈ commb, keyOf p.2 = k → pyInt p.1 ≤ L)
    (hsilent : tnow - (L : Rat) > 60) : k ∉ keys tr'.acs := by
  obtain ⟨tr1, tr2, h1, h2, rfl⟩ := Tracker.processRaw_val h
  exact Tracker.liveLe_purged (Tracker.commbFold_liveLe h2 k L (Tracker.adsbFold_liveLe h1 k L hold hadsb) hcommb)
    hsilent

/-- **absent_after_61** — the 61-second form: if everything known about `k` — its stored stamps
    (each `live` is the `int` of the time it was last heard) and every message of this call — dates
    from time `T` or earlier, and `tnow - T > 61`, then `k` is absent after the call. -/
theorem absent_after_61 (ias : Rat → Int → Rat) (tr tr' : Tracker) (adsb commb : List (Rat × Msg)) (tnow : Rat)
    (h : processRaw ias tr adsb commb tnow = .val tr') (k : Msg) (T : Rat)
    (hold : ∀ p ∈ tr.acs, p.1 = k → ∃ t0, t0 ≤ T ∧ p.2.live = pyInt t0)
    (hadsb : ∀ p ∈ adsb, keyOf p.2 = k → p.1 ≤ T)
    (hcommb : ∀ p ∈ commb, keyOf p.2 = k → p.1 ≤ T)
    (hsilent : tnow - T > 61) : k ∉ keys tr'.acs := by
  apply absent_if_silent ias tr tr' adsb commb tnow h k (pyInt T)
  · intro p hp hk
    obtain ⟨t0, ht0, e⟩ := hold p hp hk
    rw [e]; exact Tracker.pyInt_mono ht0
  · intro p hp hk; exact Tracker.pyInt_mono (hadsb p hp hk)
  · intro p hp hk; exact Tracker.pyInt_mono (hcommb p hp hk)
  · exact Tracker.pyInt_silent hsilent

/-! ### Letter case -/

/-- **case_insensitive** — a hex message in lower case (or upper case) takes `adsbStep` and
    `commbStep` to exactly the same result as the original spelling: the key `icao(msg)` is
    canonical (C02) and every other use of the message goes through `hex2bin`. -/
theorem case_insensitive (ias : Rat → Int → Rat) (tr : Tracker) (t : Rat) (m : Msg)
    (hm : ∀ c ∈ m, (hexVal? c).isSome) :
    adsbStep tr t (m.map Char.toLower) = adsbStep tr t m ∧
    adsbStep tr t (m.map Char.toUpper) = adsbStep tr t m ∧
    commbStep ias tr t (m.map Char.toLower) = commbStep ias tr t m ∧
    commbStep ias tr t (m.map Char.toUpper) = commbStep ias tr t m ∧
    keyOf (m.map Char.toLower) = keyOf m ∧ keyOf (m.map Char.toUpper) = keyOf m :=
  ⟨Tracker.adsbStep_map _ tr t m (Tracker.toLower_ok m hm),
   Tracker.adsbStep_map _ tr t m (Tracker.toUpper_ok m hm),
   Tracker.commbStep_map ias _ tr t m (Tracker.toLower_ok m hm),
   Tracker.commbStep_map ias _ tr t m (Tracker.toUpper_ok m hm),
   by unfold Tracker.keyOf; rw [(PyModeS.C02.icao_case_insensitive m hm).1],
   by unfold Tracker.keyOf; rw [(PyModeS.C02.icao_case_insensitive m hm).2]⟩

/-- whole calls: lower-casing every message of both batches gives the identical table -/
theorem processRaw_case_insensitive (ias : Rat → Int → Rat) (tr : Tracker) (adsb commb : List (Rat × Msg))
    (tnow : Rat) (hm : ∀ p ∈ adsb ++ commb, ∀ c ∈ p.2, (hexVal? c).isSome) :
    processRaw ias tr (adsb.map (fun p => (p.1, p.2.map Char.toLower)))
        (commb.map (fun p => (p.1, p.2.map Char.toLower))) tnow = processRaw ias tr adsb commb tnow ∧
    processRaw ias tr (adsb.map (fun p => (p.1, p.2.map Char.toUpper)))
        (commb.map (fun p => (p.1, p.2.map Char.toUpper))) tnow = processRaw ias tr adsb commb tnow :=
  ⟨Tracker.processRaw_map ias _ tr adsb commb tnow (fun p hp => Tracker.toLower_ok p.2 (hm p hp)),
   Tracker.processRaw_map ias _ tr adsb commb tnow (fun p hp => Tracker.toUpper_ok p.2 (hm p hp))⟩

/-! ### `process_raw` never raises

  Invariant of the table (`TrackerWF`): in every record, `tpos` set implies `lat` and `lon` set
  (otherwise `position_with_ref(msg, None, None)` is reachable: TypeError), and a stored NIC
  supplement `nic_s` is 0 or 1 (otherwise `TC_NICv1_lookup[tc][nic_s]` is a KeyError).  It holds for
  `Decode()`'s empty table and is preserved by every step.

  The decoder facts needed ("on a 112-bit frame whose type code is in the range under which
  `process_raw` makes the call, the decoder returns a value") are `Proofs/Tracker/NoCrashDecoders.lean`
  for the ADS-B decoders and `Tracker.infer_ok` (`Proofs/Tracker/NoCrashInfer.lean`) for `infer`; the
  latter, as a proposition, is `DecodersTotal`, the hypothesis of the two `_partial` theorems.
  Caveats of the model: the model of the Comm-B loop stops at
  `pms.bds.infer` (the BDS 4,4/5,0/6,0 field decoders `process_raw` runs afterwards are not part of
  `commbStep`); a non-hex character is read as 0 where Python raises; an ADS-B-list message whose
  DF is not 17/18 DOES raise (`typecode` is `None`, `1 <= None`: TypeError) — hence `hdf`. -/

open PyModeS.Tracker (TrackerWF AcWF DecodersTotal processHistory)

theorem trackerWF_def (tr : Tracker) : TrackerWF tr ↔ ∀ p ∈ tr.acs,
    (p.2.tpos.isSome → p.2.lat.isSome ∧ p.2.lon.isSome) ∧ (∀ s, p.2.nicS = some s → s ≤ 1) := Iff.rfl

theorem trackerWF_empty : TrackerWF {} := Tracker.trackerWF_empty

/-- one field, about `pms.bds.infer` -/
theorem decodersTotal_def : DecodersTotal ↔
    ∀ (ias : Rat → Int → Rat) (bits : Bits), bits.length = 112 → ∃ v, infer ias bits false = .val v :=
  ⟨fun D => D.infer, fun h => ⟨h⟩⟩

/-- … and it holds -/
theorem decodersTotal : DecodersTotal := Tracker.decodersTotal

/-- **process_no_crash_partial** — one ADS-B message: on a 28-digit DF17/18 message and a
    well-formed table, `adsbStep` returns a value (neither `RuntimeError` nor any other exception)
    and the table stays well-formed.  `DecodersTotal` is a hypothesis the proof does not use;
    `process_no_crash` is the same statement without it. -/
theorem process_no_crash_partial (D : DecodersTotal) (tr : Tracker) (hwf : TrackerWF tr) (t : Rat) (m : Msg)
    (hlen : m.length = 28) (hdf : df m = 17 ∨ df m = 18) :
    (∃ tr', adsbStep tr t m = .val tr' ∧ TrackerWF tr') ∧ adsbStep tr t m ≠ .exc ∧ adsbStep tr t m ≠ .rte :=
  have _ := D
  ⟨Tracker.adsbStep_no_crash tr hwf t m hlen hdf, Tracker.adsbStep_ne_exc_rte tr hwf t m hlen hdf⟩

/-- unconditional form -/
theorem process_no_crash (tr : Tracker) (hwf : TrackerWF tr) (t : Rat) (m : Msg)
    (hlen : m.length = 28) (hdf : df m = 17 ∨ df m = 18) :
    (∃ tr', adsbStep tr t m = .val tr' ∧ TrackerWF tr') ∧ adsbStep tr t m ≠ .exc ∧ adsbStep tr t m ≠ .rte :=
  process_no_crash_partial decodersTotal tr hwf t m hlen hdf

/-- one Comm-B message of 28 digits (any DF): returns a value, table stays well-formed -/
theorem commb_no_crash (ias : Rat → Int → Rat) (tr : Tracker) (hwf : TrackerWF tr) (t : Rat) (m : Msg)
    (hlen : m.length = 28) : ∃ tr', commbStep ias tr t m = .val tr' ∧ TrackerWF tr' :=
  Tracker.commbStep_no_crash ias tr hwf t m hlen

/-- **process_raw_no_crash** — a whole call: every ADS-B message a 28-digit DF17/18 message, every
    Comm-B message 28 digits, any time stamps (monotonicity is not needed for this), any `tnow`:
    `process_raw` returns a table, and it is well-formed again. -/
theorem process_raw_no_crash (ias : Rat → Int → Rat) (tr : Tracker) (hwf : TrackerWF tr)
    (adsb commb : List (Rat × Msg)) (tnow : Rat)
    (ha : ∀ p ∈ adsb, p.2.length = 28 ∧ (df p.2 = 17 ∨ df p.2 = 18))
    (hc : ∀ p ∈ commb, p.2.length = 28) :
    ∃ tr', processRaw ias tr adsb commb tnow = .val tr' ∧ TrackerWF tr' :=
  Tracker.process_raw_no_crash ias tr hwf adsb commb tnow ha hc

/-- the same with `DecodersTotal` (which holds: `decodersTotal`) as a hypothesis the proof does not use -/
theorem process_raw_no_crash_partial (D : DecodersTotal) (ias : Rat → Int → Rat) (tr : Tracker) (hwf : TrackerWF tr)
    (adsb commb : List (Rat × Msg)) (tnow : Rat)
    (ha : ∀ p ∈ adsb, p.2.length = 28 ∧ (df p.2 = 17 ∨ df p.2 = 18))
    (hc : ∀ p ∈ commb, p.2.length = 28) :
    ∃ tr', processRaw ias tr adsb commb tnow = .val tr' ∧ TrackerWF tr' :=
  have _ := D
  Tracker.process_raw_no_crash ias tr hwf adsb commb tnow ha hc

/-- **history_no_crash** — "for any history …": any sequence of such calls, starting from a fresh
    `Decode()`, returns normally at every call (`processHistory` folds `processRaw` over the calls
    `(adsb, commb, tnow)`; a prefix of a history is a history, so every intermediate call returned) -/
theorem history_no_crash (ias : Rat → Int → Rat)
    (calls : List (List (Rat × Msg) × List (Rat × Msg) × Rat))
    (h : ∀ c ∈ calls, (∀ p ∈ c.1, p.2.length = 28 ∧ (df p.2 = 17 ∨ df p.2 = 18)) ∧ (∀ p ∈ c.2.1, p.2.length = 28)) :
    ∃ tr', processHistory ias {} calls = .val tr' ∧ TrackerWF tr' :=
  Tracker.processRaw_history_no_crash ias calls h

theorem processHistory_def (ias : Rat → Int → Rat) (tr : Tracker)
    (calls : List (List (Rat × Msg) × List (Rat × Msg) × Rat)) :
    processHistory ias tr calls = foldRes (fun tr c => processRaw ias tr c.1 c.2.1 c.2.2) tr calls := rfl

/-- hypotheses met by the frames of the examples below; and the DF precondition is sharp: a DF20
    frame in the ADS-B list makes the model (like Python) raise -/
example : exAdsb.length = 28 ∧ df exAdsb = 17 ∧ exAdsb2.length = 28 ∧ df exAdsb2 = 17 ∧ exCommb.length = 28 ∧
    TrackerWF {} ∧ (adsbStep {} 0 exCommb).isExc = true :=
  ⟨by decide, by decide +kernel, by decide, by decide +kernel, by decide, trackerWF_empty, by decide +kernel⟩

/-! ### Stored positions are the positions carried by the updating frame

  Property, last clause (full statement): "For an aircraft flying any continuous trajectory at up
  to 600 kt and broadcasting CPR positions, every latitude/longitude the table stores is within
  0.001 degree of the aircraft's true position at the message that caused the update."

  Proved here (`…_partial`): the algebraic chain
    stored position = position carried by the updating frame   (`position_invariant_partial`,
        `position_invariant_surface_partial`: (a) reference branch, via C04.ref_decode;
        `position_pair_partial`, `position_pair_global_partial`: (b) pair branch, via C03.global_decode)
    (c) |carried − true| ≤ half a quantisation step < 0.001°   (`carried_within_0_001`)
  under the decoders' box hypotheses (reference within half a zone of the carried position; the
  two frames of a pair within 3/59° in latitude, same NL, longitudes within half the even/odd
  zone offset).  MISSING, and not a theorem here: the geometric step that "continuous trajectory
  at ≤ 600 kt" together with the code's 180 s / 10 s windows implies those box hypotheses, and the
  pair-branch longitude is obtained modulo 360 only (C03).  `e = Spec.cprEncode cprNL base i lat lon`
  is the DO-260B encoding of the true position `(lat, lon)`; the frame `m` is tied to it by
  `hf` (its CPR fields read back as `e.yz`, `e.xz`, format bit `i`). -/

open PyModeS.Tracker (SamePos startAc filedAc GateOpen pairTarget)

/-- vocabulary of this section -/
theorem position_defs (tr : Tracker) (t : Rat) (m : Msg) (oe : Nat) (bits : Bits) (tc : Nat) :
    startAc tr t m = { (acsGet tr.acs (keyOf m)).getD { live := 0 } with live := pyInt t } ∧
    filedAc tr t m oe =
      (if oe = 0 then { startAc tr t m with m0 := some (hex2binM m), t0 := some t }
       else { startAc tr t m with m1 := some (hex2binM m), t1 := some t }) ∧
    (GateOpen bits tc ↔ (((5 ≤ tc ∧ tc ≤ 8) ∨ tc = 19) → velocityGate bits = .val (some (true, false, false)))) :=
  ⟨rfl, rfl, Iff.rfl⟩

/-- generic reference branch (any position type code 5–18 that passes the velocity gate): if
    `position_with_ref(msg, lat, lon)` on the stored position returns `(X, Y)`, that is what is stored -/
theorem position_ref_generic (tr : Tracker) (hwf : TrackerWF tr) (t : Rat) (m : Msg)
    (hlen : m.length = 28) (hdf : df m = 17 ∨ df m = 18) (tc : Nat)
    (htc : typecode m = some tc) (h518 : 5 ≤ tc ∧ tc ≤ 18) (hgate : GateOpen (hex2binM m) tc)
    (ac0 : Ac) (hget : acsGet tr.acs (keyOf m) = some ac0)
    (tp la lo X Y : Rat) (htp : ac0.tpos = some tp) (hrecent : t - tp < 180)
    (hla : ac0.lat = some la) (hlo : ac0.lon = some lo)
    (hpwr : positionWithRef (hex2binM m) la lo = .val (X, Y)) :
    ∃ tr' ac', adsbStep tr t m = .val tr' ∧ TrackerWF tr' ∧ acsGet tr'.acs (keyOf m) = some ac' ∧
      ac'.lat = some X ∧ ac'.lon = some Y ∧ ac'.tpos = some t ∧ ac'.live = pyInt t := by
  have hs := Tracker.startAc_of_get (t := t) hget
  obtain ⟨tr', hv, hwf', oe, _, hst⟩ := Tracker.adsbStep_total hwf hlen hdf <| Tracker.adsbStep_ref_rall tr t m tc htc
    h518 hgate tp la lo X Y (by rw [hs]; exact htp) hrecent (by rw [hs]; exact hla) (by rw [hs]; exact hlo) hpwr
  obtain ⟨a', hg, p1, _, _, _, _, p6, p7, p8⟩ := hst.get
  exact ⟨tr', a', hv, hwf', hg, p7, p8, p6, p1.trans (Tracker.filedAc_keeps tr t m oe).1⟩

/-- **position_invariant_partial** (a, airborne) — `m` is a 28-digit DF17/18 airborne position
    message (TC 9–18) carrying the encoding `e` of the true position, the sender's record holds a
    position `(la, lo)` younger than 180 s that lies in the open half-zone box around the carried
    position (longitude up to `s` zones): then `adsbStep` returns, and the record now holds
    EXACTLY the carried position `(e.rlat, e.rlon + e.dlon·s)` with `tpos = t`. -/
theorem position_invariant_partial (tr : Tracker) (hwf : TrackerWF tr) (t : Rat) (m : Msg)
    (hlen : m.length = 28) (hdf : df m = 17 ∨ df m = 18) (tc : Nat)
    (htc : typecode m = some tc) (hair : 9 ≤ tc ∧ tc ≤ 18)
    (i : ℕ) (hi : i = 0 ∨ i = 1) (lat lon : ℚ) (e : Spec.Enc) (he : e = Spec.cprEncode cprNL 360 i lat lon)
    (hf : cprFields (hex2binM m) = .val ⟨decide (i = 1), e.yz, e.xz⟩)
    (ac0 : Ac) (hget : acsGet tr.acs (keyOf m) = some ac0)
    (tp la lo : ℚ) (htp : ac0.tpos = some tp) (hrecent : t - tp < 180)
    (hla : ac0.lat = some la) (hlo : ac0.lon = some lo)
    (s : ℤ) (hlat : |la - e.rlat| < e.dlat / 2) (hlon : |lo - (e.rlon + e.dlon * s)| < e.dlon / 2) :
    ∃ tr' ac', adsbStep tr t m = .val tr' ∧ TrackerWF tr' ∧ acsGet tr'.acs (keyOf m) = some ac' ∧
      ac'.lat = some e.rlat ∧ ac'.lon = some (e.rlon + e.dlon * s) ∧ ac'.tpos = some t ∧
      ac'.live = pyInt t := by
  have htcB : tcB (hex2binM m) = some tc := by rw [← typecode_eq]; exact htc
  have hpwr := Tracker.positionWithRef_airborne (hex2binM m) tc htcB (Or.inl hair) _ hf la lo
  rw [PyModeS.C04.ref_decode cprNL 360 (by norm_num) i hi lat lon la lo e he s hlat hlon] at hpwr
  exact position_ref_generic tr hwf t m hlen hdf tc htc (by omega) (fun h => by omega) ac0 hget
    tp la lo _ _ htp hrecent hla hlo hpwr

/-- **position_invariant_surface_partial** (a, surface) — the same for a surface position message
    (TC 5–8, `base = 90`) that the velocity gate lets through (`velocityGate = (GS, speed, track)`
    all present) -/
theorem position_invariant_surface_partial (tr : Tracker) (hwf : TrackerWF tr) (t : Rat) (m : Msg)
    (hlen : m.length = 28) (hdf : df m = 17 ∨ df m = 18) (tc : Nat)
    (htc : typecode m = some tc) (hsurf : 5 ≤ tc ∧ tc ≤ 8)
    (hvel : velocityGate (hex2binM m) = .val (some (true, false, false)))
    (i : ℕ) (hi : i = 0 ∨ i = 1) (lat lon : ℚ) (e : Spec.Enc) (he : e = Spec.cprEncode cprNL 90 i lat lon)
    (hf : cprFields (hex2binM m) = .val ⟨decide (i = 1), e.yz, e.xz⟩)
    (ac0 : Ac) (hget : acsGet tr.acs (keyOf m) = some ac0)
    (tp la lo : ℚ) (htp : ac0.tpos = some tp) (hrecent : t - tp < 180)
    (hla : ac0.lat = some la) (hlo : ac0.lon = some lo)
    (s : ℤ) (hlat : |la - e.rlat| < e.dlat / 2) (hlon : |lo - (e.rlon + e.dlon * s)| < e.dlon / 2) :
    ∃ tr' ac', adsbStep tr t m = .val tr' ∧ TrackerWF tr' ∧ acsGet tr'.acs (keyOf m) = some ac' ∧
      ac'.lat = some e.rlat ∧ ac'.lon = some (e.rlon + e.dlon * s) ∧ ac'.tpos = some t ∧
      ac'.live = pyInt t := by
  have htcB : tcB (hex2binM m) = some tc := by rw [← typecode_eq]; exact htc
  have hpwr := Tracker.positionWithRef_surface (hex2binM m) tc htcB hsurf _ hf la lo
  rw [PyModeS.C04.ref_decode cprNL 90 (by norm_num) i hi lat lon la lo e he s hlat hlon] at hpwr
  exact position_ref_generic tr hwf t m hlen hdf tc htc (by omega) (fun _ => hvel) ac0 hget
    tp la lo _ _ htp hrecent hla hlo hpwr

/-- **position_pair_partial** (b) — no stored position younger than 180 s; after filing the new
    frame under its parity `oe` both parities are on file (`b0` even at `t0`, `b1` odd at `t1`) and
    `|t0 − t1| < 10`: `adsbStep` returns; if `position(b0, b1, t0, t1[, ref])` returns a position it
    is stored with `tpos = t`; if it returns `None` or raises anything (bare `except: continue`)
    the stored position is left exactly as it was. -/
theorem position_pair_partial (tr : Tracker) (hwf : TrackerWF tr) (t : Rat) (m : Msg)
    (hlen : m.length = 28) (hdf : df m = 17 ∨ df m = 18) (tc : Nat)
    (htc : typecode m = some tc) (h518 : 5 ≤ tc ∧ tc ≤ 18) (hgate : GateOpen (hex2binM m) tc)
    (ac0 : Ac) (hget : acsGet tr.acs (keyOf m) = some ac0)
    (hnoref : ∀ tp, ac0.tpos = some tp → ¬ (t - tp < 180))
    (oe : Nat) (hoe : oeFlag (hex2binM m) = .val oe)
    (b0 b1 : Bits) (t0 t1 : Rat)
    (hm0 : (if oe = 0 then some (hex2binM m) else ac0.m0) = some b0)
    (hm1 : (if oe = 0 then ac0.m1 else some (hex2binM m)) = some b1)
    (ht0 : (if oe = 0 then some t else ac0.t0) = some t0)
    (ht1 : (if oe = 0 then ac0.t1 else some t) = some t1)
    (hwin : rabs (t0 - t1) < 10) :
    ∃ tr' ac', adsbStep tr t m = .val tr' ∧ TrackerWF tr' ∧ acsGet tr'.acs (keyOf m) = some ac' ∧
      ac'.m0 = some b0 ∧ ac'.m1 = some b1 ∧ ac'.t0 = some t0 ∧ ac'.t1 = some t1 ∧ ac'.live = pyInt t ∧
      (match position b0 b1 t0 t1 tr.ref with
       | .val (some p) => ac'.lat = some p.1 ∧ ac'.lon = some p.2 ∧ ac'.tpos = some t
       | _ => ac'.lat = ac0.lat ∧ ac'.lon = ac0.lon ∧ ac'.tpos = ac0.tpos) := by
  have hs := Tracker.startAc_of_get (t := t) hget
  obtain ⟨f0, f1, g0, g1⟩ := hs ▸ Tracker.filedAc_frames tr t m oe
  obtain ⟨tr', hv, hwf', hst⟩ := Tracker.adsbStep_total hwf hlen hdf <| Tracker.adsbStep_pair_rall tr t m tc htc h518
    hgate (by rw [hs]; exact hnoref) oe hoe b0 b1 t0 t1 (f0.trans hm0) (f1.trans hm1) (g0.trans ht0) (g1.trans ht1) hwin
  obtain ⟨a', hg, hsp⟩ := hst.get
  obtain ⟨q1, q2, q3, q4, q5, q6⟩ := Tracker.samePos_pairTarget hsp
  obtain ⟨fl, ftp, fla, flo⟩ := Tracker.filedAc_keeps tr t m oe
  rw [fla, flo, ftp, hs] at q6
  exact ⟨tr', a', hv, hwf', hg, q2.trans (f0.trans hm0), q3.trans (f1.trans hm1), q4.trans (g0.trans ht0),
    q5.trans (g1.trans ht1), q1.trans fl, q6⟩

/-- **position_pair_global_partial** (b + C03) — airborne pair: the two frames on file are airborne
    position frames carrying `e0` (even) and `e1` (odd); under the hypotheses of `C03.global_decode`
    the stored latitude is the carried latitude of the NEWER frame and the stored longitude is its
    carried longitude modulo 360, in `(-180, 180]`. -/
theorem position_pair_global_partial (tr : Tracker) (hwf : TrackerWF tr) (t : Rat) (m : Msg)
    (hlen : m.length = 28) (hdf : df m = 17 ∨ df m = 18) (tc : Nat)
    (htc : typecode m = some tc) (hair : 9 ≤ tc ∧ tc ≤ 18)
    (ac0 : Ac) (hget : acsGet tr.acs (keyOf m) = some ac0)
    (hnoref : ∀ tp, ac0.tpos = some tp → ¬ (t - tp < 180))
    (oe : Nat) (hoe : oeFlag (hex2binM m) = .val oe)
    (b0 b1 : Bits) (t0 t1 : Rat)
    (hm0 : (if oe = 0 then some (hex2binM m) else ac0.m0) = some b0)
    (hm1 : (if oe = 0 then ac0.m1 else some (hex2binM m)) = some b1)
    (ht0 : (if oe = 0 then some t else ac0.t0) = some t0)
    (ht1 : (if oe = 0 then ac0.t1 else some t) = some t1)
    (hwin : rabs (t0 - t1) < 10)
    (tc0 tc1 : Nat) (htc0 : tcB b0 = some tc0) (htc1 : tcB b1 = some tc1)
    (hair01 : 9 ≤ tc0 ∧ tc0 ≤ 18 ∧ 9 ≤ tc1 ∧ tc1 ≤ 18)
    (lat0 lon0 lat1 lon1 : ℚ) (e0 e1 : Spec.Enc)
    (he0 : e0 = Spec.cprEncode cprNL 360 0 lat0 lon0) (he1 : e1 = Spec.cprEncode cprNL 360 1 lat1 lon1)
    (hf0 : cprFields b0 = .val ⟨false, e0.yz, e0.xz⟩) (hf1 : cprFields b1 = .val ⟨true, e1.yz, e1.xz⟩)
    (hr0 : -90 ≤ e0.rlat ∧ e0.rlat ≤ 90) (hr1 : -90 ≤ e1.rlat ∧ e1.rlat ≤ 90)
    (hclose : |e0.rlat - e1.rlat| < 3 / 59)
    (hnl : cprNL e0.rlat = cprNL e1.rlat)
    (hlon : 2 ≤ cprNL e0.rlat → ∃ s : ℤ,
      |e0.rlon - e1.rlon - 360 * s| < 180 / ((cprNL e0.rlat : ℚ) * ((cprNL e0.rlat : ℚ) - 1))) :
    ∃ tr' ac' lonS, adsbStep tr t m = .val tr' ∧ TrackerWF tr' ∧ acsGet tr'.acs (keyOf m) = some ac' ∧
      ac'.lat = some (if t0 > t1 then e0.rlat else e1.rlat) ∧ ac'.lon = some lonS ∧
      (∃ z : ℤ, lonS = (if t0 > t1 then e0.rlon else e1.rlon) + 360 * z) ∧ -180 < lonS ∧ lonS ≤ 180 ∧
      ac'.tpos = some t := by
  obtain ⟨tr', ac', hv, hwf', hg, _, _, _, _, _, hpos⟩ := position_pair_partial tr hwf t m hlen hdf tc htc
    (by omega) (fun h => by omega) ac0 hget hnoref oe hoe b0 b1 t0 t1 hm0 hm1 ht0 ht1 hwin
  obtain ⟨lonS, hdec, hz, hlo, hhi⟩ := PyModeS.C03.global_decode cprNL lat0 lon0 lat1 lon1 t0 t1 e0 e1 he0 he1
    hr0 hr1 hclose hnl hlon
  rw [Tracker.position_airborne b0 b1 tc0 tc1 htc0 htc1 (Or.inl hair01) _ _ hf0 hf1 t0 t1 tr.ref, hdec] at hpos
  exact ⟨tr', ac', lonS, hv, hwf', hg, hpos.1, hpos.2.1, hz, hlo, hhi, hpos.2.2⟩

/-! #### (c) the carried position is within half a quantisation step of the true position -/

/-- half a step of the 17-bit grid: `|rlat − lat| ≤ dlat/2^18`, `|rlon − lon| ≤ dlon/2^18`
    (any NL function, any `base > 0`; `dlat = base/(60 − i)`, `dlon = base/max(NL(rlat) − i, 1)`) -/
theorem carried_quantisation (nl : ℚ → ℕ) (base : ℚ) (hb : 0 < base) (i : ℕ) (hi : i = 0 ∨ i = 1)
    (lat lon : ℚ) (e : Spec.Enc) (he : e = Spec.cprEncode nl base i lat lon) :
    |e.rlat - lat| ≤ e.dlat / 2 ^ 18 ∧ |e.rlon - lon| ≤ e.dlon / 2 ^ 18 ∧
    e.dlat = base / (60 - (i : ℚ)) ∧ e.dlon = base / ((max (nl e.rlat - i) 1 : ℕ) : ℚ) :=
  ⟨Tracker.quant_lat nl base hb i hi lat lon e he, Tracker.quant_lon nl base hb i hi lat lon e he,
    by subst he; rfl, Tracker.dlon_eq' nl base i lat lon e he⟩

/-- airborne, in degrees: latitude error ≤ 360/59/2^18 (< 0.0000233°), longitude error ≤ 360/(ni·2^18) -/
theorem carried_quantisation_360 (nl : ℚ → ℕ) (i : ℕ) (hi : i = 0 ∨ i = 1) (lat lon : ℚ) (e : Spec.Enc)
    (he : e = Spec.cprEncode nl 360 i lat lon) :
    |e.rlat - lat| ≤ 360 / 59 / 2 ^ 18 ∧
    |e.rlon - lon| ≤ 360 / ((max (nl e.rlat - i) 1 : ℕ) : ℚ) / 2 ^ 18 ∧
    (360 : ℚ) / 59 / 2 ^ 18 < 233 / 10000000 :=
  ⟨Tracker.quant_lat_360 nl i hi lat lon e he, Tracker.quant_lon_360 nl i hi lat lon e he, by norm_num⟩

/-- **carried_within_0_001** (airborne, base 360): with at least two longitude zones (`ni ≥ 2`,
    i.e. everywhere except within 3° of the poles, where one step is 360/2^18 = 0.00137°) the
    carried position is within 0.001° of the true one in both coordinates -/
theorem carried_within_0_001 (nl : ℚ → ℕ) (i : ℕ) (hi : i = 0 ∨ i = 1) (lat lon : ℚ)
    (e : Spec.Enc) (he : e = Spec.cprEncode nl 360 i lat lon)
    (hni : 2 ≤ max (nl e.rlat - i) 1) :
    |e.rlon - lon| < 1 / 1000 ∧ |e.rlat - lat| < 1 / 1000 :=
  Tracker.carried_within_0_001 nl i hi lat lon e he hni

/-- surface (base 90): unconditionally -/
theorem carried_within_0_001_surface (nl : ℚ → ℕ) (i : ℕ) (hi : i = 0 ∨ i = 1) (lat lon : ℚ)
    (e : Spec.Enc) (he : e = Spec.cprEncode nl 90 i lat lon) :
    |e.rlon - lon| < 1 / 1000 ∧ |e.rlat - lat| < 1 / 1000 :=
  Tracker.carried_within_0_001_surface nl i hi lat lon e he

/-- the `ni ≥ 2` hypothesis cannot be dropped: at latitude 88° the longitude 0.00137° is carried as 0 -/
theorem carried_within_0_001_sharp :
    max (cprNL (Spec.cprEncode cprNL 360 0 88 (137 / 100000)).rlat - 0) 1 = 1 ∧
    (Spec.cprEncode cprNL 360 0 88 (137 / 100000)).rlon = 0 ∧
    ¬ |(Spec.cprEncode cprNL 360 0 88 (137 / 100000)).rlon - 137 / 100000| < 1 / 1000 :=
  ⟨Tracker.carried_within_0_001_sharp.1, Tracker.carried_within_0_001_sharp.2.2.1,
    Tracker.carried_within_0_001_sharp.2.2.2⟩

/-- **stored_within_0_001_partial** — (a) and (c) chained, airborne reference branch, reference in
    the box of the carried position itself (`s = 0`) and `ni ≥ 2`: the latitude/longitude the table
    stores after the update is within 0.001° of the aircraft's true position `(lat, lon)`.
    (Partial: the box hypotheses `hlat`, `hlon` stand for the missing geometric step, see the
    section header.) -/
theorem stored_within_0_001_partial (tr : Tracker) (hwf : TrackerWF tr) (t : Rat) (m : Msg)
    (hlen : m.length = 28) (hdf : df m = 17 ∨ df m = 18) (tc : Nat)
    (htc : typecode m = some tc) (hair : 9 ≤ tc ∧ tc ≤ 18)
    (i : ℕ) (hi : i = 0 ∨ i = 1) (lat lon : ℚ) (e : Spec.Enc) (he : e = Spec.cprEncode cprNL 360 i lat lon)
    (hf : cprFields (hex2binM m) = .val ⟨decide (i = 1), e.yz, e.xz⟩)
    (hni : 2 ≤ max (cprNL e.rlat - i) 1)
    (ac0 : Ac) (hget : acsGet tr.acs (keyOf m) = some ac0)
    (tp la lo : ℚ) (htp : ac0.tpos = some tp) (hrecent : t - tp < 180)
    (hla : ac0.lat = some la) (hlo : ac0.lon = some lo)
    (hlat : |la - e.rlat| < e.dlat / 2) (hlon : |lo - e.rlon| < e.dlon / 2) :
    ∃ tr' ac' x y, adsbStep tr t m = .val tr' ∧ acsGet tr'.acs (keyOf m) = some ac' ∧
      ac'.lat = some x ∧ ac'.lon = some y ∧ ac'.tpos = some t ∧
      |x - lat| < 1 / 1000 ∧ |y - lon| < 1 / 1000 := by
  obtain ⟨tr', ac', hv, _, hg, h1, h2, h3, _⟩ := position_invariant_partial tr hwf t m hlen hdf tc htc hair
    i hi lat lon e he hf ac0 hget tp la lo htp hrecent hla hlo 0 hlat (by simpa using hlon)
  obtain ⟨q1, q2⟩ := carried_within_0_001 cprNL i hi lat lon e he hni
  exact ⟨tr', ac', e.rlat, e.rlon, hv, hg, h1, by simpa using h2, h3, q2, q1⟩

/-- observations used in the examples: `(key, lat, lon, tpos)` of every record; the CPR fields of a frame -/
def posList (r : Res Tracker) : Option (List (Msg × Option Rat × Option Rat × Option Rat)) :=
  match r with
  | .val tr => some (tr.acs.map fun p => (p.1, p.2.lat, p.2.lon, p.2.tpos))
  | _ => none
def cprTriple (r : Res CprFrame) : Option (Bool × Nat × Nat) :=
  match r with
  | .val f => some (f.oe, f.lat, f.lon)
  | _ => none

/-- the pyModeS test pair (even / odd airborne position of 40621D, TC 11) -/
def exEven : Msg := "8D40621D58C382D690C8AC2863A7".toList
def exOdd : Msg := "8D40621D58C386435CC412692AD6".toList

/-- hypotheses of `position_pair_global_partial` and of `position_invariant_partial` /
    `stored_within_0_001_partial` are met by the history even@0, odd@1, even@3: the frames carry
    the encodings `e0`, `e1`; the pair (odd newer) stores `e1`'s carried position at t = 1; the third
    message finds it 2 s old and inside the half-zone box of `e0`'s carried position -/
example :
    let e0 := Spec.cprEncode cprNL 360 0 (522572 / 10000) (391937 / 100000)
    let e1 := Spec.cprEncode cprNL 360 1 (25261515 / 483328) (225873 / 57344)
    exEven.length = 28 ∧ df exEven = 17 ∧ typecode exEven = some 11 ∧ typecode exOdd = some 11 ∧
    cprTriple (cprFields (hex2binM exEven)) = some (decide (0 = 1), e0.yz, e0.xz) ∧
    cprTriple (cprFields (hex2binM exOdd)) = some (true, e1.yz, e1.xz) ∧
    (e1.rlat, e1.rlon) = (25261515 / 483328, 225873 / 57344) ∧
    (-90 ≤ e0.rlat ∧ e0.rlat ≤ 90) ∧ (-90 ≤ e1.rlat ∧ e1.rlat ≤ 90) ∧ |e0.rlat - e1.rlat| < 3 / 59 ∧
    cprNL e0.rlat = cprNL e1.rlat ∧
    |e0.rlon - e1.rlon - 360 * (0 : ℤ)| < 180 / ((cprNL e0.rlat : ℚ) * ((cprNL e0.rlat : ℚ) - 1)) ∧
    rabs ((0 : ℚ) - 1) < 10 ∧
    2 ≤ max (cprNL e0.rlat - 0) 1 ∧ (3 : ℚ) - 1 < 180 ∧
    |(25261515 / 483328 : ℚ) - e0.rlat| < e0.dlat / 2 ∧ |(225873 / 57344 : ℚ) - e0.rlon| < e0.dlon / 2 := by
  decide +kernel
/-- … and the model stores exactly the carried positions: `e1`'s after the pair, `e0`'s after the
    reference update (within 0.001° of the true 52.2572, 3.91937) -/
example :
    posList (foldRes (fun tr p => adsbStep tr p.1 p.2) {} [((0 : Rat), exEven), (1, exOdd)])
      = some [("40621D".toList, some (Spec.cprEncode cprNL 360 1 (25261515 / 483328) (225873 / 57344)).rlat,
          some (Spec.cprEncode cprNL 360 1 (25261515 / 483328) (225873 / 57344)).rlon, some 1)] := by
  decide +kernel
example :
    posList (foldRes (fun tr p => adsbStep tr p.1 p.2) {} [((0 : Rat), exEven), (1, exOdd), (3, exEven)])
      = some [("40621D".toList, some (Spec.cprEncode cprNL 360 0 (522572 / 10000) (391937 / 100000)).rlat,
          some (Spec.cprEncode cprNL 360 0 (522572 / 10000) (391937 / 100000)).rlon, some 3)] := by
  decide +kernel
example :
    let e0 := Spec.cprEncode cprNL 360 0 (522572 / 10000) (391937 / 100000)
    |e0.rlat - 522572 / 10000| < 1 / 1000 ∧ |e0.rlon - 391937 / 100000| < 1 / 1000 := by decide +kernel

/-! ### Concrete histories (the hypotheses above are satisfiable, and the conclusions are what
    the model computes): two ADS-B senders 406B90 and 400940, one Comm-B reply from 400940 -/

/-- observation used in the examples: the listed keys with their `live` stamps -/
def liveList (r : Res Tracker) : Option (List (Msg × Int)) :=
  match r with
  | .val tr => some (tr.acs.map fun p => (p.1, p.2.live))
  | _ => none

example : keyOf exAdsb = "406B90".toList ∧ keyOf exAdsb2 = "400940".toList ∧ keyOf exCommb = "400940".toList ∧
    (∀ c ∈ exAdsb ++ exAdsb2 ++ exCommb, (hexVal? c).isSome) ∧
    df exAdsb = 17 ∧ df exAdsb2 = 17 ∧ df exCommb = 20 := by decide +kernel

/-- hypotheses of `listed_if_recent` / `live_monotone` / `listed_if_recent_commb`: sorted batch, heard ≤ 59 s ago -/
example : [((1000 : Rat), exAdsb), (1002, exAdsb2)].Pairwise (fun p q => p.1 ≤ q.1) ∧
    ((1000 : Rat), exAdsb) ∈ [((1000 : Rat), exAdsb), (1002, exAdsb2)] ∧ (1050 : Rat) - 1000 ≤ 59 ∧
    (1062 : Rat) - 2007 / 2 ≤ 59 := by decide +kernel
/-- … and the call returns: both listed at 1050; at 1062 only 400940 (last heard by Comm-B at 1003.5) -/
example :
    liveList (processRaw (fun _ _ => 0) {} [(1000, exAdsb), (1002, exAdsb2)] [(2007 / 2, exCommb)] 1050)
      = some [("406B90".toList, 1000), ("400940".toList, 1003)] ∧
    liveList (processRaw (fun _ _ => 0) {} [(1000, exAdsb), (1002, exAdsb2)] [(2007 / 2, exCommb)] 1062)
      = some [("400940".toList, 1003)] := by decide +kernel
/-- Comm-B gating: the reply alone creates no entry; an OLDER reply does not move `live` backwards -/
example :
    liveList (processRaw (fun _ _ => 0) {} [] [(1003, exCommb)] 1004) = some [] ∧
    liveList (processRaw (fun _ _ => 0) {} [(1000, exAdsb)] [(1003, exCommb)] 1004)
      = some [("406B90".toList, 1000)] ∧
    liveList (processRaw (fun _ _ => 0) {} [(1002, exAdsb2)] [(990, exCommb)] 1004)
      = some [("400940".toList, 1002)] := by decide +kernel
/-- `absent_after_61` over two calls: 406B90 heard at 1000 only, second call at 1062 (> 61 s later) -/
example :
    liveList (do
      let tr1 ← processRaw (fun _ _ => 0) {} [(1000, exAdsb)] [] 1001
      processRaw (fun _ _ => 0) tr1 [(1002, exAdsb2)] [] 1062) = some [("400940".toList, 1002)] ∧
    (1062 : Rat) - 1000 > 61 := by decide +kernel
/-- letter case: the lower-cased history gives the same table -/
example :
    liveList (processRaw (fun _ _ => 0) {} [(1000, exAdsb.map Char.toLower), (1002, exAdsb2.map Char.toLower)]
      [(2007 / 2, exCommb.map Char.toLower)] 1050)
      = some [("406B90".toList, 1000), ("400940".toList, 1003)] := by decide +kernel

end PyModeS.C17
