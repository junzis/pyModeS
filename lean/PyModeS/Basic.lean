/-
  Basic vocabulary of the pyModeS model: bit strings, Python-like results,
  Python slicing, `int(s, 2)`, hex conversion.  No Mathlib; everything here is
  executable and also compiled into the native driver.
-/
namespace PyModeS

/-- A bit string, most significant bit first (Python `'0'/'1'` strings). -/
abbrev Bits := List Bool

/-- Outcome of calling a Python function: a value, `RuntimeError`, or any
    other exception type (`ValueError`, `IndexError`, `KeyError`, `TypeError`…). -/
inductive Res (α : Type) where
  | val : α → Res α
  | rte : Res α
  | exc : Res α
deriving Repr, DecidableEq

namespace Res
@[inline] def bind {α β} : Res α → (α → Res β) → Res β
  | val a, f => f a
  | rte, _ => rte
  | exc, _ => exc
instance : Monad Res where
  pure := val
  bind := Res.bind
@[simp] theorem bind_val {α β} (a : α) (f : α → Res β) : (val a >>= f) = f a := rfl
@[simp] theorem bind_rte {α β} (f : α → Res β) : ((rte : Res α) >>= f) = rte := rfl
@[simp] theorem bind_exc {α β} (f : α → Res β) : ((exc : Res α) >>= f) = exc := rfl
@[simp] theorem pure_eq {α} (a : α) : (pure a : Res α) = val a := rfl
@[simp] theorem map_val {α β} (f : α → β) (a : α) : (f <$> (val a : Res α)) = val (f a) := rfl
/-- `[f(x) for x in l]` with the first exception propagating -/
def mapM {α β} (f : α → Res β) : List α → Res (List β)
  | [] => val []
  | a :: as =>
    match f a with
    | val b => (match mapM f as with
      | val bs => val (b :: bs)
      | rte => rte
      | exc => exc)
    | rte => rte
    | exc => exc
instance : LawfulMonad Res := LawfulMonad.mk'
  (id_map := fun x => by cases x <;> rfl)
  (pure_bind := fun _ _ => rfl)
  (bind_assoc := fun x _ _ => by cases x <;> rfl)
def isVal {α} : Res α → Bool
  | val _ => true
  | _ => false
def isExc {α} : Res α → Bool
  | exc => true
  | _ => false
end Res

/-- Python slice `l[a:b]` for `0 ≤ a`, `0 ≤ b` (clamping semantics). -/
def slice {α} (a b : Nat) (l : List α) : List α := (l.drop a).take (b - a)

/-- Python `int(s, 2)` on a non-empty bit string. -/
def bin2int (l : Bits) : Nat := l.foldl (fun n b => 2 * n + b.toNat) 0

/-- Python `int(s, 2)`: `ValueError` on the empty string. -/
def bin2intR (l : Bits) : Res Nat := if l.isEmpty then .exc else .val (bin2int l)

/-- Python `s[i]` (non-negative index): `IndexError` out of range. -/
def idxR {α} (l : List α) (i : Nat) : Res α :=
  match l[i]? with
  | some b => .val b
  | none => .exc

/-- `w`-bit big-endian representation of `v` (low `w` bits). -/
def natToBitsA : Nat → Nat → Bits → Bits
  | 0, _, acc => acc
  | w + 1, v, acc => natToBitsA w (v / 2) ((v % 2 == 1) :: acc)

/-- (accumulator form: faster under kernel evaluation than `++ [b]`) -/
def natToBits (w v : Nat) : Bits := natToBitsA w v []

/-- Concatenate fixed-width fields `(width, value)`. -/
def build : List (Nat × Nat) → Bits
  | [] => []
  | (w, v) :: fs => natToBits w v ++ build fs

/-- Bit offset of field `i` in a layout. -/
def offset : List (Nat × Nat) → Nat → Nat
  | [], _ => 0
  | _ :: _, 0 => 0
  | (w, _) :: fs, i + 1 => w + offset fs i

def xorBits : Bits → Bits → Bits
  | a :: as, b :: bs => (a != b) :: xorBits as bs
  | as, [] => as
  | [], bs => bs

/-! ### hexadecimal -/

/-- value of a hex digit, either case (`int(c, 16)`), `none` for a non-hex char -/
def hexVal? (c : Char) : Option Nat :=
  if '0' ≤ c ∧ c ≤ '9' then some (c.toNat - 48)
  else if 'a' ≤ c ∧ c ≤ 'f' then some (c.toNat - 87)
  else if 'A' ≤ c ∧ c ≤ 'F' then some (c.toNat - 55)
  else none

def hexVal (c : Char) : Nat := (hexVal? c).getD 0

/-- `hex2bin`: 4 bits per hex digit (a non-hex character reads as 0, where Python raises) -/
def hex2bin (s : String) : Bits := s.toList.flatMap (fun c => natToBits 4 (hexVal c))

def hexDigitU (n : Nat) : Char :=
  if n < 10 then Char.ofNat (48 + n) else Char.ofNat (55 + n)

/-- upper-case hex of `n` with at least `w` digits (`"%0wX" % n`) -/
def toHexU (w n : Nat) : String :=
  let ds := (Nat.toDigits 16 n).map Char.toUpper
  String.ofList (List.replicate (w - ds.length) '0' ++ ds)

def bitsToHexU (b : Bits) : String := toHexU (b.length / 4) (bin2int b)

def hexToNat (s : String) : Nat := s.toList.foldl (fun n c => 16 * n + hexVal c) 0

def Bool.toDigit (b : Bool) : Char := if b then '1' else '0'
def bitsToString (b : Bits) : String := String.ofList (b.map Bool.toDigit)
def bitsOfString (s : String) : Bits := s.toList.map (· == '1')

end PyModeS
